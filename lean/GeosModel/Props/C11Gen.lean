import GeosModel.Model.Readers.Cxx
import GeosModel.Generated.WkbGuards
import GeosModel.Props.C09Gen
import GeosModel.Proofs.WKB.Bits
/-!
# C11 — the regenerated guards of `ByteOrderDataInStream` / `WKBReader` are the ones the reader model is built from

`Generated/WkbGuards.lean` is rewritten from `include/geos/io/ByteOrderDataInStream.h` and `src/io/WKBReader.cpp` by
`translate/cxx2lean.py` (spec `wkb_guards`, parser extensions `translate/specs/t9_ext.py`) on every run, statement by statement.
The theorems prove, for **all** arguments:

* every primitive read (`readByte` … `readDouble`) fails with `ParseException` exactly when fewer than 1 / 4 / 8 bytes are left and
  otherwise hands out the value at the cursor and advances by exactly that many bytes — the model's `readByte` / `readU32` / `readU64`
  pattern matches on the remaining byte list (`gen_readUnsigned_model` composes with the regenerated `getUnsigned` of spec `wkb_words`);
* the header part of `readGeometry` is `readHeaderRaw`, and the model's `readHeader` is that followed by the look-up of the type code;
* the count guards and child loops of the `read*` functions are `readSizedD` / `readCollD` / `readPolygonD`, and `readCollD` run on the
  model's child reader is the model's `readColl` (`readCollD_model`);
* `readCoordinateSequence` allocates only after its `minMemSize` guard.

`WKBReader::minMemSize` and the dispatch `switch` are regenerated by spec `wkb_words` and bridged in `Props/C09Gen.lean`
(`gen_minMemSize_eq`, `gen_readGeometry_dispatch_eq`); `checks/C11.py` regenerates both specs.
-/
set_option linter.unusedSimpArgs false
namespace GeosModel.C11Gen
open GeosModel GeosModel.WKB GeosModel.Generated

theorem gen_readByte_eq (bs : List UInt8) : WkbGuards.readByte bs = liftE (WKB.readByte bs) := by
  cases bs <;> rfl

/-- the body `readInt`, `readUnsigned`, `readLong` and `readDouble` share: the guard `size() < k`, the value at the cursor, the
cursor advanced by `k` -/
theorem readFixed_eq {α : Type} (k : Nat) (get : List UInt8 → Int → α) (bo : Int) (bs : List UInt8) :
    (do
      let mut buf : List UInt8 := bs
      if (decide ((List.length buf) < k)) then
        throw "ParseException"
      let mut ret : α := (get buf bo)
      buf := buf.drop k
      return (ret, buf) : Except String (α × List UInt8))
      = if bs.length < k then .error "ParseException" else .ok (get bs bo, bs.drop k) := by
  by_cases h : bs.length < k <;> simp only [h, decide_true, decide_false, if_true, if_false] <;> rfl

theorem gen_readInt_eq (gi : List UInt8 → Int → Int) (bo : Int) (bs : List UInt8) :
    WkbGuards.readInt gi bo bs = if bs.length < 4 then .error "ParseException" else .ok (gi bs bo, bs.drop 4) :=
  readFixed_eq 4 gi bo bs

theorem gen_readUnsigned_eq (gu : List UInt8 → Int → Nat) (bo : Int) (bs : List UInt8) :
    WkbGuards.readUnsigned gu bo bs = if bs.length < 4 then .error "ParseException" else .ok (gu bs bo, bs.drop 4) :=
  readFixed_eq 4 gu bo bs

theorem gen_readLong_eq {I64 : Type} (gl : List UInt8 → Int → I64) (bo : Int) (bs : List UInt8) :
    WkbGuards.readLong gl bo bs = if bs.length < 8 then .error "ParseException" else .ok (gl bs bo, bs.drop 8) :=
  readFixed_eq 8 gl bo bs

theorem gen_readDouble_eq {D : Type} (gd : List UInt8 → Int → D) (bo : Int) (bs : List UInt8) :
    WkbGuards.readDouble gd bo bs = if bs.length < 8 then .error "ParseException" else .ok (gd bs bo, bs.drop 8) :=
  readFixed_eq 8 gd bo bs

/-- the regenerated `ByteOrderValues::getUnsigned` (spec `wkb_words`, `C09Gen.gen_getUnsigned_eq`) on a cursor with at least four bytes -/
theorem genGetUnsigned_eq (bo : Int) (a b c d : UInt8) (r : List UInt8) :
    WkbWords.getUnsigned ((a :: b :: c :: d :: r).map (·.toNat)) bo = getU32 (orderOf bo) a b c d := by
  -- only the first four entries of the buffer are looked at
  have h4 : ∀ bo, WkbWords.getUnsigned ((a :: b :: c :: d :: r).map (·.toNat)) bo
      = WkbWords.getUnsigned [a.toNat, b.toNat, c.toNat, d.toNat] bo := fun _ => rfl
  rw [h4, orderOf]
  by_cases h : bo = 0
  · rw [if_pos h, h]; exact C09Gen.gen_getUnsigned_eq .be a b c d
  · rw [if_neg h, C09Gen.gen_getUnsigned_other bo h]; exact C09Gen.gen_getUnsigned_eq .le a b c d

theorem gen_readUnsigned_model (bo : Int) (bs : List UInt8) :
    WkbGuards.readUnsigned (fun buf bo => WkbWords.getUnsigned (buf.map (·.toNat)) bo) bo bs = liftE (readU32 (orderOf bo) bs) := by
  rw [gen_readUnsigned_eq]
  rcases bs with _ | ⟨a, _ | ⟨b, _ | ⟨c, _ | ⟨d, r⟩⟩⟩⟩
  iterate 4 rfl
  exact congrArg (fun v => Except.ok (v, r)) (genGetUnsigned_eq bo a b c d r)

theorem gen_header_eq (d : Dis) (z0 m0 : Bool) (n0 : Nat) :
    WkbGuards.readGeometry_header d z0 m0 n0
      = (readHeaderRaw d).map (fun r => (r.1, r.2.2.2, r.2.1, r.2.2.1, inputDim r.2.1 r.2.2.1)) := by
  unfold WkbGuards.readGeometry_header readHeaderRaw
  -- `jp`: the join point the translator makes of everything after the order byte; all three branches enter it
  extract_lets dis _ _ _ _ _ _ _ jp
  cases h1 : dis.readByte with
  | error e => rfl
  | ok v1 =>
    obtain ⟨b, d1⟩ := v1
    simp only [bind, Except.bind, beq_iff_eq, ← apply_ite (jp ())]
    generalize (if b = 1 then d1.setOrder 1 else if b = 0 then d1.setOrder 0 else d1) = dd
    cases h2 : dd.readUnsigned with
    | error e => simp only [jp, h2]; rfl
    | ok v2 =>
      obtain ⟨t, d2⟩ := v2
      simp only [jp, h2, bind, Except.bind, decodeType, and_low16, and_bit31, and_bit30, and_bit29, flag_ne_zero]
      -- the flags are the model's; what is left is `inputDimension` and the optional SRID word
      generalize (t / 2147483648 % 2 == 1 || (t % 65536 / 1000 == 1 || t % 65536 / 1000 == 3)) = z
      generalize (t / 1073741824 % 2 == 1 || (t % 65536 / 1000 == 2 || t % 65536 / 1000 == 3)) = m
      generalize (t / 536870912 % 2 == 1) = s
      cases s
      · cases z <;> cases m <;> rfl
      · cases h3 : d2.readInt <;> cases z <;> cases m <;> rfl

theorem orderOf_code (o : Order) : orderOf o.code = o := by cases o <;> rfl

/-- the model's `readHeader` is `readHeaderRaw` on the stream object followed by the look-up of the type code
(`C09Gen.gen_readGeometry_dispatch_eq`: unknown code ⇒ `ParseException`) -/
theorem readHeader_raw (o : Order) (bs : List UInt8) :
    liftE (readHeader o bs) =
      (match readHeaderRaw ⟨o.code, bs⟩ with
       | .error e => .error e
       | .ok ((gt, srid), z, m, d) =>
         match kindOfCode gt with
         | some k => .ok (⟨k, z, m, srid, orderOf d.order⟩, d.buf)
         | none => .error "ParseException") := by
  unfold readHeader readHeaderRaw Dis.readByte
  cases bs with
  | nil => rfl
  | cons b r =>
    -- after the order byte both sides go on with the same bytes `r` and the same byte order
    obtain ⟨c, hd, ho⟩ : ∃ c, (if b.toNat = 1 then Dis.setOrder ⟨o.code, r⟩ 1 else if b.toNat = 0 then Dis.setOrder ⟨o.code, r⟩ 0
          else ⟨o.code, r⟩) = ⟨c, r⟩ ∧ (if b = 1 then Order.le else if b = 0 then .be else o) = orderOf c := by
      simp only [← UInt8.toNat_inj, UInt8.toNat_one, UInt8.toNat_zero]
      split
      · exact ⟨1, rfl, rfl⟩
      · split
        · exact ⟨0, rfl, rfl⟩
        · exact ⟨o.code, rfl, (orderOf_code o).symm⟩
    simp only [WKB.readByte, hd, ho, Dis.readUnsigned, Dis.readInt]
    cases readU32 (orderOf c) r with
    | error e => rfl
    | ok v2 =>
      obtain ⟨t, bs2⟩ := v2
      simp only
      rcases decodeType t with ⟨gt, z, m, _ | _⟩ <;> simp only
      · cases kindOfCode gt <;> rfl
      · cases readU32 (orderOf c) bs2 with
        | error e => rfl
        | ok v3 => obtain ⟨v, bs3⟩ := v3; simp only; cases kindOfCode gt <;> rfl

theorem forIn_list_except {σ ι : Type} (step : σ → Except String σ) (f : ι → σ → Except String (ForInStep σ))
    (hf : ∀ i s, f i s = (step s).map ForInStep.yield) (l : List ι) (s : σ) :
    forIn l s f = iterE step l.length s := by
  induction l generalizing s with
  | nil => rfl
  | cons x xs ih =>
    simp only [List.forIn_cons, hf, List.length_cons, iterE]
    cases h : step s with
    | error e => rfl
    | ok s' => exact ih s'

theorem forIn_range_except {σ : Type} (step : σ → Except String σ) (f : Nat → σ → Except String (ForInStep σ))
    (hf : ∀ i s, f i s = (step s).map ForInStep.yield) (n : Nat) (s : σ) :
    forIn [0:n] s f = iterE step n s := by
  rw [Std.Legacy.Range.forIn_eq_forIn_range', forIn_list_except step f hf]
  simp [Std.Legacy.Range.size]

/-- accumulating children at the end of a vector, as the C++ loop does, is `readManyD` -/
theorem iterE_push {α : Type} (rg : Dis → Except String (α × Dis)) (n : Nat) (d : Dis) (acc : List α) :
    iterE (fun (s : Dis × List α) => match rg s.1 with
        | .error e => .error e
        | .ok v => .ok (v.2, s.2 ++ [v.1])) n (d, acc)
      = match readManyD rg n d with
        | .error e => .error e
        | .ok (gs, d') => .ok (d', acc ++ gs) := by
  induction n generalizing d acc with
  | zero => simp [iterE, readManyD]
  | succ n ih =>
    simp only [iterE, readManyD]
    cases h : rg d with
    | error e => rfl
    | ok v =>
      simp only [ih]
      cases h2 : readManyD rg n v.2 with
      | error e => rfl
      | ok w => simp

local macro "coll_tac" d:term "," rg:term "," mk:term "," f:term : tactic => `(tactic|
  (simp only [bind, Except.bind, readCollD]
   cases h1 : WKB.Dis.readUnsigned $d with
   | error e => rfl
   | ok v1 =>
     simp only
     cases h2 : WKB.Dis.minMemSize v1.2 _ v1.1 with
     | error e => rfl
     | ok u =>
       simp only
       rw [forIn_range_except (step := fun (s : Dis × List _) => match ($rg s.1) with
             | .error e => .error e
             | .ok v => .ok (v.2, s.2 ++ [v.1]))
           (hf := by intro i s; cases h : $rg s.1 <;> simp [h, Except.map, pure, Except.pure])]
       rw [iterE_push]
       cases h3 : readManyD $rg v1.1 v1.2 with
       | error e => rfl
       | ok w =>
         simp only [List.nil_append]
         cases h4 : $mk $f w.1 <;> simp [h4, pure, Except.pure]))

/-- the body the seven collection readers share (they differ in the type id handed to `minMemSize`) -/
theorem collBody_eq {F GE : Type} (ty : TypeId) (rg : Dis → Except String (GE × Dis)) (mk : F → List GE → Except String GE)
    (f : F) (d : Dis) :
    (do
      let mut dis : WKB.Dis := d
      let r1 ← WKB.Dis.readUnsigned dis
      dis := r1.2
      let mut numGeoms : Nat := r1.1
      let _ ← WKB.Dis.minMemSize dis ty numGeoms
      let mut geoms : List GE := []
      for _ in [0:numGeoms] do
        let r3 ← rg dis
        dis := r3.2
        geoms := geoms ++ [r3.1]
      let r4 ← mk f geoms
      return (r4, dis) : Except String (GE × Dis)) = readCollD ty rg mk f d := by
  coll_tac d, rg, mk, f

theorem gen_readGeometryCollection_eq {F GE : Type} (rg : Dis → Except String (GE × Dis)) (mk : F → List GE → Except String GE) (f : F) (d : Dis) :
    WkbGuards.readGeometryCollection rg mk f d = readCollD .collection rg mk f d :=
  collBody_eq _ rg mk f d

theorem gen_readMultiPoint_eq {F GE : Type} (rg : Dis → Except String (GE × Dis)) (mk : F → List GE → Except String GE) (f : F) (d : Dis) :
    WkbGuards.readMultiPoint rg mk f d = readCollD .multiPoint rg mk f d :=
  collBody_eq _ rg mk f d

theorem gen_readMultiLineString_eq {F GE : Type} (rg : Dis → Except String (GE × Dis)) (mk : F → List GE → Except String GE) (f : F) (d : Dis) :
    WkbGuards.readMultiLineString rg mk f d = readCollD .multiLineString rg mk f d :=
  collBody_eq _ rg mk f d

theorem gen_readMultiPolygon_eq {F GE : Type} (rg : Dis → Except String (GE × Dis)) (mk : F → List GE → Except String GE) (f : F) (d : Dis) :
    WkbGuards.readMultiPolygon rg mk f d = readCollD .multiPolygon rg mk f d :=
  collBody_eq _ rg mk f d

theorem gen_readMultiCurve_eq {F GE : Type} (rg : Dis → Except String (GE × Dis)) (mk : F → List GE → Except String GE) (f : F) (d : Dis) :
    WkbGuards.readMultiCurve rg mk f d = readCollD .multiCurve rg mk f d :=
  collBody_eq _ rg mk f d

theorem gen_readMultiSurface_eq {F GE : Type} (rg : Dis → Except String (GE × Dis)) (mk : F → List GE → Except String GE) (f : F) (d : Dis) :
    WkbGuards.readMultiSurface rg mk f d = readCollD .multiSurface rg mk f d :=
  collBody_eq _ rg mk f d

theorem gen_readCompoundCurve_eq {F GE : Type} (rg : Dis → Except String (GE × Dis)) (mk : F → List GE → Except String GE) (f : F) (d : Dis) :
    WkbGuards.readCompoundCurve rg mk f d = readCollD .compoundCurve rg mk f d :=
  collBody_eq _ rg mk f d

/-- the body `readLineString` and `readCircularString` share -/
theorem sizedBody_eq {F SQ GE : Type} (ty : TypeId) (rcs : Dis → Nat → Except String (SQ × Dis)) (mk : F → SQ → Except String GE)
    (f : F) (d : Dis) :
    (do
      let mut dis : WKB.Dis := d
      let r1 ← WKB.Dis.readUnsigned dis
      dis := r1.2
      let mut size : Nat := r1.1
      let _ ← WKB.Dis.minMemSize dis ty size
      let r3 ← rcs dis size
      dis := r3.2
      let mut pts : SQ := r3.1
      let r4 ← mk f pts
      return (r4, dis) : Except String (GE × Dis)) = readSizedD ty rcs mk f d := by
  simp only [readSizedD, bind, Except.bind]
  cases d.readUnsigned with
  | error e => rfl
  | ok v1 =>
    simp only
    cases v1.2.minMemSize ty v1.1 with
    | error e => rfl
    | ok u =>
      simp only
      cases rcs v1.2 v1.1 with
      | error e => rfl
      | ok w => simp only; cases mk f w.1 <;> rfl

theorem gen_readLineString_eq {F SQ GE : Type} (rcs : Dis → Nat → Except String (SQ × Dis)) (mk : F → SQ → Except String GE) (f : F) (d : Dis) :
    WkbGuards.readLineString rcs mk f d = readSizedD .lineString rcs mk f d :=
  sizedBody_eq _ rcs mk f d

theorem gen_readCircularString_eq {F SQ GE : Type} (rcs : Dis → Nat → Except String (SQ × Dis)) (mk : F → SQ → Except String GE) (f : F) (d : Dis) :
    WkbGuards.readCircularString rcs mk f d = readSizedD .circularString rcs mk f d :=
  sizedBody_eq _ rcs mk f d

/-- `readCoordinateSequence` allocates its sequence only after `minMemSize(GEOS_LINESTRING, size)` has compared `size × 16` with the
bytes left (the guard of the model's `readCoordSeq` and of the allocation accounting `allocSized`): for EVERY allocator, also one that
throws `bad_alloc` on large requests — an over-claimed count is a `ParseException`, the allocator is not even asked -/
theorem gen_readCoordinateSequence_alloc_eq {SQ : Type} (newSeq : Nat → Bool → Bool → Bool → Except String SQ) (z m : Bool) (d : Dis) (n : Nat) :
    WkbGuards.readCoordinateSequence_alloc newSeq z m d n
      = if d.buf.length < n * 16 then .error "ParseException" else newSeq n z m false := by
  simp only [WkbGuards.readCoordinateSequence_alloc, Dis.minMemSize, Dis.size, minUnit]
  by_cases h : d.buf.length < n * 16 <;> simp only [h, if_true, if_false]
  · rfl
  · cases newSeq n z m false <;> rfl

local macro "poly_tail" n:term "," rlr:term "," mk2:term "," mk1:term "," f:term "," shell:term "," d2:term : tactic => `(tactic|
  (by_cases hn : $n > 1
   · simp only [hn, decide_true, if_true]
     rw [forIn_range_except (step := fun (s : Dis × List _) => match ($rlr s.1) with
           | .error e => .error e
           | .ok v => .ok (v.2, s.2 ++ [v.1]))
         (hf := by intro i s; cases h : $rlr s.1 <;> simp [h, Except.map, pure, Except.pure])]
     rw [iterE_push]
     cases h3 : readManyD $rlr ($n - 1) $d2 with
     | error e => rfl
     | ok w =>
       simp only [List.nil_append]
       cases h4 : $mk2 $f (some $shell) w.1 <;> simp [h4, pure, Except.pure]
   · simp only [hn, decide_false, if_false, Bool.false_eq_true]
     cases h4 : $mk1 $f (some $shell) <;> simp [h4, pure, Except.pure]))

theorem gen_readPolygon_eq {F SQ GE : Type} (newSeq3 : Nat → Bool → Bool → Except String SQ) (mkRing : F → SQ → Except String GE)
    (rlr : Dis → Except String (GE × Dis)) (mk2 : F → Option GE → List GE → Except String GE) (mk1 : F → Option GE → Except String GE)
    (f : F) (z m : Bool) (d : Dis) :
    WkbGuards.readPolygon newSeq3 mkRing rlr mk2 mk1 f z m d = readPolygonD newSeq3 mkRing rlr mk2 mk1 f z m d := by
  unfold WkbGuards.readPolygon readPolygonD
  simp only [bind, Except.bind]
  cases h1 : d.readUnsigned with
  | error e => rfl
  | ok v1 =>
    rcases v1 with ⟨n, d1⟩
    simp only
    cases h2 : d1.minMemSize .polygon n with
    | error e => rfl
    | ok u =>
      simp only
      by_cases h0 : n = 0
      · subst h0
        simp only [beq_self_eq_true, if_true]
        cases h5 : newSeq3 0 z m with
        | error e => rfl
        | ok sq =>
          simp only
          cases h3 : mkRing f sq with
          | error e => rfl
          | ok g => poly_tail 0, rlr, mk2, mk1, f, g, d1
      · have : (n == 0) = false := by simpa using h0
        simp only [this, h0, if_false, Bool.false_eq_true]
        cases h3 : rlr d1 with
        | error e => rfl
        | ok w => poly_tail n, rlr, mk2, mk1, f, w.1, w.2

/-- the child loop on the stream object is the model's `readN` -/
theorem readManyD_readN (f : Order → List UInt8 → Except Err (G × Order × List UInt8)) (n : Nat) (o : Order) (bs : List UInt8) :
    readManyD (onDis f) n ⟨o.code, bs⟩ =
      (match readN f n o bs with
       | .error e => .error e.name
       | .ok (gs, o', bs') => .ok (gs, ⟨o'.code, bs'⟩)) := by
  induction n generalizing o bs with
  | zero => simp [readManyD, readN]
  | succ n ih =>
    simp only [readManyD, readN, onDis, orderOf_code]
    cases h : f o bs with
    | error e => rfl
    | ok v =>
      rcases v with ⟨g, o1, bs1⟩
      simp only [ih]
      cases h2 : readN f n o1 bs1 with
      | error e => rfl
      | ok w => rfl

/-- **the collection readers are the model's `readColl`**: the regenerated count guard + child loop (`readCollD`, `gen_read*_eq`),
run on the model's child reader and constructor, is `readColl` with the unit `minUnit ty` — in particular every iteration reads one
child from what the previous one left, the loop ends at the first failure, and nothing depends on the claimed count except the
guard and the number of iterations -/
theorem readCollD_model (ty : TypeId) (rd : Order → List UInt8 → GRes) (p : G → Bool) (mk : List G → G) (h : Hdr) (bs : List UInt8) :
    readCollD ty (onDis (fun o bs => asChild p (rd o bs))) (fun (_ : Unit) gs => .ok (mk gs)) () ⟨h.order.code, bs⟩ =
      (match readColl rd p (minUnit ty) mk h bs with
       | .error e => .error e.name
       | .ok ((g, _), o, bs') => .ok (g, ⟨o.code, bs'⟩)) := by
  unfold readCollD readColl Dis.readUnsigned Dis.minMemSize Dis.size
  simp only [orderOf_code]
  cases h1 : readU32 h.order bs with
  | error e => rfl
  | ok v =>
    rcases v with ⟨n, bs1⟩
    simp only
    by_cases hs : bs1.length < n * minUnit ty
    · simp [hs, Err.name]
    · simp only [hs, if_false, readManyD_readN]
      cases h2 : readN (fun o bs => asChild p (rd o bs)) n h.order bs1 with
      | error e => rfl
      | ok w => rfl

end GeosModel.C11Gen
