import GeosModel.Proofs.Num.FmtLemmas
import GeosModel.Proofs.Num.ExactLemmas
import GeosModel.Proofs.WKT.Roundtrip
import GeosModel.Model.WKT.Cxx
/-!
# C10 — written WKT is re-readable and equals the input to stated precision: the number formatter

Model: `GeosModel.Num.writeTrimmedNumber bits precision` (Model/Num/Fixed.lean) = `WKTWriter::writeTrimmedNumber`
= `GEOS_printDouble`, a port of `to_chars_fixed` / `geos_d2sfixed_buffered_n` / `geos_d2sexp_buffered_n` on top of
`shortest` (Model/Num/Shortest.lean), the specification of Ryu's digit generation.  A double is its 64-bit
pattern `bits < 2^64`; `precision` is any natural number (the API takes a `uint32_t`).
-/
namespace GeosModel.Num

/-! ## the buffer never overflows -/

/-- **fmt_len_le.**  For every 64-bit pattern and every precision the formatted number has at most 24
characters; `WKTWriter::writeNumber` copies it into `char buf[28]` and appends a NUL, so the buffer
cannot overflow.  (24 is attained: `-1.2345678901234568e-300`.) -/
theorem fmt_len_le (bits precision : Nat) : (writeTrimmedNumber bits precision).length ≤ 24 := by
  cases hn : notationOf bits with
  | special =>
    rw [writeTrimmed_special bits precision hn]
    unfold specialStr
    repeat' split
    all_goals decide
  | sci | fixed =>
    obtain ⟨F, E, h, _, _, hl⟩ := writeTrimmed_parts bits precision (by rw [hn]; nofun)
    rw [h, List.length_append]
    exact hl

/-- tightness: the bound 24 is reached (`-1.2345678901234568e-300`), and the longest positional form has 23 -/
example : writeTrimmedNumber 0x81aa74fe1c1e8908 20 = "-1.2345678901234568e-300".toList ∧
    (writeTrimmedNumber 0x81aa74fe1c1e8908 20).length = 24 := by decide +kernel

/-! ## locale independence of the writer: the alphabet -/

/-- **fmt_alphabet.**  Every character the formatter produces is one of `0-9 . e + -`, or the output is one
of the three fixed words.  In particular no locale-dependent decimal separator can appear, and the
places where the C code would index `DIGIT_TABLE` / its output buffer with a wrong length (modelled as `#`)
are never reached. -/
theorem fmt_alphabet (bits precision : Nat) :
    (∀ c ∈ writeTrimmedNumber bits precision, isSciChar c = true) ∨
    writeTrimmedNumber bits precision = "NaN".toList ∨
    writeTrimmedNumber bits precision = "Infinity".toList ∨
    writeTrimmedNumber bits precision = "-Infinity".toList := by
  cases hn : notationOf bits with
  | special =>
    rw [writeTrimmed_special bits precision hn]
    unfold specialStr
    repeat' split
    · right; left; rfl
    · right; right; right; rfl
    · right; right; left; rfl
    · left; decide
  | sci | fixed =>
    obtain ⟨F, E, h, fc, ec, _⟩ := writeTrimmed_parts bits precision (by rw [hn]; nofun)
    refine .inl fun c hc => ?_
    rw [h] at hc
    exact (List.mem_append.mp hc).elim (fun hc => isSciChar_of_fixed (fc c hc)) (ec c)

/-! ## NaN, infinities, zeros -/

/-- **fmt_special.**  NaN (any payload, either sign) is written `NaN`, ±∞ as `Infinity` / `-Infinity`, and both
zeros as `0`, at every precision; and these words re-read (through the model of `strtod`) as a NaN, the
same infinity, and +0. -/
theorem fmt_special (bits precision : Nat) (hb : bits < 2 ^ 64) :
    (absBits bits > INF → writeTrimmedNumber bits precision = "NaN".toList) ∧
    (bits = INF → writeTrimmedNumber bits precision = "Infinity".toList) ∧
    (bits = INF + 2 ^ 63 → writeTrimmedNumber bits precision = "-Infinity".toList) ∧
    (absBits bits = 0 → writeTrimmedNumber bits precision = "0".toList) := by
  have key : ∀ b, (absBits b ≥ INF ∨ absBits b = 0) → writeTrimmedNumber b precision =
      specialStr (signOf b) (decide (ieeeExponent b ≠ 0)) (decide (ieeeMantissa b ≠ 0)) := fun b h =>
    writeTrimmed_special b precision (by unfold notationOf; simp only; rw [if_pos h])
  refine ⟨?_, ?_, ?_, ?_⟩
  · intro h
    rw [key bits (Or.inl (by omega))]
    have h2 : ieeeMantissa bits ≠ 0 := by
      unfold ieeeMantissa; unfold absBits INF at h; omega
    simp [specialStr, h2]
  · intro h; subst h; rw [key _ (Or.inl (by decide))]; decide
  · intro h; subst h; rw [key _ (Or.inl (by decide))]; decide
  · intro h
    rw [key bits (Or.inr h)]
    have h1 : ieeeExponent bits = 0 := by unfold ieeeExponent; unfold absBits at h; omega
    have h2 : ieeeMantissa bits = 0 := by unfold ieeeMantissa; unfold absBits at h; omega
    simp [specialStr, h1, h2]

/-- the three words and `0` re-read as NaN, the infinities, and +0 -/
theorem fmt_special_reread :
    strtod "NaN".toList = some nanBitsNat ∧ strtod "Infinity".toList = some INF ∧
    strtod "-Infinity".toList = some (INF + 2 ^ 63) ∧ strtod "0".toList = some 0 := by
  refine ⟨by decide, by decide, by decide, by decide⟩

/-! ## the value that is written -/

/-- what `fmt_value` and `fmt_exact` say the text denotes: the shortest decimal `k·10^q` of the double, rounded
half-even — in positional notation to the (adjusted) number of decimals, in scientific notation to
`precision` decimals of the mantissa `d.ddd…` -/
def writtenDec (bits precision : Nat) : Nat × Int :=
  let k := (shortest (absBits bits)).1
  let q := (shortest (absBits bits)).2
  match notationOf bits with
  | .sci => ((rheDec k (1 - (dlen k : Int)) precision).1,
             (rheDec k (1 - (dlen k : Int)) precision).2 + (q + (dlen k : Int) - 1))
  | _ => rheDec k q (adjPrecision (absBits bits) precision)

/-- **fmt_value.**  For every finite non-zero double and every precision, the text re-reads (exactly, as a decimal)
as the shortest round-trip decimal of the double rounded half-even at the requested place; the minus sign is
dropped exactly when that rounds to zero.  Together with `fmt_value_half_unit` (half a unit of the last place)
and `shortest_in_interval` (half an ulp) this is the "stated precision" clause of the property. -/
theorem fmt_value (bits precision : Nat) (h1 : 1 ≤ absBits bits) (h2 : absBits bits < INF) :
    ∃ n e, parseNum (writeTrimmedNumber bits precision) = some (.dec (signOf bits && decide (n ≠ 0)) n e) ∧
      SameDec (n, e) (writtenDec bits precision) := by
  obtain ⟨_, k1, k17, _, _⟩ := shortest_spec (absBits bits) h1
  unfold writtenDec
  cases hn : notationOf bits with
  | special =>
    exfalso
    have := (special_iff bits).mp (notation_special bits hn)
    omega
  | sci =>
    rw [writeTrimmed_sci bits precision hn]
    obtain ⟨ep, es⟩ := expSuffix_parse _ (sciExp_range (absBits bits) h1 h2)
    obtain ⟨n, fc, sd, hp⟩ := toCharsFixed_parse (shortest (absBits bits)).1 (1 - (dlen (shortest (absBits bits)).1 : Int))
      (signOf bits) precision k1 k17 _ es
    rw [ep] at hp
    refine ⟨n, _, hp, ?_⟩
    have := sameDec_shift ((shortest (absBits bits)).2 + (dlen (shortest (absBits bits)).1 : Int) - 1) sd
    simp only at this
    rw [Int.add_comm (-(fc : Int))] at this
    exact this
  | fixed =>
    rw [writeTrimmed_fixed bits precision hn]
    obtain ⟨n, fc, sd, hp⟩ := toCharsFixed_parse (shortest (absBits bits)).1 (shortest (absBits bits)).2
      (signOf bits) (adjPrecision (absBits bits) precision) k1 k17 [] (by intro c r h; cases h)
    rw [List.append_nil] at hp
    refine ⟨n, _, hp, ?_⟩
    simpa [parseExp] using sd

/-- the rounding of `fmt_value` moves the value by at most half a unit of the last place kept -/
theorem fmt_value_half_unit (k : Nat) (q : Int) (p : Nat) (h : (p : Int) < -q) :
    (rheDec k q p).2 = -(p : Int) ∧
    2 * ((rheDec k q p).1 * 10 ^ (-q - (p : Int)).toNat) ≤ 2 * k + 10 ^ (-q - (p : Int)).toNat ∧
    2 * k ≤ 2 * ((rheDec k q p).1 * 10 ^ (-q - (p : Int)).toNat) + 10 ^ (-q - (p : Int)).toNat := by
  unfold rheDec
  rw [if_pos h]
  dsimp only
  generalize (-q - (p : Int)).toNat = d
  have hs := Nat.div_add_mod k (10 ^ d)
  have hr : k % 10 ^ d < 10 ^ d := Nat.mod_lt _ (pow10_pos d)
  rw [Nat.mul_comm] at hs
  refine ⟨rfl, ?_, ?_⟩
  · split
    · rw [Nat.add_mul, Nat.one_mul]; omega
    · omega
  · split
    · rw [Nat.add_mul, Nat.one_mul]; omega
    · omega

/-- the shortest decimal lies in the rounding interval of the double (within half an ulp, end points only for
even mantissas): it re-reads as the same double -/
theorem shortest_roundtrip (u : Nat) (h1 : 1 ≤ u) (h2 : u < INF) :
    roundNE (.dec false (shortest u).1 (shortest u).2) = u := by
  have := roundNE_of_interval u (shortest u).1 (shortest u).2 false h1 h2
    (by have := shortest_pos u h1; omega) (shortest_in_interval u h1)
  simpa using this

/-! ## exact round trip -/

/-- no digit of the shortest decimal is cut off by the requested precision -/
def keepsAllDigits (bits precision : Nat) : Prop :=
  match notationOf bits with
  | .sci => dlen (shortest (absBits bits)).1 ≤ precision + 1
  | _ => -(shortest (absBits bits)).2 ≤ (adjPrecision (absBits bits) precision : Int)

theorem bits_decomp (bits : Nat) (hb : bits < 2 ^ 64) :
    absBits bits + (if signOf bits = true then 2 ^ 63 else 0) = bits := by
  unfold absBits signOf
  by_cases hs : bits / 2 ^ 63 % 2 = 1 <;> simp [hs] <;> omega

/-- when nothing is cut off, the written decimal is the shortest decimal itself -/
theorem writtenDec_of_keeps (bits precision : Nat) (hk : keepsAllDigits bits precision) :
    writtenDec bits precision = ((shortest (absBits bits)).1, (shortest (absBits bits)).2) := by
  unfold writtenDec keepsAllDigits at *
  cases hn : notationOf bits with
  | sci => rw [hn] at hk; exact rheDec_sci_keeps _ _ _ hk
  | special => rw [hn] at hk; exact rheDec_keeps _ _ _ hk
  | fixed => rw [hn] at hk; exact rheDec_keeps _ _ _ hk

/-- **fmt_exact.**  Whenever the precision keeps every digit of the shortest decimal, the written text re-reads
(correctly rounded `strtod`) as exactly the same 64-bit pattern, sign included. -/
theorem fmt_exact (bits precision : Nat) (hb : bits < 2 ^ 64) (h1 : 1 ≤ absBits bits) (h2 : absBits bits < INF)
    (hk : keepsAllDigits bits precision) : strtod (writeTrimmedNumber bits precision) = some bits := by
  obtain ⟨n, e, hp, sd⟩ := fmt_value bits precision h1 h2
  have hin := shortest_in_interval (absBits bits) h1
  have k1 := shortest_pos (absBits bits) h1
  rw [writtenDec_of_keeps bits precision hk] at sd
  have hn0 : n ≠ 0 := sameDec_ne_zero sd k1
  have hin' : inIvl (ivl (absBits bits)) e n = true := by
    rw [inIvl_sameDec _ n _ e _ sd]; exact hin
  unfold strtod
  rw [hp]
  simp only [Option.map_some, hn0, ne_eq, not_false_eq_true, decide_true, Bool.and_true]
  rw [roundNE_of_interval (absBits bits) n e (signOf bits) h1 h2 hn0 hin', bits_decomp bits hb]

/-- scientific notation: 16 decimals of the mantissa (17 significant digits) always suffice -/
theorem fmt_exact_sci (bits precision : Nat) (hb : bits < 2 ^ 64) (hn : notationOf bits = .sci)
    (hp : 16 ≤ precision) : strtod (writeTrimmedNumber bits precision) = some bits := by
  obtain ⟨_, h1, h2⟩ := notation_sci bits hn
  apply fmt_exact bits precision hb h1 h2
  unfold keepsAllDigits
  rw [hn]
  have := dlen_le_of_lt (shortest_lt (absBits bits) h1) (by decide : 1 ≤ 17)
  simp only; omega

/-- positional notation (`1e-4 ≤ |x| < 1e17`): 21 decimals always suffice -/
theorem fmt_exact_fixed (bits precision : Nat) (hb : bits < 2 ^ 64) (hn : notationOf bits = .fixed)
    (hp : 21 ≤ precision) : strtod (writeTrimmedNumber bits precision) = some bits := by
  obtain ⟨_, h1, h2⟩ := notation_fixed bits hn
  have hu : 1 ≤ absBits bits := by unfold bits1em4 at h1; omega
  have hi : absBits bits < INF := by unfold bits1e17 at h2; unfold INF; omega
  apply fmt_exact bits precision hb hu hi
  unfold keepsAllDigits
  rw [hn]
  simp only
  have hadj : precision ≤ adjPrecision (absBits bits) precision := by
    unfold adjPrecision; split <;> omega
  by_cases hq : (shortest (absBits bits)).2 < 0
  · have := fixed_frac_places (absBits bits) h1 hq
    omega
  · omega

/-- non-vacuity: the hypotheses of `fmt_exact` are satisfiable (1.5 at precision 1), and the model evaluates:
half-even on the decimal digits (0.125 → 0.12 at two decimals), the notation switches at 1e-4 and 1e17 -/
example : 0x3ff8000000000000 < 2 ^ 64 ∧ 1 ≤ absBits 0x3ff8000000000000 ∧ absBits 0x3ff8000000000000 < INF := by
  decide
example : writeTrimmedNumber 0x3ff8000000000000 1 = "1.5".toList ∧
    strtod (writeTrimmedNumber 0x3ff8000000000000 1) = some 0x3ff8000000000000 ∧
    writeTrimmedNumber 0x3fc0000000000000 2 = "0.12".toList ∧
    writeTrimmedNumber 0x3f1a36e2eb1c432d 16 = "0.0001".toList ∧
    writeTrimmedNumber 0x3f1a36e2eb1c432c 16 = "9.999999999999999e-5".toList ∧
    writeTrimmedNumber 0x4376345785d8a000 16 = "1e+17".toList ∧
    writeTrimmedNumber 0x4376345785d89fff 16 = "99999999999999980".toList := by decide +kernel

end GeosModel.Num

/-!
# C10 — structure: the WKT writer's tokens are read back as the specified tree

Models: `GeosModel.WKT.writeToks` (Model/WKT/Write.lean = `WKTWriter`), `GeosModel.WKT.readToks`
(Model/WKT/Read.lean = `WKTReader` on tokens), specification `project` / `dimOK` (Model/WKT/Spec.lean).
Token level: numbers are opaque bit patterns (their text is the subject of the `fmt_*` theorems above).
-/
namespace GeosModel.WKT
open GeosModel

/-- the full statement (ISO tags): every geometry the reader can produce at all — all 13 classes, well formed by
construction — whose collections are dimensionally uniform (`dimOK`) is written to tokens that read back as
`project cfg id g`.  NOT proved in general; proved below for the classes without curved components.
What is missing: the analogous induction cases for COMPOUNDCURVE / CURVEPOLYGON / MULTICURVE / MULTISURFACE
(readers `readCurve`, `readCurves`, `readCompound`, `readCurvePolygon`, `readSurface`, `readSurfaces`) and the
old-3D convention; those are covered by the correspondence streams wkt-write / wkt-read / wkt-rt only. -/
def wkt_roundtrip_full : Prop :=
  ∀ (cfg : Cfg) (g : G) (ts : List Tok), readToks ts = .ok g → cfg.old3D = false → dimOK cfg g = true →
    readToks (writeToks cfg g) = .ok (project cfg id g)

/-- **wkt_roundtrip (partial).**  For every writer configuration with ISO tags (any trim / precision / output
dimension), every well-formed geometry built from Point, LineString, LinearRing, CircularString, Polygon,
MultiPoint, MultiLineString, MultiPolygon and (arbitrarily nested) GeometryCollection — EMPTY allowed at every
level — whose collections are dimensionally uniform, the reader run on the writer's tokens returns exactly the
specified tree `project cfg id g` (same type tree and emptiness, every sequence carrying the tag's Z/M flags,
dropped ordinates NaN) and consumes all tokens; `f` is the reader model's recursion fuel. -/
theorem wkt_roundtrip_partial (cfg : Cfg) (hiso : cfg.old3D = false) (g : G) (hwf : WFs g = true)
    (hdim : dimOK cfg g = true) (f : Nat) (hf : gFuel g ≤ f) :
    readTagged f {} .none (writeToks cfg g) = .ok (project cfg id g, []) :=
  roundtrip_fuel cfg hiso g hwf hdim f hf

/-- the same through `readToks` (whose fuel is 3·tokens + 4), whenever that fuel covers `gFuel g`
(decidable; it does for every geometry the generators produce — the proof's fuel measure is generous) -/
theorem wkt_roundtrip_readToks (cfg : Cfg) (hiso : cfg.old3D = false) (g : G) (hwf : WFs g = true)
    (hdim : dimOK cfg g = true) (hf : gFuel g ≤ 3 * (writeToks cfg g).length + 4) :
    readToks (writeToks cfg g) = .ok (project cfg id g) :=
  roundtrip_readToks cfg hiso g hwf hdim hf

/-- a collection with a polygon (with hole), an empty line and a nested collection -/
def demoG : G :=
  .collection [
    .polygon ⟨true, false, [⟨0, 0, 1, nanBits⟩, ⟨1, 0, 1, nanBits⟩, ⟨1, 1, 1, nanBits⟩, ⟨0, 0, 1, nanBits⟩]⟩
             [⟨true, false, []⟩],
    .lineString ⟨true, false, []⟩,
    .collection [.multiPoint [.point ⟨true, false, [⟨5, 6, 7, nanBits⟩]⟩, .point ⟨true, false, []⟩]]]

/-- non-vacuity: the hypotheses hold for `demoG`, and the round trip is the projection -/
example : WFs demoG = true ∧ dimOK {} demoG = true ∧ gFuel demoG ≤ 3 * (writeToks {} demoG).length + 4 := by decide

/-- **the dimensional-uniformity hypothesis is necessary (finding).**  The writer's own output for a collection
with one XYZ and one XY point — `GEOMETRYCOLLECTION Z (POINT Z (1 2 3), POINT (1 2))` — is rejected by the
reader ("Cannot mix dimensionality in a geometry"): the unrestricted round-trip statement is false. -/
def isParseError : Except Err G → Bool
  | .error .parse => true
  | _ => false

theorem wkt_mixed_dims_rejected :
    ∃ (cfg : Cfg) (g : G), cfg.old3D = false ∧ WFs g = true ∧ dimOK cfg g = false ∧
      isParseError (readToks (writeToks cfg g)) = true := by
  refine ⟨{}, .collection [.point ⟨true, false, [⟨0x3ff0000000000000, 0x4000000000000000, 0x4008000000000000, nanBits⟩]⟩,
    .point ⟨false, false, [⟨0x3ff0000000000000, 0x4000000000000000, nanBits, nanBits⟩]⟩], rfl, ?_, ?_, ?_⟩ <;> decide

end GeosModel.WKT

/-!
# C10 — configuration and tags: what the regenerated setters / loops guarantee (models of `Model/WKT/Cxx.lean`)
-/
namespace GeosModel.WKT
open GeosModel

/-- **the setter's clamp.**  Whatever value is passed to `setRoundingPrecision`, ordinates are written with the precision model's
digits when it is ≤ −1 and with exactly that many decimals otherwise (`clampPrecision` = the regenerated setter,
`C10Gen.gen_setRoundingPrecision_eq`) -/
theorem decimalPlaces_clamped (cfg : Cfg) (p : Int) :
    decimalPlaces { cfg with precision := clampPrecision p } = if p ≤ -1 then cfg.pmDigits.toNat else p.toNat := by
  unfold decimalPlaces clampPrecision
  by_cases h : p < -1
  · have : p ≤ -1 := by omega
    simp [h, this]
  · by_cases h2 : p = -1
    · simp [h2]
    · have : ¬ p ≤ -1 := by omega
      simp [h, h2, this]

/-- **dimension dropping stays within the output dimension and only drops.**  For every output dimension `setOutputDimension`
accepts, the ordinates a tagged geometry is written with (`capOrds` = the regenerated loop of `appendGeometryTaggedText`,
`C10Gen.gen_ordinates_eq`) number at most `d`, are among the geometry's own, and are all of them when they fit. -/
theorem capOrds_within (d : Nat) (hd : 2 ≤ d) (o : Ords) :
    2 + (capOrds d o).z.toNat + (capOrds d o).m.toNat ≤ d ∧
    ((capOrds d o).z = true → o.z = true) ∧ ((capOrds d o).m = true → o.m = true) ∧
    (2 + o.z.toNat + o.m.toNat ≤ d → capOrds d o = o) := by
  rcases o with ⟨z, m⟩
  have hd' : d = 2 ∨ d = 3 ∨ 4 ≤ d := by omega
  rcases hd' with rfl | rfl | h4
  · cases z <;> cases m <;> decide
  · cases z <;> cases m <;> decide
  · have n1 : ¬ d < 4 := by omega
    have n2 : ¬ d < 3 := by omega
    have n3 : ¬ d < 2 := by omega
    cases z <;> cases m <;> simp [capOrds, n1, n2, n3] <;> omega

/-- `setOutputDimension` stores only 2, 3 or 4 (so `capOrds_within` applies to every reachable writer state) -/
theorem outputDimension_checked (d d' : Nat) (h : checkOutputDimension d = .ok d') : d' = d ∧ 2 ≤ d' ∧ d' ≤ 4 := by
  unfold checkOutputDimension at h
  split at h
  · cases h
  · injection h with h; omega

/-- the text `appendOrdinateText` writes (`ordTextStr`, `C10Gen.gen_appendOrdinateText_eq`) is what `render` lays out for the tag
tokens `ordText` in front of whatever follows -/
theorem render_ordText (cfg : Cfg) (o : Ords) (t : Tok) (r : List Tok) :
    render cfg (ordText cfg o ++ t :: r) = (ordTextStr cfg o).toList ++ render cfg (t :: r) := by
  rcases o with ⟨z, m⟩
  rcases cfg with ⟨tr, p, od, o3, pd⟩
  cases o3 <;> cases z <;> cases m <;> simp [ordText, ordTextStr, render, spaceAfter, tokStr, String.join]

/-! non-vacuity: 3 is accepted, 5 is not; an XYZM geometry written at dimension 3 keeps Z -/
example : checkOutputDimension 3 = .ok 3 ∧ checkOutputDimension 5 = .error "IllegalArgumentException" := ⟨rfl, rfl⟩
example : capOrds 3 ⟨true, true⟩ = ⟨true, false⟩ ∧ capOrds 2 ⟨false, true⟩ = ⟨false, false⟩ := by decide

end GeosModel.WKT
