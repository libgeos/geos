import GeosModel.Proofs.Tri.InCircle
import GeosModel.Proofs.Tri.Sound
import GeosModel.Proofs.Tri.Winding
import GeosModel.Proofs.Tri.Separated
import GeosModel.Proofs.Tri.HullWinding
import GeosModel.Proofs.Tri.Predicates
/-!
# C16 — triangulations tile exactly the right region and are Delaunay

SPEC+C with exact certificate checking (DESIGN.md section 3, C16).  The insertion / flip / ear-clipping
algorithms of GEOS are *not* modelled.  What is proved here is about the certificate checkers of
`Model/Tri/Check.lean`, which the driver `drv_c16` runs on the bits GEOS returns:

* `inCircle_sign` — for a counter-clockwise non-degenerate triangle the sign of `Kernel.inCircleDet` is
  exactly "strictly inside / on / outside the circle around the rational circumcentre" (squared distances
  cross-multiplied into `Int`); `circumcentre_equidistant` shows that centre really is the circumcentre.
* `checker_sound` — `isTriangulationOf sites tris && isDelaunay sites tris = true` gives every listed clause
  for ALL triangles, pairs of triangles and sites, and (with `inCircle_sign`) no site strictly inside any
  circumcircle.  `cdt_checker_sound`, `voronoi_checker_sound` likewise.
* `edge_pairing_area` — the edge-pairing clause (equality of the elementary boundary 1-chains) *implies* the
  area clause: the doubled triangle areas add up to the doubled area of the region (hull / polygon).
* `edge_pairing_cover_count` / `cdt_cover_count` — for every point `p` in general position (on none of the edge
  lines) the number of (positively oriented) triangles that contain `p` strictly equals the winding number
  (signed ray-crossing number `wind`) of the region's boundary chain about `p`; with `count_le_one` (pairwise
  separation) that number is 0 or 1.  Proof: `wind` is antisymmetric and additive under splitting at collinear
  points, so it has equal sums over equal chains (`chainEq_sum`), and a positively oriented triangle has winding
  number 1 inside / 0 outside (`wind_tri`).
* `hull_boundary_winding` — the self-certified hull boundary has winding number 1 about strictly interior points
  and 0 about strictly exterior ones (via the fan triangulation whose separation the checker tests).
* `triangles_inside_hull` — no triangle sticks out of the hull (second half of `C16_cover_full`), unconditionally.
* `edge_pairing_area_cover` — **the Delaunay tiling theorem for points in general position**: accepted certificate
  ⇒ areas add up, every point strictly inside the hull and on none of finitely many lines is strictly inside
  exactly one triangle, every such point outside is in none.  NOT proved: the passage to points on those lines
  (a closure argument; `C16_cover_full` is the closed-set statement).
* `cdt_cover_partial` (PARTIAL) — the same for the constrained triangulation under the explicit hypothesis
  `PolygonWindingIsIndicator` (the winding number of a valid polygon's oriented boundary is the indicator of its
  interior — a Jordan-curve type fact that is NOT proved here).  The checker does not rely on it for
  disjointness (all pairs are tested exactly: `Separated`, `separated_no_common_interior`), and adds the exact
  centroid-inside test for every triangle.
* `cdt_collection_checker_sound`, `cdt_collection_cover_count`, `cdt_collection_triangle_in_one_component` — collections
  of polygons with pairwise disjoint interiors (components may share edges): accepted output splits, by the exact centroid
  test and without any assumption on its order, into one constrained Delaunay triangulation per component; the common edge of
  two components is a constraint of both, so no accepted triangle straddles it.
* `inCircleLoc_spec`, `robust_filter_sound`, `flip_only_if_in_circle`, `improver_flip_only_if_in_circle` — about the decisions GEOS
  itself takes (`Model/Tri/Predicates.lean`; `Props/C16Gen.lean` proves the definitions regenerated from
  `TrianglePredicate.cpp`, `Vertex.h`, `TriDelaunayImprover.cpp` equal to them): in exact arithmetic the filtered in-circle test
  `isInCircleRobust` never reports the wrong side, so an edge is flipped only when the vertex really is strictly inside the
  circumcircle.  (Nothing is claimed about the converse: an undecided test leaves a non-Delaunay edge — the known finding.)
-/
namespace GeosModel.Tri
open GeosModel.Kernel

/-- **in-circle determinant = circumcircle test.**  `circDist a b c p` is `(2·det a b c)²·|p − O|²` for the
rational circumcentre `O`. -/
theorem inCircle_sign (a b c d : Pt) (h : 0 < Kernel.det a b c) :
    (0 < inCircleDet a b c d ↔ circDist a b c d < circDist a b c a) ∧
    (inCircleDet a b c d = 0 ↔ circDist a b c d = circDist a b c a) ∧
    (inCircleDet a b c d < 0 ↔ circDist a b c a < circDist a b c d) := by
  have hK : 0 < 4 * Kernel.det a b c := by omega
  have key := circ_identity a b c d
  have h1 : 0 < inCircleDet a b c d ↔ circDist a b c d < circDist a b c a := by
    rw [← sub_pos (a := circDist a b c a), key, mul_pos_iff_of_pos_left hK]
  have h2 : inCircleDet a b c d = 0 ↔ circDist a b c d = circDist a b c a := by
    rw [eq_comm (a := circDist a b c d), ← sub_eq_zero (a := circDist a b c a), key, mul_eq_zero_iff_left (Int.ne_of_gt hK)]
  exact ⟨h1, h2, by omega⟩

/-- the centre used by `circDist` is equidistant from the three corners -/
theorem circumcentre_equidistant (a b c : Pt) :
    circDist a b c b = circDist a b c a ∧ circDist a b c c = circDist a b c a :=
  ⟨circDist_b a b c, circDist_c a b c⟩

/-- **the loops cover everything.**  If both Boolean checkers answer `true`, every clause of the
specification holds for all triangles, all pairs and all sites. -/
theorem checker_sound (sites : List Pt) (tris : List Tri)
    (h : (isTriangulationOf sites tris && isDelaunay sites tris) = true) :
    IsTriangulation sites tris ∧ IsDelaunay sites tris := by
  simp only [Bool.and_eq_true] at h
  exact ⟨isTriangulationOf_sound _ _ h.1, isDelaunay_sound _ _ h.2⟩

/-- accepted output ⇒ no site lies strictly inside the circumcircle of any triangle (distance form) -/
theorem delaunay_empty_circumcircles (sites : List Pt) (tris : List Tri)
    (h : (isTriangulationOf sites tris && isDelaunay sites tris) = true) :
    ∀ t ∈ tris, ∀ s ∈ sites, ¬ circDist t.ccw.a t.ccw.b t.ccw.c s < circDist t.ccw.a t.ccw.b t.ccw.c t.ccw.a := by
  obtain ⟨ht, hd⟩ := checker_sound sites tris h
  intro t htm s hs hlt
  have hpos : 0 < Kernel.det t.ccw.a t.ccw.b t.ccw.c := ht.positively_oriented t.ccw (List.mem_map.mpr ⟨t, htm, rfl⟩)
  have := ((inCircle_sign t.ccw.a t.ccw.b t.ccw.c s hpos).1).mpr hlt
  have := hd t htm s hs
  omega

/-- constrained triangulation: accepted output satisfies every clause of `IsCDT`, and (second checker) the
constrained-Delaunay condition on every shared edge -/
theorem cdt_checker_sound (rings : List (List Pt)) (tris : List Tri)
    (h : (isCDTOf rings tris && isConstrainedDelaunay tris) = true) :
    IsCDT rings tris ∧ IsLocallyDelaunay (tris.map Tri.ccw) := by
  simp only [Bool.and_eq_true] at h
  exact ⟨isCDTOf_sound _ _ h.1, locallyDelaunay_sound _ h.2⟩

/-- Voronoi (PARTIAL by nature: cell vertices are computed doubles, every metric clause carries the slack
`1e-9·M`): accepted output satisfies every clause of `VoronoiCert` for all cells, vertices and sites -/
theorem voronoi_checker_sound (sites : List Pt) (env : Box) (cells : List (Pt × List Pt))
    (h : voronoiOK sites env cells = true) : VoronoiCert sites env cells :=
  voronoiOK_sound sites env cells h

/-- **edge pairing ⇒ area.**  Equality of the elementary boundary chains alone forces the doubled triangle
areas to add up to the shoelace sum of the boundary; for the hull / polygon boundary that is its doubled area. -/
theorem edge_pairing_area (V : List Pt) (ts : List Tri) (B : List Edge)
    (h : chainEq (elemEdges V (triEdges ts)) (elemEdges V B) = true) :
    sumInt (ts.map Tri.det) = sumInt (B.map cross) :=
  chainEq_area V ts B h

/-- the shoelace sum of a closed ring's edges is `Kernel.area2` -/
theorem ring_area_as_chain (ring : List Pt) : area2 ring = sumInt ((Kernel.edges ring).map cross) :=
  area2_eq_sum ring

/-- the full covering statement (NOT proved): under the tiling certificate against the hull boundary, a site-
free formulation — every point of the closed hull is in some closed triangle, and every point strictly inside
a triangle is in the closed hull -/
def C16_cover_full : Prop :=
  ∀ (sites : List Pt) (tris : List Tri), isTriangulationOf sites tris = true → 3 ≤ (hull sites).length →
    (∀ p : Pt, (∀ e ∈ loopEdges (hull sites), 0 ≤ Kernel.det e.1 e.2 p) → ∃ t ∈ tris.map Tri.ccw, InClosed t p) ∧
    (∀ p : Pt, ∀ t ∈ tris.map Tri.ccw, StrictlyIn t p → ∀ e ∈ loopEdges (hull sites), 0 ≤ Kernel.det e.1 e.2 p)

/-- separated counter-clockwise triangles have no common strictly interior point -/
theorem separated_no_common_interior (t u : Tri) (ht : 0 < t.det) (hu : 0 < u.det) (h : Separated t u) (p : Pt) :
    ¬ (StrictlyIn t p ∧ StrictlyIn u p) := separated_no_common_interior' t u ht hu h p

/-- pairwise separated positively oriented triangles: at most one contains a given point strictly -/
theorem count_le_one (ts : List Tri) (hpos : ∀ t ∈ ts, 0 < t.det) (hsep : ts.Pairwise Separated) (p : Pt) :
    countIn ts p = 0 ∨ countIn ts p = 1 := count_le_one' ts hpos hsep p

/-- **edge pairing ⇒ covering count**, for any tiling certificate of positively oriented triangles against a boundary chain `B`:
for every point `p` on none of the edge lines the number of triangles containing `p` strictly is the winding number of `B` about
`p`, and it is 0 or 1 -/
theorem Tiles.cover_count {V : List Pt} {ts : List Tri} {B : List Edge} {A2 : Int} (h : Tiles V ts B A2)
    (hpos : ∀ t ∈ ts, 0 < t.det) (p : Pt) (hpT : ∀ e ∈ triEdges ts, OffLine p e) (hpB : ∀ e ∈ B, OffLine p e) :
    countIn ts p = sumInt (B.map (wind p)) ∧ (countIn ts p = 0 ∨ countIn ts p = 1) :=
  ⟨chainEq_count V ts B p h.chainEq hpos hpT hpB, count_le_one ts hpos h.disjoint p⟩

/-- **edge pairing ⇒ covering count (Delaunay case).**  For an accepted triangulation and every point `p` on
none of the triangle-edge or hull-edge lines: the number of triangles containing `p` strictly equals the
winding number of the hull boundary about `p`, and it is 0 or 1. -/
theorem edge_pairing_cover_count (sites : List Pt) (tris : List Tri) (h : isTriangulationOf sites tris = true) (p : Pt)
    (hpT : ∀ e ∈ triEdges (tris.map Tri.ccw), OffLine p e) (hpB : ∀ e ∈ loopEdges (hull sites), OffLine p e) :
    countIn (tris.map Tri.ccw) p = sumInt ((loopEdges (hull sites)).map (wind p)) ∧
    (countIn (tris.map Tri.ccw) p = 0 ∨ countIn (tris.map Tri.ccw) p = 1) :=
  have hs := isTriangulationOf_sound sites tris h
  hs.tiling.cover_count hs.positively_oriented p hpT hpB

/-- the same for the constrained triangulation of a polygon (shell + holes) -/
theorem cdt_cover_count (rings : List (List Pt)) (tris : List Tri) (h : isCDTOf rings tris = true) (p : Pt)
    (hpT : ∀ e ∈ triEdges (tris.map Tri.ccw), OffLine p e) (hpB : ∀ e ∈ polyBoundary rings, OffLine p e) :
    countIn (tris.map Tri.ccw) p = sumInt ((polyBoundary rings).map (wind p)) ∧
    (countIn (tris.map Tri.ccw) p = 0 ∨ countIn (tris.map Tri.ccw) p = 1) :=
  have hs := isCDTOf_sound rings tris h
  hs.tiling.cover_count hs.positively_oriented p hpT hpB

/-- **no triangle sticks out of the hull** (second half of `C16_cover_full`, proved unconditionally): every point
strictly inside a triangle of an accepted triangulation is on or to the left of every hull edge -/
theorem triangles_inside_hull (sites : List Pt) (tris : List Tri) (h : isTriangulationOf sites tris = true)
    (h3 : 3 ≤ (hull sites).length) (p : Pt) :
    ∀ t ∈ tris.map Tri.ccw, StrictlyIn t p → ∀ e ∈ loopEdges (hull sites), 0 ≤ Kernel.det e.1 e.2 p := by
  have hs := isTriangulationOf_sound sites tris h
  intro t ht hin e he
  obtain ⟨t0, ht0, rfl⟩ := List.mem_map.mp ht
  exact (strictlyIn_side (hs.positively_oriented _ ht) hin e.1 e.2).1 fun q hq =>
    hs.hull.contains h3 e he q (hs.corners_are_sites t0 ht0 q ((ccw_corners t0 q).mp hq))

/-- **the certified hull boundary winds once around interior points, not at all around exterior ones.**  `p` in
general position: on no line through an edge of the hull's fan triangulation (these include the hull edges). -/
theorem hull_boundary_winding (sites : List Pt) (tris : List Tri) (h : isTriangulationOf sites tris = true)
    (h3 : 3 ≤ (hull sites).length) (p : Pt) (hpF : ∀ e ∈ triEdges (fan (hull sites)), OffLine p e) :
    ((∀ e ∈ loopEdges (hull sites), 0 < Kernel.det e.1 e.2 p) → sumInt ((loopEdges (hull sites)).map (wind p)) = 1) ∧
    ((∃ e ∈ loopEdges (hull sites), Kernel.det e.1 e.2 p < 0) → sumInt ((loopEdges (hull sites)).map (wind p)) = 0) :=
  hull_winding sites (hull sites) (isTriangulationOf_sound sites tris h).hull h3 p hpF

/-- **edge pairing + area ⇒ exact cover of the hull (points in general position).**  For an accepted
triangulation with a non-degenerate hull: the doubled areas add up to the doubled hull area, and for every point
`p` on none of the (finitely many) lines through a triangle edge, a hull edge or a fan diagonal of the hull:
if `p` is strictly inside the hull it is strictly inside exactly one triangle; if it is strictly outside the hull
it is in no triangle.  (Not proved: the passage to the points ON those lines — `C16_cover_full` — which is a
closure argument.) -/
theorem edge_pairing_area_cover (sites : List Pt) (tris : List Tri)
    (h : isTriangulationOf sites tris = true) (h3 : 3 ≤ (hull sites).length) :
    sumInt ((tris.map Tri.ccw).map Tri.det) = sumInt ((loopEdges (hull sites)).map cross) ∧
    ∀ p : Pt, (∀ e ∈ triEdges (tris.map Tri.ccw), OffLine p e) → (∀ e ∈ loopEdges (hull sites), OffLine p e) →
      (∀ e ∈ triEdges (fan (hull sites)), OffLine p e) →
      ((∀ e ∈ loopEdges (hull sites), 0 < Kernel.det e.1 e.2 p) → countIn (tris.map Tri.ccw) p = 1) ∧
      ((∃ e ∈ loopEdges (hull sites), Kernel.det e.1 e.2 p < 0) → countIn (tris.map Tri.ccw) p = 0) := by
  have hs := isTriangulationOf_sound sites tris h
  refine ⟨?_, fun p hpT hpB hpF => ?_⟩
  · exact edge_pairing_area sites _ _ hs.tiling.chainEq
  · have hc := (edge_pairing_cover_count sites tris h p hpT hpB).1
    obtain ⟨h1, h0⟩ := hull_boundary_winding sites tris h h3 p hpF
    exact ⟨fun hin => by rw [hc]; exact h1 hin, fun hout => by rw [hc]; exact h0 hout⟩

/-- the geometric step NOT proved for polygons with holes: the winding number of the oriented boundary (shell
counter-clockwise, holes clockwise) of a valid polygon about a point in general position is 1 for interior points
and 0 for exterior points (`Kernel.locateInPolygon` is the even–odd specification of interior/exterior) -/
def PolygonWindingIsIndicator (rings : List (List Pt)) : Prop :=
  ∀ p : Pt, (∀ e ∈ polyBoundary rings, OffLine p e) →
    (locateInPolygon p rings = Loc.interior → sumInt ((polyBoundary rings).map (wind p)) = 1) ∧
    (locateInPolygon p rings = Loc.exterior → sumInt ((polyBoundary rings).map (wind p)) = 0)

/-- **PARTIAL** (constrained case): under `PolygonWindingIsIndicator`, an accepted constrained triangulation covers
exactly the polygon (points in general position): interior points are strictly inside exactly one triangle,
exterior points in none; and the areas add up. -/
theorem cdt_cover_partial (rings : List (List Pt)) (tris : List Tri) (h : isCDTOf rings tris = true)
    (hw : PolygonWindingIsIndicator rings) :
    sumInt ((tris.map Tri.ccw).map Tri.det) = polyArea2 rings ∧
    ∀ p : Pt, (∀ e ∈ triEdges (tris.map Tri.ccw), OffLine p e) → (∀ e ∈ polyBoundary rings, OffLine p e) →
      (locateInPolygon p rings = Loc.interior → countIn (tris.map Tri.ccw) p = 1) ∧
      (locateInPolygon p rings = Loc.exterior → countIn (tris.map Tri.ccw) p = 0) := by
  have hs := isCDTOf_sound rings tris h
  refine ⟨hs.tiling.area, fun p hpT hpB => ?_⟩
  have hc := (cdt_cover_count rings tris h p hpT hpB).1
  obtain ⟨h1, h0⟩ := hw p hpB
  exact ⟨fun hin => by rw [hc]; exact h1 hin, fun hout => by rw [hc]; exact h0 hout⟩


/-- **collections of polygons** (`GEOSConstrainedDelaunayTriangulation_r` on a GeometryCollection / MultiPolygon): accepted
output splits — by the exact centroid test, no assumption on the output order — into one group per component polygon, every
output triangle lies in exactly one group, and group `i` satisfies every clause of `IsCDT` for component `i` together with
the constrained-Delaunay condition on the edges shared inside the group.  In particular (clause `corners_are_vertices`
of the group) no output triangle has corners from two different components unless they are vertices of its own. -/
theorem cdt_collection_checker_sound (polys : List (List (List Pt))) (tris : List Tri)
    (h : isCDTOfCollection polys tris = true) : IsCDTCollection polys tris :=
  isCDTOfCollection_sound polys tris h

/-- the covering count, per component of an accepted collection output: for a point in general position the number of
triangles of group `i` that contain it strictly is the winding number of component `i`'s oriented boundary, and is 0 or 1 -/
theorem cdt_collection_cover_count (polys : List (List (List Pt))) (tris : List Tri) (h : isCDTOfCollection polys tris = true)
    (rings : List (List Pt)) (hr : rings ∈ polys) (p : Pt)
    (hpT : ∀ e ∈ triEdges ((trisIn rings tris).map Tri.ccw), OffLine p e) (hpB : ∀ e ∈ polyBoundary rings, OffLine p e) :
    countIn ((trisIn rings tris).map Tri.ccw) p = sumInt ((polyBoundary rings).map (wind p)) ∧
    (countIn ((trisIn rings tris).map Tri.ccw) p = 0 ∨ countIn ((trisIn rings tris).map Tri.ccw) p = 1) := by
  simp only [isCDTOfCollection, Bool.and_eq_true, List.all_eq_true] at h
  exact cdt_cover_count rings (trisIn rings tris) (h.2 rings hr).1 p hpT hpB

/-- every output triangle of an accepted collection output has its three corners among the vertices of the ONE component
that owns it (so a triangle straddling the common edge of two components is rejected) -/
theorem cdt_collection_triangle_in_one_component (polys : List (List (List Pt))) (tris : List Tri)
    (h : isCDTOfCollection polys tris = true) (t : Tri) (ht : t ∈ tris) :
    ∃ rings ∈ polys, ownedBy rings t = true ∧ (∀ p ∈ t.corners, ∃ r ∈ rings, p ∈ r) ∧
      ∀ rings' ∈ polys, ownedBy rings' t = true → (polys.filter (fun r => ownedBy r t)) = [rings'] := by
  have hs := isCDTOfCollection_sound polys tris h
  obtain ⟨⟨rings, hr, ho⟩, hlen⟩ := hs.unique_owner t ht
  refine ⟨rings, hr, ho, ?_, ?_⟩
  · exact (hs.component rings hr).1.corners_are_vertices t ((hs.groups_are_output rings t).mpr ⟨ht, ho⟩)
  · intro rings' hr' ho'
    obtain ⟨x, hx⟩ := List.length_eq_one_iff.mp hlen
    have : rings' ∈ polys.filter (fun r => ownedBy r t) := List.mem_filter.mpr ⟨hr', ho'⟩
    rw [hx] at this ⊢
    rw [List.mem_singleton.1 this]

/-! ### the decisions of the implementation (tied to the C++ by the translator, `Props/C16Gen.lean`) -/

/-- **`isInCircleNormalized` / the exact in-circle answer means the circumcircle.**  For a counter-clockwise triangle
`inCircleLoc` is `I` / `B` / `E` exactly when `d` is nearer to / as far from / farther from the circumcentre than the corners. -/
theorem inCircleLoc_spec (a b c d : Pt) (h : 0 < Kernel.det a b c) :
    (inCircleLoc a b c d = .I ↔ circDist a b c d < circDist a b c a) ∧
    (inCircleLoc a b c d = .B ↔ circDist a b c d = circDist a b c a) ∧
    (inCircleLoc a b c d = .E ↔ circDist a b c a < circDist a b c d) := by
  obtain ⟨h1, h2, h3⟩ := inCircle_sign a b c d h
  rw [← h1, ← h2, ← h3]
  -- in each of the three cases the answer is known (`e`) and exactly one of the three sign conditions holds (`hD`)
  rcases inCircleLoc_cases a b c d with ⟨hD, e⟩ | ⟨hD, e⟩ | ⟨hD, e⟩ <;> rw [e] <;> simp <;> omega

/-- **the filtered predicate never reports the wrong side** (`TrianglePredicate::isInCircleRobust` in exact arithmetic): a
decided answer INTERIOR / EXTERIOR agrees with the exact sign; only BOUNDARY may stand for "undecided". -/
theorem robust_filter_sound (a b c d : Pt) :
    (robustInCircleLoc a b c d = .I → inCircleLoc a b c d = .I) ∧
    (robustInCircleLoc a b c d = .E → inCircleLoc a b c d = .E) := by
  obtain ⟨h1, h2⟩ := filteredLoc_sound (inCircleDet a b c d) (robustErr a b c d) (robustErr_nonneg a b c d)
  unfold robustInCircleLoc inCircleLoc
  exact ⟨fun h => if_pos (h1 h), fun h => by have := h2 h; rw [if_neg (by omega), if_neg (by omega)]⟩

/-- **an edge is flipped only for a vertex strictly inside the circumcircle** (`Vertex::isInCircle`, the general flip test of
`IncrementalDelaunayTriangulator::insertSite`, `a b c` counter-clockwise) -/
theorem flip_only_if_in_circle (a b c v : Pt) (h : 0 < Kernel.det a b c) (hf : flipInCircle a b c v = true) :
    circDist a b c v < circDist a b c a := by
  have hI : robustInCircleLoc a b c v = .I := by simpa [flipInCircle] using hf
  exact ((inCircleLoc_spec a b c v h).1).mp ((robust_filter_sound a b c v).1 hI)

/-- **`TriDelaunayImprover` flips only a pair of triangles that really is not Delaunay**: if `isDelaunay` answers false, one of
the two opposite vertices has a strictly positive in-circle determinant w.r.t. the other triangle; with the orientation of
`tri::Tri` (corners clockwise, i.e. `(adj0, opp0, adj1)` and `(adj1, opp1, adj0)` counter-clockwise) that vertex is strictly
inside the other triangle's circumcircle -/
theorem improver_flip_only_if_in_circle (adj0 adj1 opp0 opp1 : Pt) (h : improverDelaunay adj0 adj1 opp0 opp1 = false) :
    (0 < inCircleDet adj0 opp0 adj1 opp1 ∨ 0 < inCircleDet adj1 opp1 adj0 opp0) ∧
    (0 < Kernel.det adj0 opp0 adj1 → 0 < Kernel.det adj1 opp1 adj0 →
      circDist adj0 opp0 adj1 opp1 < circDist adj0 opp0 adj1 adj0 ∨ circDist adj1 opp1 adj0 opp0 < circDist adj1 opp1 adj0 adj1) := by
  have s1 := (filteredLoc_sound (inCircleDet adj0 opp0 adj1 opp1) _ (robustErr_nonneg adj0 opp0 adj1 opp1)).1
  have s2 := (filteredLoc_sound (inCircleDet adj1 opp1 adj0 opp0) _ (robustErr_nonneg adj1 opp1 adj0 opp0)).1
  have key : robustInCircleLoc adj0 opp0 adj1 opp1 = .I ∨ robustInCircleLoc adj1 opp1 adj0 opp0 = .I := by
    by_contra hn
    simp [improverDelaunay, flipInCircle, not_or.1 hn] at h
  exact ⟨key.imp s1 s2, fun d0 d1 => key.imp (fun k => (inCircle_sign _ _ _ _ d0).1.1 (s1 k))
    fun k => (inCircle_sign _ _ _ _ d1).1.1 (s2 k)⟩

/-! ### non-vacuity -/

/-- five sites (a square and an interior point), four triangles: accepted -/
example : (isTriangulationOf [⟨0,0⟩, ⟨4,0⟩, ⟨4,4⟩, ⟨0,4⟩, ⟨2,1⟩]
    [⟨⟨0,0⟩,⟨4,0⟩,⟨2,1⟩⟩, ⟨⟨4,0⟩,⟨4,4⟩,⟨2,1⟩⟩, ⟨⟨4,4⟩,⟨0,4⟩,⟨2,1⟩⟩, ⟨⟨0,0⟩,⟨2,1⟩,⟨0,4⟩⟩] &&
  isDelaunay [⟨0,0⟩, ⟨4,0⟩, ⟨4,4⟩, ⟨0,4⟩, ⟨2,1⟩]
    [⟨⟨0,0⟩,⟨4,0⟩,⟨2,1⟩⟩, ⟨⟨4,0⟩,⟨4,4⟩,⟨2,1⟩⟩, ⟨⟨4,4⟩,⟨0,4⟩,⟨2,1⟩⟩, ⟨⟨0,0⟩,⟨2,1⟩,⟨0,4⟩⟩]) = true := by decide +kernel

/-- a valid triangulation of four sites with the wrong diagonal: tiling accepted, Delaunay rejected -/
example : isTriangulationOf [⟨0,0⟩, ⟨2,-1⟩, ⟨4,0⟩, ⟨2,1⟩] [⟨⟨0,0⟩,⟨4,0⟩,⟨2,1⟩⟩, ⟨⟨0,0⟩,⟨2,-1⟩,⟨4,0⟩⟩] = true ∧
    isDelaunay [⟨0,0⟩, ⟨2,-1⟩, ⟨4,0⟩, ⟨2,1⟩] [⟨⟨0,0⟩,⟨4,0⟩,⟨2,1⟩⟩, ⟨⟨0,0⟩,⟨2,-1⟩,⟨4,0⟩⟩] = false := by decide +kernel

/-- the other diagonal is accepted by both -/
example : (isTriangulationOf [⟨0,0⟩, ⟨2,-1⟩, ⟨4,0⟩, ⟨2,1⟩] [⟨⟨0,0⟩,⟨2,-1⟩,⟨2,1⟩⟩, ⟨⟨2,-1⟩,⟨4,0⟩,⟨2,1⟩⟩] &&
    isDelaunay [⟨0,0⟩, ⟨2,-1⟩, ⟨4,0⟩, ⟨2,1⟩] [⟨⟨0,0⟩,⟨2,-1⟩,⟨2,1⟩⟩, ⟨⟨2,-1⟩,⟨4,0⟩,⟨2,1⟩⟩]) = true := by decide +kernel

/-- cocircular sites (a square): both diagonals are accepted (strict in-circle test) -/
example : (isDelaunay [⟨0,0⟩, ⟨1,0⟩, ⟨1,1⟩, ⟨0,1⟩] [⟨⟨0,0⟩,⟨1,0⟩,⟨1,1⟩⟩, ⟨⟨0,0⟩,⟨1,1⟩,⟨0,1⟩⟩] &&
    isDelaunay [⟨0,0⟩, ⟨1,0⟩, ⟨1,1⟩, ⟨0,1⟩] [⟨⟨0,0⟩,⟨1,0⟩,⟨0,1⟩⟩, ⟨⟨1,0⟩,⟨1,1⟩,⟨0,1⟩⟩]) = true := by decide +kernel

/-- a missing triangle (hole in the cover), an overlapping pair, and a hull edge left unpaired are rejected -/
example : isTriangulationOf [⟨0,0⟩, ⟨4,0⟩, ⟨4,4⟩, ⟨0,4⟩, ⟨2,1⟩]
    [⟨⟨0,0⟩,⟨4,0⟩,⟨2,1⟩⟩, ⟨⟨4,0⟩,⟨4,4⟩,⟨2,1⟩⟩, ⟨⟨4,4⟩,⟨0,4⟩,⟨2,1⟩⟩] = false := by decide +kernel
example : isTriangulationOf [⟨0,0⟩, ⟨4,0⟩, ⟨4,4⟩, ⟨0,4⟩]
    [⟨⟨0,0⟩,⟨4,0⟩,⟨4,4⟩⟩, ⟨⟨0,0⟩,⟨4,0⟩,⟨0,4⟩⟩] = false := by decide +kernel
/-- collinear hull point: the hull edge (0,0)-(4,0) is split at the site (2,0) and still pairs -/
example : isTriangulationOf [⟨0,0⟩, ⟨2,0⟩, ⟨4,0⟩, ⟨2,3⟩] [⟨⟨0,0⟩,⟨2,0⟩,⟨2,3⟩⟩, ⟨⟨2,0⟩,⟨4,0⟩,⟨2,3⟩⟩] = true := by decide +kernel
/-- … but one big triangle that ignores the collinear site is rejected (site is not a corner) -/
example : isTriangulationOf [⟨0,0⟩, ⟨2,0⟩, ⟨4,0⟩, ⟨2,3⟩] [⟨⟨0,0⟩,⟨4,0⟩,⟨2,3⟩⟩] = false := by decide +kernel

/-- constrained: an L-shaped polygon, accepted; the same triangles for the bounding square, rejected -/
example : (isCDTOf [[⟨0,0⟩,⟨2,0⟩,⟨2,1⟩,⟨1,1⟩,⟨1,2⟩,⟨0,2⟩,⟨0,0⟩]]
    [⟨⟨0,0⟩,⟨2,0⟩,⟨2,1⟩⟩, ⟨⟨0,0⟩,⟨2,1⟩,⟨1,1⟩⟩, ⟨⟨0,0⟩,⟨1,1⟩,⟨0,2⟩⟩, ⟨⟨1,1⟩,⟨1,2⟩,⟨0,2⟩⟩]) = true := by decide +kernel
example : (isCDTOf [[⟨0,0⟩,⟨2,0⟩,⟨2,2⟩,⟨0,2⟩,⟨0,0⟩]]
    [⟨⟨0,0⟩,⟨2,0⟩,⟨2,1⟩⟩, ⟨⟨0,0⟩,⟨2,1⟩,⟨1,1⟩⟩, ⟨⟨0,0⟩,⟨1,1⟩,⟨0,2⟩⟩, ⟨⟨1,1⟩,⟨1,2⟩,⟨0,2⟩⟩]) = false := by decide +kernel

/-- collections: two thin triangles glued along their long side (a valid GeometryCollection).  The two input triangles are
accepted; the pair obtained by flipping the common (constraint) edge — triangles straddling both components — is rejected -/
example : isCDTOfCollection [[[⟨0,0⟩,⟨5,1⟩,⟨10,0⟩,⟨0,0⟩]], [[⟨0,0⟩,⟨10,0⟩,⟨5,-1⟩,⟨0,0⟩]]]
    [⟨⟨0,0⟩,⟨5,1⟩,⟨10,0⟩⟩, ⟨⟨0,0⟩,⟨10,0⟩,⟨5,-1⟩⟩] = true ∧
  isCDTOfCollection [[[⟨0,0⟩,⟨5,1⟩,⟨10,0⟩,⟨0,0⟩]], [[⟨0,0⟩,⟨10,0⟩,⟨5,-1⟩,⟨0,0⟩]]]
    [⟨⟨0,0⟩,⟨5,-1⟩,⟨5,1⟩⟩, ⟨⟨5,-1⟩,⟨10,0⟩,⟨5,1⟩⟩] = false := by decide +kernel
/-- … although, as ONE polygon (the rhombus), the flipped pair is the constrained Delaunay triangulation and the unflipped one is not -/
example : (isCDTOf [[⟨0,0⟩,⟨5,-1⟩,⟨10,0⟩,⟨5,1⟩,⟨0,0⟩]] [⟨⟨0,0⟩,⟨5,-1⟩,⟨5,1⟩⟩, ⟨⟨5,-1⟩,⟨10,0⟩,⟨5,1⟩⟩] &&
    isConstrainedDelaunay [⟨⟨0,0⟩,⟨5,-1⟩,⟨5,1⟩⟩, ⟨⟨5,-1⟩,⟨10,0⟩,⟨5,1⟩⟩]) = true ∧
  isConstrainedDelaunay [⟨⟨0,0⟩,⟨5,1⟩,⟨10,0⟩⟩, ⟨⟨0,0⟩,⟨10,0⟩,⟨5,-1⟩⟩] = false := by decide +kernel

/-- the covering count is not vacuous: the point (3,2) (on no edge line) is strictly inside exactly one of the four
triangles and the hull boundary winds once around it; (5,2) is outside: count 0, winding number 0 -/
example : countIn ([⟨⟨0,0⟩,⟨4,0⟩,⟨2,1⟩⟩, ⟨⟨4,0⟩,⟨4,4⟩,⟨2,1⟩⟩, ⟨⟨4,4⟩,⟨0,4⟩,⟨2,1⟩⟩, ⟨⟨0,0⟩,⟨2,1⟩,⟨0,4⟩⟩].map Tri.ccw) ⟨3,2⟩ = 1 ∧
    sumInt ((loopEdges (hull [⟨0,0⟩, ⟨4,0⟩, ⟨4,4⟩, ⟨0,4⟩, ⟨2,1⟩])).map (wind ⟨3,2⟩)) = 1 ∧
    countIn ([⟨⟨0,0⟩,⟨4,0⟩,⟨2,1⟩⟩, ⟨⟨4,0⟩,⟨4,4⟩,⟨2,1⟩⟩, ⟨⟨4,4⟩,⟨0,4⟩,⟨2,1⟩⟩, ⟨⟨0,0⟩,⟨2,1⟩,⟨0,4⟩⟩].map Tri.ccw) ⟨5,2⟩ = 0 ∧
    sumInt ((loopEdges (hull [⟨0,0⟩, ⟨4,0⟩, ⟨4,4⟩, ⟨0,4⟩, ⟨2,1⟩])).map (wind ⟨5,2⟩)) = 0 := by decide +kernel

/-- … and the general-position hypotheses of `edge_pairing_cover_count` are satisfiable: (3,2) and (5,2) lie on none
of the triangle-edge or hull-edge lines of that example -/
example : (∀ e ∈ triEdges ([⟨⟨0,0⟩,⟨4,0⟩,⟨2,1⟩⟩, ⟨⟨4,0⟩,⟨4,4⟩,⟨2,1⟩⟩, ⟨⟨4,4⟩,⟨0,4⟩,⟨2,1⟩⟩, ⟨⟨0,0⟩,⟨2,1⟩,⟨0,4⟩⟩].map Tri.ccw),
      Kernel.det e.1 e.2 ⟨3,2⟩ ≠ 0 ∧ Kernel.det e.1 e.2 ⟨5,2⟩ ≠ 0) ∧
    (∀ e ∈ loopEdges (hull [⟨0,0⟩, ⟨4,0⟩, ⟨4,4⟩, ⟨0,4⟩, ⟨2,1⟩]), Kernel.det e.1 e.2 ⟨3,2⟩ ≠ 0 ∧ Kernel.det e.1 e.2 ⟨5,2⟩ ≠ 0) := by decide +kernel

/-- `inCircle_sign` is not vacuous: (1,1) is strictly inside the circle through (0,0),(4,0),(0,4) -/
example : 0 < Kernel.det ⟨0,0⟩ ⟨4,0⟩ ⟨0,4⟩ ∧ 0 < inCircleDet ⟨0,0⟩ ⟨4,0⟩ ⟨0,4⟩ ⟨1,1⟩ ∧
    circDist ⟨0,0⟩ ⟨4,0⟩ ⟨0,4⟩ ⟨1,1⟩ < circDist ⟨0,0⟩ ⟨4,0⟩ ⟨0,4⟩ ⟨0,0⟩ := by decide +kernel

/-- the decisions are not vacuous: (1,1) is decidedly inside the circle through (0,0),(4,0),(0,4) (flip), (4,4) is on it
(undecided = no flip), (5,5) is decidedly outside -/
example : flipInCircle ⟨0,0⟩ ⟨4,0⟩ ⟨0,4⟩ ⟨1,1⟩ = true ∧ robustInCircleLoc ⟨0,0⟩ ⟨4,0⟩ ⟨0,4⟩ ⟨4,4⟩ = .B ∧
    robustInCircleLoc ⟨0,0⟩ ⟨4,0⟩ ⟨0,4⟩ ⟨5,5⟩ = .E ∧ inCircleLoc ⟨0,0⟩ ⟨4,0⟩ ⟨0,4⟩ ⟨4,4⟩ = .B := by decide +kernel
/-- the improver's test: the diagonal (0,0)-(4,0) of the kite (0,0),(2,-1),(4,0),(2,1) is not Delaunay, the other one is
(corners given in the clockwise order of `tri::Tri`) -/
example : improverDelaunay ⟨4,0⟩ ⟨0,0⟩ ⟨2,1⟩ ⟨2,-1⟩ = false ∧ improverDelaunay ⟨2,1⟩ ⟨2,-1⟩ ⟨0,0⟩ ⟨4,0⟩ = true ∧
    0 < Kernel.det ⟨4,0⟩ ⟨2,1⟩ ⟨0,0⟩ ∧ 0 < Kernel.det ⟨0,0⟩ ⟨2,-1⟩ ⟨4,0⟩ := by decide +kernel

end GeosModel.Tri
