import GeosModel.Model.WKT.Dims
/-!
# C10 — dimension dropping (`setRemoveEmptyDimensions(true)`): what the rule of `Model/WKT/Dims.lean` implies

The rule itself is the documentation's sentence; these theorems are the consequences a user relies on: nothing is invented, a
value is never lost, an all-NaN dimension goes, and the dimensions of different sequences are looked at together (one flag per
geometry).  The seeded change C10-7 (M looked for only in sequences that also have Z) contradicts `real_m_is_written`.
-/
namespace GeosModel.WKT.Dims
open GeosModel

/-- the rule for one dimension, Z or M alike: `has` is a sequence's flag for it, `val` a coordinate's ordinate -/
def writesD (has : CSeq → Bool) (val : Coord → UInt64) (g : G) : Bool :=
  if isEmpty g then (seqsOf g).any has else (seqsOf g).any fun s => has s && s.pts.any fun c => !F64.isNaN (val c)

theorem writesD_declared (has : CSeq → Bool) (val : Coord → UInt64) (g : G) (h : writesD has val g = true) :
    ∃ s ∈ seqsOf g, has s = true := by
  unfold writesD at h
  split at h
  · simpa using h
  · obtain ⟨s, hs, hz⟩ := List.any_eq_true.mp h
    exact ⟨s, hs, (Bool.and_eq_true _ _ ▸ hz).1⟩

theorem real_is_written (has : CSeq → Bool) (val : Coord → UInt64) (g : G) (s : CSeq) (c : Coord) (hs : s ∈ seqsOf g)
    (hh : has s = true) (hc : c ∈ s.pts) (hv : F64.isNaN (val c) = false) : writesD has val g = true := by
  have hne : isEmpty g = false := by
    apply Bool.eq_false_iff.mpr
    intro hall
    have := List.all_eq_true.mp hall s hs
    cases hp : s.pts with
    | nil => rw [hp] at hc; cases hc
    | cons a t => rw [hp] at this; cases this
  unfold writesD
  rw [hne]
  exact List.any_eq_true.mpr ⟨s, hs, by simp only [hh, Bool.true_and]; exact List.any_eq_true.mpr ⟨c, hc, by simp [hv]⟩⟩

theorem all_nan_is_dropped (has : CSeq → Bool) (val : Coord → UInt64) (g : G) (hne : isEmpty g = false)
    (h : ∀ s ∈ seqsOf g, ∀ c ∈ s.pts, F64.isNaN (val c) = true) : writesD has val g = false := by
  unfold writesD
  rw [hne]
  apply Bool.eq_false_iff.mpr
  intro hany
  obtain ⟨s, hs, hm⟩ := List.any_eq_true.mp hany
  obtain ⟨c, hc, hv⟩ := List.any_eq_true.mp (Bool.and_eq_true _ _ ▸ hm).2
  simp [h s hs c hc] at hv

/-- a written dimension is a declared dimension of some sequence -/
theorem writesZ_declared (g : G) (h : writesZ g = true) : ∃ s ∈ seqsOf g, s.hasZ = true :=
  writesD_declared _ _ g h

theorem writesM_declared (g : G) (h : writesM g = true) : ∃ s ∈ seqsOf g, s.hasM = true :=
  writesD_declared _ _ g h

/-- **a value is never lost**: a non-NaN M ordinate anywhere in the geometry — in a sequence with or without Z — makes the writer
write M -/
theorem real_m_is_written (g : G) (s : CSeq) (c : Coord) (hs : s ∈ seqsOf g) (hm : s.hasM = true) (hc : c ∈ s.pts)
    (hv : F64.isNaN c.m = false) : writesM g = true :=
  real_is_written (·.hasM) (·.m) g s c hs hm hc hv

theorem real_z_is_written (g : G) (s : CSeq) (c : Coord) (hs : s ∈ seqsOf g) (hz : s.hasZ = true) (hc : c ∈ s.pts)
    (hv : F64.isNaN c.z = false) : writesZ g = true :=
  real_is_written (·.hasZ) (·.z) g s c hs hz hc hv

/-- **an all-NaN dimension is dropped** from a non-empty geometry -/
theorem all_nan_m_is_dropped (g : G) (hne : isEmpty g = false)
    (h : ∀ s ∈ seqsOf g, ∀ c ∈ s.pts, F64.isNaN c.m = true) : writesM g = false :=
  all_nan_is_dropped (·.hasM) (·.m) g hne h

/-! non-vacuity: an XYM line with real M values keeps M and has no Z; with NaN M values it is written as XY; empty keeps its flags -/
def nan : UInt64 := nanBits
example : writesM (.lineString ⟨false, true, [⟨0, 0, nan, 0x3ff0000000000000⟩, ⟨0, 0, nan, 0x4000000000000000⟩]⟩) = true ∧
    writesZ (.lineString ⟨false, true, [⟨0, 0, nan, 0x3ff0000000000000⟩]⟩) = false := by decide
example : writesM (.lineString ⟨false, true, [⟨0, 0, nan, nan⟩, ⟨0x3ff0000000000000, 0, nan, nan⟩]⟩) = false := by decide
example : writesZ (.polygon ⟨true, false, []⟩ []) = true := by decide

end GeosModel.WKT.Dims
