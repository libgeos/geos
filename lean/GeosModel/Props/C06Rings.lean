import GeosModel.Proofs.Buffer.Rings
/-!
# C06 — ring assembly of the buffer result: no result edge is lost, a free hole goes to its smallest container

`Model/Buffer/Rings.lean` follows `PolygonBuilder::add` up to `buildMinimalEdgeRings` (linkResultDirectedEdges,
MaximalEdgeRing, linkMinimalDirectedEdges, MaximalEdgeRing::buildMinimalRings, MinimalEdgeRing) and the choice of the
shell in `findEdgeRingContaining` (`placeFreeHoles`): `container_qualifies`, `container_is_smallest`,
`hole_discarded_only_if_uncontained`.  Stream `rings` compares
it with these classes called directly and with `PolygonBuilder`'s polygons.  A ring of the result outline that is not
built is a hole (or shell) missing from the buffer — "nothing farther than d" (or "everything within d") then fails on
the whole region it bounds.  The theorems hold for every graph, every result flag assignment and every link table.
-/
namespace GeosModel.Buffer.Rings
open GeosModel.Kernel

/-- The loop shared by `PolygonBuilder::buildMaximalEdgeRings` and `MaximalEdgeRing::buildMinimalRings`: whenever it
finishes, every candidate edge lies in one of the rings it built (started with nothing assigned). -/
theorem rings_cover_candidates (next : DE → Option DE) (fuel : Nat) (cands : List DE) (rs : List (List DE))
    (h : buildRings next fuel cands [] = some rs) : ∀ d ∈ cands, ∃ r ∈ rs, d ∈ r := by
  intro d hd
  rcases buildRings_covers cands [] rs h d hd with hm | hr
  · simp at hm
  · exact hr

/-- Every ring built by that loop is a closed walk of the successor function starting at a candidate: consecutive edges
are linked, and the successor of the last edge is the first one (`do … while (de != startDe)`). -/
theorem rings_are_closed_walks (next : DE → Option DE) (fuel : Nat) (cands : List DE) (rs : List (List DE))
    (h : buildRings next fuel cands [] = some rs) : ∀ r ∈ rs, ∃ d ∈ cands, ClosedFrom next d d r :=
  buildRings_closed cands [] rs h

/-- `MaximalEdgeRing::buildMinimalRings`: every directed edge of a maximal ring lies in one of its minimal rings. -/
theorem minimal_rings_cover (g : Graph) (ring : List DE) (ms : List (List DE)) (h : minRings g ring = some ms) :
    ∀ d ∈ ring, ∃ r ∈ ms, d ∈ r :=
  rings_cover_candidates _ _ ring ms h

/-- Whole assembly: when it succeeds, EVERY result directed edge of the graph lies on one of the rings handed to the
polygon assembly (shell / hole placement) — no part of the result outline is dropped, however the outline touches itself. -/
theorem assemble_covers_result (g : Graph) (out : List (List DE)) (h : assemble g = some out) :
    ∀ d, d < g.numDE → g.inResult d = true → ∃ r ∈ out, d ∈ r := by
  intro d hlt hin
  unfold assemble at h
  split at h
  · rename_i ms hms
    have hd : d ∈ (List.range g.numDE).filter g.inResult := by
      simp [List.mem_filter, hlt, hin]
    obtain ⟨R, hR, hdR⟩ := rings_cover_candidates _ _ _ ms hms d hd
    exact splitAll_covers g ms out h R hR d hdR
  · simp at h

/-- The rings built by the shared loop never overlap and never contain an edge twice, provided no edge is the successor of two
edges (true of the link tables of every case of stream `rings`: `linksInjective`, evaluated by the driver).  Together with
`rings_cover_candidates`: the candidates are PARTITIONED among the rings that contain them. -/
theorem rings_disjoint_nodup (next : DE → Option DE) (hinj : Injective next) (fuel : Nat) (cands : List DE) (rs : List (List DE))
    (h : buildRings next fuel cands [] = some rs) :
    rs.Pairwise (fun r1 r2 => ∀ x ∈ r1, x ∉ r2) ∧ ∀ r ∈ rs, r.Nodup :=
  ⟨(buildRings_disjoint hinj cands [] rs h (fun _ _ _ hx => by simp at hx)).2, buildRings_nodup hinj cands [] rs h⟩

/-- `PolygonBuilder::buildMaximalEdgeRings`: the maximal rings are pairwise disjoint, duplicate-free and contain every result edge. -/
theorem maximal_rings_partition (g : Graph) (ms : List (List DE)) (hl : ((resultLinks g).map (·.2)).Nodup) (h : maxRings g = some ms) :
    ms.Pairwise (fun r1 r2 => ∀ x ∈ r1, x ∉ r2) ∧ (∀ r ∈ ms, r.Nodup) ∧
    ∀ d, d < g.numDE → g.inResult d = true → ∃ r ∈ ms, d ∈ r := by
  obtain ⟨h1, h2⟩ := rings_disjoint_nodup _ (lookup_injective hl) _ _ ms h
  refine ⟨h1, h2, ?_⟩
  intro d hlt hin
  exact rings_cover_candidates _ _ _ ms h d (by simp [List.mem_filter, hlt, hin])

/-- `MaximalEdgeRing::buildMinimalRings`: the minimal rings of a maximal ring are pairwise disjoint, duplicate-free and contain
every edge of the maximal ring. -/
theorem minimal_rings_partition (g : Graph) (ring : List DE) (ms : List (List DE)) (hl : ((minLinks g ring).map (·.2)).Nodup)
    (h : minRings g ring = some ms) :
    ms.Pairwise (fun r1 r2 => ∀ x ∈ r1, x ∉ r2) ∧ (∀ r ∈ ms, r.Nodup) ∧ ∀ d ∈ ring, ∃ r ∈ ms, d ∈ r := by
  obtain ⟨h1, h2⟩ := rings_disjoint_nodup _ (lookup_injective hl) _ _ ms h
  exact ⟨h1, h2, minimal_rings_cover g ring ms h⟩

/-- `PolygonBuilder::findEdgeRingContaining`: the shell a free hole is given to is one of the shells offered and qualifies as a
container (different envelope that contains the hole's, and the first hole point that is not a shell vertex is not exterior to it). -/
theorem container_qualifies (g : Graph) (hole : List DE) (shells : List (List DE)) (s : List DE) (he : Env)
    (henv : envOf (ringPts g hole) = some he) (h : findContaining g hole shells = some s) :
    s ∈ shells ∧ ∃ se, qualifies g (ringPts g hole) he s = some se := by
  unfold findContaining at h
  simp only [henv] at h
  obtain ⟨res, hres, hs⟩ := Option.map_eq_some_iff.mp h
  rcases pickMin_mem g _ he shells none (some res) hres with h1 | ⟨r, hr, hm, hq⟩
  · cases h1
  · cases hr; subst hs; exact ⟨hm, _, hq⟩

/-- … and it is the SMALLEST container: when the envelopes of the qualifying shells are pairwise comparable (shells of a valid
result are nested or apart), the envelope of the chosen shell lies inside the envelope of every qualifying shell — whatever the
order in which the shells are offered. -/
theorem container_is_smallest (g : Graph) (hole : List DE) (shells : List (List DE)) (s : List DE) (he : Env)
    (henv : envOf (ringPts g hole) = some he)
    (hcmp : ∀ a ∈ shells, ∀ b ∈ shells, ∀ ea eb, qualifies g (ringPts g hole) he a = some ea →
      qualifies g (ringPts g hole) he b = some eb → ea.contains eb = true ∨ eb.contains ea = true)
    (h : findContaining g hole shells = some s) :
    ∃ se, qualifies g (ringPts g hole) he s = some se ∧
      ∀ s' ∈ shells, ∀ se', qualifies g (ringPts g hole) he s' = some se' → se'.contains se = true := by
  unfold findContaining at h
  simp only [henv] at h
  obtain ⟨res, hres, hs⟩ := Option.map_eq_some_iff.mp h
  let W : Env → Prop := fun e => ∃ a ∈ shells, qualifies g (ringPts g hole) he a = some e
  have hW : ∀ a b, W a → W b → a.contains b = true ∨ b.contains a = true := by
    intro a b ⟨sa, hsa, hqa⟩ ⟨sb, hsb, hqb⟩
    exact hcmp sa hsa sb hsb a b hqa hqb
  obtain ⟨_, _, h3⟩ := pickMin_min g (ringPts g hole) he W hW shells none res
    (fun s' hs' se hq => ⟨s', hs', hq⟩) (by intro m hm; cases hm) hres
  rcases pickMin_mem g _ he shells none (some res) hres with h1 | ⟨r, hr, _, hq⟩
  · cases h1
  · cases hr; subst hs; exact ⟨_, hq, h3⟩

/-- a free hole is discarded only when no shell qualifies -/
theorem hole_discarded_only_if_uncontained (g : Graph) (hole : List DE) (shells : List (List DE)) (he : Env)
    (henv : envOf (ringPts g hole) = some he) (h : findContaining g hole shells = none) :
    ∀ s ∈ shells, qualifies g (ringPts g hole) he s = none := by
  unfold findContaining at h
  simp only [henv, Option.map_eq_none_iff] at h
  intro s hs
  cases hq : qualifies g (ringPts g hole) he s with
  | none => rfl
  | some se =>
    have hsome := pickMin_isSome g (ringPts g hole) he s (by rw [hq]; rfl) shells none (Or.inr hs)
    rw [h] at hsome
    cases hsome

/-! Non-vacuity: the square (0 0, 8 0, 8 8, 0 8) with the triangular hole (0 0, 4 2, 2 4) touching it in the vertex (0 0)
(one edge per segment, interior on the right of every result edge).  The single maximal ring passes twice through (0 0),
has node degree 4 and is split into the shell and the hole. -/
def touchSquare : Graph := { edges := #[
  ⟨[⟨0, 0⟩, ⟨0, 8⟩], true, false⟩, ⟨[⟨0, 8⟩, ⟨8, 8⟩], true, false⟩, ⟨[⟨8, 8⟩, ⟨8, 0⟩], true, false⟩, ⟨[⟨8, 0⟩, ⟨0, 0⟩], true, false⟩,
  ⟨[⟨0, 0⟩, ⟨4, 2⟩], true, false⟩, ⟨[⟨4, 2⟩, ⟨2, 4⟩], true, false⟩, ⟨[⟨2, 4⟩, ⟨0, 0⟩], true, false⟩] }

example : maxRings touchSquare = some [[0, 2, 4, 6, 8, 10, 12]] := by decide +kernel
example : maxNodeDegree touchSquare [0, 2, 4, 6, 8, 10, 12] = 4 := by decide +kernel
example : assemble touchSquare = some [[0, 2, 4, 6], [8, 10, 12]] := by decide +kernel
example : linksInjective touchSquare = true := by decide +kernel
example : isHole touchSquare [0, 2, 4, 6] = false ∧ isHole touchSquare [8, 10, 12] = true := by decide +kernel
/-- hole placement on two nested frames offered in either order: the inner frame's hole goes to the inner shell -/
def nestedFrames : Graph := { edges := #[
  ⟨[⟨0, 0⟩, ⟨0, 9⟩, ⟨9, 9⟩, ⟨9, 0⟩, ⟨0, 0⟩], true, false⟩, ⟨[⟨1, 1⟩, ⟨8, 1⟩, ⟨8, 8⟩, ⟨1, 8⟩, ⟨1, 1⟩], true, false⟩,
  ⟨[⟨3, 3⟩, ⟨3, 6⟩, ⟨6, 6⟩, ⟨6, 3⟩, ⟨3, 3⟩], true, false⟩, ⟨[⟨4, 4⟩, ⟨5, 4⟩, ⟨5, 5⟩, ⟨4, 5⟩, ⟨4, 4⟩], true, false⟩] }
example : findContaining nestedFrames [6] [[0], [4]] = some [4] ∧ findContaining nestedFrames [6] [[4], [0]] = some [4] ∧
    findContaining nestedFrames [2] [[4], [0]] = some [0] := by decide +kernel
example : (polygons nestedFrames).map (·.map fun p => (p.shell, p.holes)) = some [([0], [[2]]), ([4], [[6]])] := by decide +kernel
/-- walking the maximal ring with the MINIMAL successor (instead of `getNext`) would visit the shell only -/
example : walkFrom (lookup (minLinks touchSquare [0, 2, 4, 6, 8, 10, 12])) 0 14 0 = some [0, 2, 4, 6] := by decide +kernel

end GeosModel.Buffer.Rings
