import GeosModel.Model.Norm.Normalize
import GeosModel.Generated.NormCurve
import GeosModel.Proofs.CxxLoop
/-!
# C20 — the regenerated `SimpleCurve` functions are the ones normalisation is modelled with

`Generated/NormCurve.lean` (spec `norm_curve`, from `src/geom/SimpleCurve.cpp`): `SimpleCurve::isEmpty`, `isClosed`,
`compareToSameClass` and `normalize`, with their `for` loops (through `CxxLoop.forIn_rec`, the model read over the index
range).  `gen_compareToSameClass_eq`: = `cmpSeq`; `gen_normalize_normLinePts`: = `normLinePts` (the direction test of
open curves, the dispatch to `normalizeClosed` for closed ones); `gen_isClosed_eq`: = `isClosedPts`.
The C++ compares `double`s; the regenerated code is instantiated with the integer keys `Cfg.key` of the model.
-/
namespace GeosModel.C20Gen
open GeosModel GeosModel.Norm GeosModel.Generated GeosModel.CxxLoop

/-- a regenerated `CoordinateXY` over integer keys as a keyed point of the model -/
def kpOf (a : Cxx.XY Int) : KP := (a.x, a.y)

theorem genc_compareToXY_eq (a b : Cxx.XY Int) : NormCurve.compareToXY a.x a.y b = cmpPt (kpOf a) (kpOf b) := by
  unfold NormCurve.compareToXY cmpPt lex cmpInt kpOf
  simp only [Id.run, pure, Cxx.gt, Cxx.int_lt, decide_eq_true_eq]
  by_cases h1 : a.x < b.x
  · simp [h1]
  · by_cases h2 : b.x < a.x <;> simp [h1, h2]

theorem genc_equals2D_eq (a b : Cxx.XY Int) : NormCurve.equals2D a.x a.y b = decide (kpOf a = kpOf b) := by
  unfold NormCurve.equals2D kpOf
  simp only [Id.run, pure, Cxx.ne, Cxx.int_eq, Prod.mk.injEq]
  by_cases h1 : a.x = b.x
  · by_cases h2 : a.y = b.y <;> simp [h1, h2]
  · simp [h1]


/-- `SimpleCurve::compareToSameClass` on keyed coordinates is `cmpSeq` (number of points first, then the points) -/
theorem gen_compareToSameClass_eq (p q : List (Cxx.XY Int)) :
    NormCurve.compareToSameClass p ⟨q⟩ = cmpSeq (p.map kpOf) (q.map kpOf) := by
  unfold NormCurve.compareToSameClass cmpSeq
  simp only [Id.run, bind, pure, Std.Legacy.Range.forIn_eq_forIn_range', Std.Legacy.Range.size, Nat.add_one_sub_one,
    Nat.div_one, Nat.sub_zero, List.length_map]
  rcases Nat.lt_trichotomy p.length q.length with h | h | h
  · have hc : cmpInt (p.length : Int) q.length = -1 := by unfold cmpInt; rw [if_pos (by omega)]
    rw [hc, if_neg (by simpa using Nat.le_of_lt h), if_pos (by simpa using h)]; rfl
  · have hc : cmpInt (p.length : Int) q.length = 0 := by unfold cmpInt; rw [if_neg (by omega), if_neg (by omega)]
    rw [hc, if_neg (by simp [h]), if_neg (by simp [h]), lex, if_pos rfl]
    generalize (⟨Cxx.Ring.ofInt 0, Cxx.Ring.ofInt 0⟩ : Cxx.XY Int) = z
    -- the loop leaves with the first non-zero point comparison
    refine Ret.eq (after := fun _ => (0 : Int)) (L := forIn (m := Id) (List.range' 0 ?n) (none, ()) ?F) ?_
    rw [← map_getD_range' p z kpOf, ← map_getD_range' q z kpOf, ← h]
    refine forIn_rec _ (fun (_ : Unit) ks => cmpPts (ks.map fun i => kpOf (p.getD i z)) (ks.map fun i => kpOf (q.getD i z)))
      (fun b _ => b = (none, ())) (Ret fun _ => 0) (fun _ => True) ?_ ?_ _ _ () (fun _ _ => trivial) rfl
    · rintro _ _ rfl
      exact Ret.cont _ _
    · rintro i xs _ _ - rfl
      simp only [List.map_cons, cmpPts, genc_compareToXY_eq]
      generalize p.getD i z = a
      generalize q.getD i z = b
      by_cases hk : cmpPt (kpOf a) (kpOf b) = 0
      · simp only [hk, bne_self_eq_false, Bool.false_eq_true, ↓reduceIte, lex]
        exact ⟨(), trivial, rfl⟩
      · simp only [hk, bne_iff_ne, ne_eq, not_false_eq_true, ↓reduceIte, lex]
        exact Ret.done _ _ _
  · have hc : cmpInt (p.length : Int) q.length = 1 := by unfold cmpInt; rw [if_neg (by omega), if_pos (by omega)]
    rw [hc, if_pos (by simpa using h)]; rfl

/-- `SimpleCurve::isEmpty` on keyed coordinates -/
theorem gen_isEmpty_eq (p : List (Cxx.XY Int)) : NormCurve.isEmpty p = p.isEmpty := by
  simp [NormCurve.isEmpty]

/-- `firstDiff` of the model on keyed points -/
def firstDiffXY : List (Cxx.XY Int × Cxx.XY Int) → Int
  | [] => 0
  | (a, b) :: r => if kpOf a = kpOf b then firstDiffXY r else cmpPt (kpOf a) (kpOf b)

/-- the mirrored pairs `(pts[i], pts[n-1-i])`, `i < k`, read through indices -/
theorem map_mirror {α : Type} (p : List α) (d : α) (k : Nat) (hk : k ≤ p.length) :
    (List.range' 0 k).map (fun i => (p.getD i d, p.getD (p.length - 1 - i) d)) = (p.zip p.reverse).take k := by
  apply List.ext_getElem
  · simp; omega
  · intro i h1 h2
    simp at h1
    simp [List.getElem_zip, List.getElem_reverse, List.getD_eq_getElem?_getD]
    have : i < p.length := by omega
    have : p.length - 1 - i < p.length := by omega
    simp [*]

/-- **`SimpleCurve::normalize`** on keyed coordinates: an empty curve is left alone, a closed one goes to `normalizeClosed`
(`nc`, arbitrary), an open one is reversed exactly when the first differing pair of mirrored points `(pts[i], pts[n-1-i])`,
`i < n/2`, compares greater — the model's `normOpenPts` (`firstDiff` over `(l.zip l.reverse).take (l.length / 2)`). -/
theorem gen_normalize_eq (nc : List (Cxx.XY Int) → List (Cxx.XY Int)) (p : List (Cxx.XY Int)) :
    NormCurve.normalize nc p =
      if p.isEmpty then p else if NormCurve.isClosed p then nc p
      else if firstDiffXY ((p.zip p.reverse).take (p.length / 2)) > 0 then p.reverse else p := by
  unfold NormCurve.normalize
  simp only [Id.run, bind, pure, gen_isEmpty_eq, Std.Legacy.Range.forIn_eq_forIn_range', Std.Legacy.Range.size,
    Nat.add_one_sub_one, Nat.div_one, Nat.sub_zero]
  by_cases h0 : p.isEmpty = true
  · rw [if_pos h0, if_pos h0]
  rw [if_neg h0, if_neg h0]
  by_cases h1 : NormCurve.isClosed p = true
  · rw [if_pos h1, if_pos h1]
  rw [if_neg h1, if_neg h1]
  generalize (⟨Cxx.Ring.ofInt 0, Cxx.Ring.ofInt 0⟩ : Cxx.XY Int) = z
  refine Ret.eq (after := id) (L := forIn (m := Id) (List.range' 0 ?n) (none, p) ?F) ?_
  rw [← map_mirror p z _ (by omega)]
  refine forIn_rec _
    (fun (_ : Unit) ks => if firstDiffXY (ks.map fun i => (p.getD i z, p.getD (p.length - 1 - i) z)) > 0 then p.reverse else p)
    (fun b _ => b = (none, p)) (Ret id) (fun _ => True) ?_ ?_ _ _ () (fun _ _ => trivial) rfl
  · rintro _ _ rfl
    exact Ret.cont _ _
  · rintro i xs _ _ - rfl
    simp only [List.map_cons]
    generalize p.getD i z = a
    generalize p.getD (p.length - 1 - i) z = b
    simp only [firstDiffXY, genc_equals2D_eq, genc_compareToXY_eq]
    by_cases hk : kpOf a = kpOf b
    · simp only [hk, decide_true, Bool.not_true, Bool.false_eq_true, ↓reduceIte]
      exact ⟨(), trivial, rfl⟩
    · simp only [hk, decide_false, Bool.not_false, ↓reduceIte]
      by_cases hc : cmpPt (kpOf a) (kpOf b) > 0
      · simp only [hc, decide_true, ↓reduceIte]
        exact Ret.done _ _ _
      · simp only [hc, decide_false, Bool.false_eq_true, ↓reduceIte]
        exact Ret.done _ _ _
/-! ### the same, stated on the model's own vocabulary (`Cfg`, `Coord`) -/

/-- a coordinate of the model as the regenerated code sees it: its keyed X and Y -/
def toXY (c : Cfg) (a : Coord) : Cxx.XY Int := ⟨c.key a.x, c.key a.y⟩

theorem firstDiffXY_map (c : Cfg) (ps : List (Coord × Coord)) :
    firstDiffXY (ps.map (Prod.map (toXY c) (toXY c))) = firstDiff c ps := by
  induction ps with
  | nil => rfl
  | cons x r ih =>
    obtain ⟨a, b⟩ := x
    -- the keyed point of `toXY c a` is the model's `kp c a`, so the two definitions unfold alike
    have hk : ∀ a, kpOf (toXY c a) = kp c a := fun _ => rfl
    simp only [List.map_cons, Prod.map, firstDiffXY, firstDiff, eqXY, cmpXY, hk, ih]
    by_cases h : kp c a = kp c b <;> simp [h]

/-- `SimpleCurve::isClosed` on the keyed coordinates of a model curve is the model's `isClosedPts` -/
theorem gen_isClosed_eq (c : Cfg) (l : List Coord) : NormCurve.isClosed (l.map (toXY c)) = isClosedPts c l := by
  cases l with
  | nil => simp [NormCurve.isClosed, NormCurve.isEmpty, isClosedPts]
  | cons a t =>
    simp only [NormCurve.isClosed, gen_isEmpty_eq, isClosedPts, eqXY]
    have hl : (toXY c a :: List.map (toXY c) t).getLast (by simp) = toXY c ((a :: t).getLast (by simp)) := by
      have := List.getLast_map (f := toXY c) (l := a :: t) (by simp)
      simpa using this
    simp [genc_equals2D_eq, kpOf, kp, List.getLastD, hl]
    simp only [toXY]
    rfl

/-- **`SimpleCurve::normalize`**, regenerated, is the model's `normLinePts` on the keyed coordinates, for every
`normalizeClosed` that is the model's `normClosedPts` -/
theorem gen_normalize_normLinePts (c : Cfg) (nc : List (Cxx.XY Int) → List (Cxx.XY Int)) (l : List Coord)
    (hnc : nc (l.map (toXY c)) = (normClosedPts c l).map (toXY c)) :
    NormCurve.normalize nc (l.map (toXY c)) = (normLinePts c l).map (toXY c) := by
  rw [gen_normalize_eq, gen_isClosed_eq, hnc]
  unfold normLinePts normOpenPts
  have hz : ((l.map (toXY c)).zip (l.map (toXY c)).reverse).take ((l.map (toXY c)).length / 2)
      = ((l.zip l.reverse).take (l.length / 2)).map (Prod.map (toXY c) (toXY c)) := by
    rw [← List.map_reverse, List.zip_map, List.map_take, List.length_map]
  rw [hz, firstDiffXY_map]
  by_cases h0 : l.isEmpty = true
  · simp [h0]
  · by_cases h1 : isClosedPts c l = true
    · simp [h0, h1]
    · by_cases h2 : firstDiff c ((l.zip l.reverse).take (l.length / 2)) > 0 <;> simp [h0, h1, h2]
/-! non-vacuity: the regenerated code computes (keys as integers; evaluated through the bridges, `for` over a range does not
reduce in the kernel) -/
example : NormCurve.compareToSameClass (R := Int) [⟨0, 0⟩, ⟨1, 5⟩] ⟨[⟨0, 0⟩, ⟨1, 7⟩]⟩ = -1 := by
  rw [gen_compareToSameClass_eq]; decide
example : NormCurve.normalize (R := Int) (fun l => l) [⟨3, 0⟩, ⟨1, 1⟩, ⟨2, 2⟩] = [⟨2, 2⟩, ⟨1, 1⟩, ⟨3, 0⟩] := by
  rw [gen_normalize_eq]; decide
example : NormCurve.isClosed [(⟨3, 0⟩ : Cxx.XY Int), ⟨1, 1⟩, ⟨3, 0⟩] = true := by decide

end GeosModel.C20Gen
