import GeosModel.Proofs.WKT.Keywords
import GeosModel.Generated.WktIO
/-!
# C10 — the regenerated decisions of `WKTWriter` / `WKTReader` / `OrdinateSet` are the ones the model is built from

`Generated/WktIO.lean` is rewritten from `src/io/WKTWriter.cpp`, `src/io/WKTReader.cpp`, `include/geos/io/OrdinateSet.h`,
`include/geos/io/WKTWriter.h` and `src/geom/PrecisionModel.cpp` by `translate/cxx2lean.py` (spec `wkt_io`, parser extensions
`translate/specs/t9_ext.py`) on every run, statement by statement.  Each theorem proves a regenerated function equal to the
piece of the hand-written model (`Model/WKT/Write.lean`, `Model/WKT/Read.lean`, `Model/Num/Fixed.lean`; vocabulary in
`Model/WKT/Cxx.lean`) that the theorems of `Props/C10.lean` are about — for **all** arguments.
-/
set_option linter.unusedSimpArgs false
set_option linter.unusedVariables false
namespace GeosModel.C10Gen
open GeosModel GeosModel.WKT GeosModel.Generated

/-! ## `OrdinateSet.h`: the bit set `m_value` behind the model's `Flags` -/

/-- `OrdinateSet::hasZ()` on the representation `X|Y|Z?|M?` -/
theorem gen_hasZ_eq (f : Flags) : WktIO.hasZ f.value = f.hasZ := by
  rcases f with ⟨z, m, ca⟩; cases z <;> cases m <;> cases ca <;> decide

theorem gen_hasM_eq (f : Flags) : WktIO.hasM f.value = f.hasM := by
  rcases f with ⟨z, m, ca⟩; cases z <;> cases m <;> cases ca <;> decide

/-- `OrdinateSet::size()` = 2 + Z + M -/
theorem gen_size_eq (f : Flags) : WktIO.size f.value = f.size := by
  rcases f with ⟨z, m, ca⟩; cases z <;> cases m <;> cases ca <;> decide

/-- `OrdinateSet::setZ(value)`: toggles the Z bit when it differs and changes are allowed, throws `GEOSException` when
they are not, leaves M and the latch alone -/
theorem gen_setZ_eq (f : Flags) (v : Bool) : WktIO.setZ f.ca f.value v = (f.setZ v).map Flags.value := by
  rcases f with ⟨z, m, ca⟩
  cases z <;> cases m <;> cases ca <;> cases v <;> rfl

theorem gen_setM_eq (f : Flags) (v : Bool) : WktIO.setM f.ca f.value v = (f.setM v).map Flags.value := by
  rcases f with ⟨z, m, ca⟩
  cases z <;> cases m <;> cases ca <;> cases v <;> rfl

/-- the representation is faithful: equal bit sets are equal ordinates (`operator==` compares `m_value` only) -/
theorem value_inj (a b : Flags) : (a.value = b.value) = (a.sameDims b = true) := by
  rcases a with ⟨z, m, ca⟩; rcases b with ⟨z', m', ca'⟩
  cases z <;> cases m <;> cases z' <;> cases m' <;> simp [Flags.value, Flags.sameDims]

/-! ## `WKTWriter` configuration -/

/-- `setRoundingPrecision`: everything below −1 is −1 -/
theorem gen_setRoundingPrecision_eq (rp0 p : Int) : WktIO.setRoundingPrecision rp0 p = clampPrecision p := by
  unfold WktIO.setRoundingPrecision clampPrecision
  simp

/-- `setOutputDimension`: 2, 3, 4 are stored, anything else is an `IllegalArgumentException` -/
theorem gen_setOutputDimension_eq (d0 d : Nat) : WktIO.setOutputDimension d0 d = checkOutputDimension d := by
  unfold WktIO.setOutputDimension checkOutputDimension
  by_cases h : d < 2 ∨ d > 4
  · rcases h with h | h <;> simp [h, throw, throwThe, MonadExceptOf.throw, bind, Except.bind]
  · have h1 : ¬ d < 2 := fun x => h (Or.inl x)
    have h2 : ¬ d > 4 := fun x => h (Or.inr x)
    simp [h1, h2, pure, Except.pure]

theorem gen_setTrim_eq (t0 p : Bool) : WktIO.setTrim t0 p = p := by simp [WktIO.setTrim]
theorem gen_setOld3D_eq (o0 p : Bool) : WktIO.setOld3D o0 p = p := by simp [WktIO.setOld3D]

/-! ## the number of decimals: `writeFormatted` selects, `writeNumber(d)` clamps -/

/-- the statement of `writeFormatted` that sets `decimalPlaces` followed by the clamp in `writeNumber(double)`: every ordinate is
formatted by `writeNumber(d, trim, p)` with `p = decimalPlaces cfg` — the rounding precision, or the precision model's
`getMaximumSignificantDigits()` when it is −1, and 0 when that is negative.  `hpm` says what `cfg.pmDigits` stands for. -/
theorem gen_decimalPlaces_eq {D G PM : Type} (wn3 : D → Bool → Nat → String) (gmsd : PM → Int) (gpm : G → PM) (cfg : Cfg)
    (g : G) (dp0 : Int) (pf : Bool) (w : Writer) (d : D) (hpm : gmsd (gpm g) = cfg.pmDigits) :
    WktIO.writeNumber1 wn3 (WktIO.writeFormatted_decimalPlaces gmsd gpm cfg.precision dp0 g pf w) cfg.trim d
      = wn3 d cfg.trim (decimalPlaces cfg) := by
  -- the clamp of `writeNumber(double)` is what `Int.toNat` does anyway
  have clamp : ∀ x : Int, (if decide (x ≥ 0) = true then x.toNat else 0) = x.toNat := fun x => by
    by_cases h : x ≥ 0 <;> simp [h]; omega
  simp only [WktIO.writeNumber1, WktIO.writeFormatted_decimalPlaces, decimalPlaces, Id.run, clamp, hpm, beq_iff_eq]
  split <;> rfl

/-- with the model's number formatter as `writeNumber(d, trim, p)` this is the text `tokStr` gives a number token -/
theorem gen_writeNumber_tokStr {G PM : Type} (gmsd : PM → Int) (gpm : G → PM) (cfg : Cfg) (g : G) (dp0 : Int) (pf : Bool)
    (w : Writer) (b : UInt64) (hpm : gmsd (gpm g) = cfg.pmDigits) :
    WktIO.writeNumber1 (fun (b : UInt64) t p => String.ofList (Num.writeNumber b.toNat t p))
        (WktIO.writeFormatted_decimalPlaces gmsd gpm cfg.precision dp0 g pf w) cfg.trim b
      = String.ofList (tokStr cfg (.num b)) := by
  rw [gen_decimalPlaces_eq _ _ _ _ _ _ _ _ _ hpm]; rfl

/-- `PrecisionModel::getMaximumSignificantDigits()`: 16 for FLOATING — the default of `Cfg.pmDigits` -/
theorem gen_getMaximumSignificantDigits_floating {D : Type} (dOfInt : Int → D) (dlt : D → D → Bool) (ddiv : D → D → D)
    (dlit : Int → Int → D) (dtoInt : D → Int) (log : D → D) (scale : D) (ceil floor : D → D) :
    WktIO.getMaximumSignificantDigits dOfInt dlt ddiv dlit dtoInt log scale ceil floor .floating = ({} : Cfg).pmDigits := by
  simp [WktIO.getMaximumSignificantDigits]

/-- 6 for FLOATING_SINGLE -/
theorem gen_getMaximumSignificantDigits_single {D : Type} (dOfInt : Int → D) (dlt : D → D → Bool) (ddiv : D → D → D)
    (dlit : Int → Int → D) (dtoInt : D → Int) (log : D → D) (scale : D) (ceil floor : D → D) :
    WktIO.getMaximumSignificantDigits dOfInt dlt ddiv dlit dtoInt log scale ceil floor .floatingSingle = 6 := by
  simp [WktIO.getMaximumSignificantDigits]

/-- for FIXED: `l = log(scale) / log(10.0)` rounded away from zero (`ceil` when positive, else `floor`) and cast to `int` —
the value the harness hands the model as `pmDigits` (stream wkt-write-seq) -/
theorem gen_getMaximumSignificantDigits_fixed {D : Type} (dOfInt : Int → D) (dlt : D → D → Bool) (ddiv : D → D → D)
    (dlit : Int → Int → D) (dtoInt : D → Int) (log : D → D) (scale : D) (ceil floor : D → D) :
    WktIO.getMaximumSignificantDigits dOfInt dlt ddiv dlit dtoInt log scale ceil floor .fixed
      = fixedDigits dlt dtoInt ceil floor (dOfInt 0) (ddiv (log scale) (log (dlit 1 1))) := by
  simp [WktIO.getMaximumSignificantDigits, fixedDigits]

/-! ## which ordinates a tagged geometry is written with, and the tag text -/

/-- the first part of `appendGeometryTaggedText` (declared dimensions, then the `while` loop that drops M, then Z and M, until
the output dimension is met) is the model's `capOrds`, for every output dimension `setOutputDimension` lets in; two iterations
of the loop suffice; `removeEmptyDimensions` is at its default.  The ordinate set is still open for changes. -/
theorem gen_ordinates_eq {G COF : Type} (gIsEmpty gHasZ gHasM : G → Bool) (cofNew : Flags → COF) (applyRo : G → COF → COF)
    (cofFound : COF → Flags) (d : Nat) (hd : 2 ≤ d) (g : G) (chk : Flags) (level : Int) (w : Writer) :
    WktIO.appendGeometryTaggedText_ordinates gIsEmpty gHasZ gHasM cofNew applyRo cofFound 2 false (d : Int) g chk level w
      = .ok { z := (capOrds d ⟨gHasZ g, gHasM g⟩).z, m := (capOrds d ⟨gHasZ g, gHasM g⟩).m, ca := true } := by
  have hr : List.range' 0 2 = [0, 1] := rfl
  simp only [WktIO.appendGeometryTaggedText_ordinates]
  generalize gHasZ g = z
  generalize gHasM g = m
  -- `d` is 2, 3, or so large that every test of the loop is decided by `4 ≤ d`
  obtain rfl | rfl | h4 : d = 2 ∨ d = 3 ∨ 4 ≤ d := by omega
  case inr.inr =>
    have i4 : (4 : Int) ≤ d := by omega
    have i3 : (3 : Int) ≤ d := by omega
    have i2 : (2 : Int) ≤ d := by omega
    have n4 : ¬ d < 4 := by omega
    have m3 : ¬ d < 3 := by omega
    cases z <;> cases m <;>
      simp [capOrds, Flags.createXY, Flags.size, Flags.hasM, Flags.hasZ, Flags.setM, Flags.setZ, pure, Except.pure, bind,
        Except.bind, throw, throwThe, MonadExceptOf.throw, *]
  all_goals
    cases z <;> cases m <;>
      simp [capOrds, Flags.createXY, Flags.size, Flags.hasM, Flags.hasZ, Flags.setM, Flags.setZ, hr, pure, Except.pure, bind,
        Except.bind]

/-- `appendOrdinateText` only appends -/
theorem gen_appendOrdinateText_append (old3D : Bool) (w0 w : Writer) (f : Flags) :
    WktIO.appendOrdinateText old3D w0 f w = w ++ WktIO.appendOrdinateText old3D w0 f [] := by
  rcases f with ⟨z, m, ca⟩
  cases old3D <;> cases z <;> cases m <;> simp [WktIO.appendOrdinateText, Writer.write, Flags.hasZ, Flags.hasM]

/-- … and what it appends is the text the model's `render` lays out for the tag tokens `ordText`: nothing, `Z `, `M `, `ZM `, or
with the old-3D convention only `M ` for XYM -/
theorem gen_appendOrdinateText_eq (cfg : Cfg) (w0 : Writer) (f : Flags) :
    Writer.text (WktIO.appendOrdinateText cfg.old3D w0 f []) = ordTextStr cfg f.ords := by
  rcases f with ⟨z, m, ca⟩
  rcases cfg with ⟨t, p, od, o3, pd⟩
  cases o3 <;> cases z <;> cases m <;>
    simp [WktIO.appendOrdinateText, Writer.write, Writer.text, Flags.hasZ, Flags.hasM, Flags.ords, ordTextStr, ordText, tokStr] <;> decide

/-- `appendCoordinate` writes X and Y, then Z and M exactly when the output ordinates have them, separated by single blanks:
the number tokens of the model's `coordToks`, in order -/
theorem gen_appendCoordinate_eq (wn : UInt64 → String) (w0 w : Writer) (c : Coord) (f : Flags) :
    WktIO.appendCoordinate wn w0 (XYZM.ofCoord c) f w
      = w ++ List.intersperse " " ((coordToks f.ords c).filterMap fun t => match t with | .num b => some (wn b) | _ => none) := by
  rcases f with ⟨z, m, ca⟩
  cases z <;> cases m <;>
    simp [WktIO.appendCoordinate, Writer.write, Flags.hasZ, Flags.hasM, Flags.ords, coordToks, XYZM.ofCoord, List.intersperse]

/-! ## `writeTrimmedNumber`: which formatting a double gets -/
section Number
open GeosModel.Num

/-- the `double` literals of `writeTrimmedNumber` (0.0, 1e+17, 1e-4, 1.0), converted as the compiler does (correct rounding), are
the bit patterns the model's `notationOf` / `adjPrecision` compare with -/
theorem lit_bits : litB 0 0 = 0 ∧ litB 1 17 = bits1e17 ∧ litB 1 (-4) = bits1em4 ∧ litB 1 0 = bits1 := by
  refine ⟨?_, ?_, ?_, ?_⟩ <;> decide +kernel

/-- the IEEE-754 comparisons of two non-negative non-NaN patterns are the comparisons of the patterns -/
theorem cmpB_pos (a c : Nat) (ha : absBits a = a) (hs : signOf a = false) (hn : a ≤ INF)
    (hc : absBits c = c) (hsc : signOf c = false) (hnc : c ≤ INF) :
    ltB a c = decide (a < c) ∧ leB c a = decide (c ≤ a) := by
  have h1 : ¬ a > INF := by omega
  have h2 : ¬ c > INF := by omega
  simp only [leB, ltB, eqB, isNaNB, ha, hc, hs, hsc, h1, h2, decide_false, Bool.or_false, Bool.false_eq_true, if_false]
  refine ⟨trivial, ?_⟩
  rw [Bool.eq_iff_iff]
  simp only [Bool.or_eq_true, Bool.and_eq_true, decide_eq_true_eq, beq_iff_eq]
  omega

/-- `writeTrimmedNumber` for any `fabs` / `isfinite` / formatter, in terms of `a = |d|` as a pattern -/
theorem writeTrimmedNumber_core {S : Type} (fabs : Nat → Nat) (isfinite : Nat → Bool) (dneg floor log10 : Nat → Nat) (dtoU32 : Nat → Nat)
    (d2sfixed d2sexp : Nat → Nat → Unit → S) (bits a precision : Nat) (buf : Unit)
    (h1 : fabs bits = a) (h2 : isfinite bits = decide (a < INF)) (ha : absBits a = a) (hs : signOf a = false)
    (hlog : ∀ a, bits1em4 ≤ a → a < bits1 → dtoU32 (dneg (floor (log10 a))) = higherPrec a) :
    WktIO.writeTrimmedNumber fabs isfinite eqB litB leB ltB dneg dtoU32 floor log10 d2sfixed d2sexp bits precision buf
      = match (if a ≥ INF ∨ a = 0 then Notation.special else if a ≥ bits1e17 ∨ a < bits1em4 then .sci else .fixed) with
        | .special => d2sfixed bits precision buf
        | .sci => d2sexp bits precision buf
        | .fixed => d2sfixed bits (adjPrecision a precision) buf := by
  obtain ⟨l0, l17, lm4, l1⟩ := lit_bits
  unfold WktIO.writeTrimmedNumber
  simp only [l0, l17, lm4, l1, h1, h2, Id.run]
  by_cases hfin : a < INF
  · have e0 : eqB a 0 = decide (a = 0) := by
      have : ¬ a > INF := by omega
      simp [eqB, isNaNB, ha, this, show absBits 0 = 0 from rfl]
      cases a <;> rfl
    obtain ⟨_, k17⟩ := cmpB_pos a bits1e17 ha hs (by omega) (by decide) (by decide) (by decide)
    obtain ⟨km4, _⟩ := cmpB_pos a bits1em4 ha hs (by omega) (by decide) (by decide) (by decide)
    obtain ⟨k1, _⟩ := cmpB_pos a bits1 ha hs (by omega) (by decide) (by decide) (by decide)
    simp only [e0, k17, km4, k1, hfin, decide_true, Bool.not_true, Bool.false_or, show ¬ a ≥ INF by omega, false_or]
    simp only [decide_eq_true_eq, Bool.or_eq_true, Bool.and_eq_true]
    split
    · rfl
    · split
      · rfl
      · unfold adjPrecision
        split
        · rename_i hp
          rw [hlog a (by omega) hp.2]
          split
          · rw [Nat.max_eq_right (by omega)]; rfl
          · rw [Nat.max_eq_left (by omega)]; rfl
        · rfl
  · simp [hfin, show a ≥ INF by omega]
    rfl
/-- `WKTWriter::writeTrimmedNumber` with doubles read as 64-bit patterns (`fabs` clears the sign bit, `isfinite` / `==` / `>=` /
`<` are the IEEE-754 predicates on patterns, literals are correctly rounded) and `geos_d2sfixed_buffered_n` /
`geos_d2sexp_buffered_n` as the model's `d2sFixed` / `d2sExp`, is the model's `writeTrimmedNumber` — the function all `fmt_*`
theorems of `Props/C10.lean` are about: non-finite and zero → fixed; `|d| ≥ 1e17` or `< 1e-4` → scientific; otherwise fixed
with the precision raised to `-floor(log10 |d|)` when `precision < 4` and `|d| < 1`.
`hlog`: the model computes `-floor(log10 a)` exactly (`higherPrec`), the C++ through libm (compared on every case of stream fmt). -/
theorem gen_writeTrimmedNumber_eq (dneg floor log10 : Nat → Nat) (dtoU32 : Nat → Nat) (bits precision : Nat) (buf : Unit)
    (hlog : ∀ a, bits1em4 ≤ a → a < bits1 → dtoU32 (dneg (floor (log10 a))) = higherPrec a) :
    WktIO.writeTrimmedNumber fabsB isFiniteB eqB litB leB ltB dneg dtoU32 floor log10
        (fun b p (_ : Unit) => d2sFixed b p) (fun b p _ => d2sExp b p) bits precision buf
      = Num.writeTrimmedNumber bits precision := by
  have ha : absBits (absBits bits) = absBits bits := by unfold absBits; omega
  have hs : signOf (absBits bits) = false := by
    unfold signOf absBits; simp
  rw [writeTrimmedNumber_core fabsB isFiniteB dneg floor log10 dtoU32 _ _ bits (absBits bits) precision buf rfl rfl ha hs hlog]
  rfl

/-- non-vacuity of `hlog` (an exact `-floor(log10 ·)` satisfies it) and the bridge at work: 0.5 at precision 0 is written `0.5` -/
example : ∃ dneg floor log10 dtoU32 : Nat → Nat, ∀ a, bits1em4 ≤ a → a < bits1 → dtoU32 (dneg (floor (log10 a))) = higherPrec a :=
  ⟨id, id, id, higherPrec, fun _ _ _ => rfl⟩
example : WktIO.writeTrimmedNumber fabsB isFiniteB eqB litB leB ltB id higherPrec id id
    (fun b p (_ : Unit) => d2sFixed b p) (fun b p _ => d2sExp b p) 0x3fe0000000000000 0 () = "0.5".toList := by
  rw [gen_writeTrimmedNumber_eq id id id higherPrec _ _ _ (fun _ _ _ => rfl)]; decide +kernel

end Number

/-! ## `WKTReader`: dimension tags and undeclared dimensions -/

/-- `WKTReader::isTypeName(type, typeName)`: the keyword itself or the keyword with a glued `Z`, `M` or `ZM` (the length tests
are implied by the string comparisons) -/
theorem gen_isTypeName_eq (w n : String) :
    WktIO.isTypeName w n = decide (w = n ∨ w = n.push 'Z' ∨ w = n.push 'M' ∨ w = n ++ "ZM") := by
  have l2 : "ZM".length = 2 := by decide
  unfold WktIO.isTypeName
  by_cases h0 : w = n
  · simp [h0]
  · by_cases h1 : w = n.push 'Z'
    · simp [h1, String.length_push]
    · by_cases h2 : w = n.push 'M'
      · simp [h2, String.length_push]
      · by_cases h3 : w = n ++ "ZM"
        · simp [h3, String.length_append, l2]
        · simp [h0, h1, h2, h3]

theorem okIs_iff (r : Except String Flags) (f : Flags) : okIs r f = true ↔ r = .ok f := by
  cases r <;> simp [okIs]

/-- (the unused binder the translator creates for an in/out parameter) -/
theorem readOrdinateFlags_dummy (f0 : Flags) (s : String) (f : Flags) :
    WktIO.readOrdinateFlags f0 s f = WktIO.readOrdinateFlags {} s f := rfl

theorem push_Z (n : String) : n.push 'Z' = n ++ "Z" := rfl
theorem push_M (n : String) : n.push 'M' = n ++ "M" := rfl

/-- `isTypeName` accepts the four spellings of any keyword -/
theorem isTypeName_tag (n : String) : ∀ sf ∈ tagSuffixes, WktIO.isTypeName (n ++ sf.1) n = true := by
  simp [tagSuffixes, gen_isTypeName_eq, push_Z, push_M]

/-- what `readOrdinateFlags` looks at: the last character, and the one before a final `M` -/
theorem endsWith_facts (n : String) (hZ : endsWithC n 'Z' = false) (hM : endsWithC n 'M' = false) :
    endsWithS n "ZM" = false ∧ endsWithS (n ++ "Z") "ZM" = false ∧ endsWithS (n ++ "M") "ZM" = false ∧
      endsWithS (n ++ "ZM") "ZM" = true ∧ endsWithC (n ++ "Z") 'M' = false ∧ endsWithC (n ++ "Z") 'Z' = true ∧
      endsWithC (n ++ "M") 'M' = true := by
  simp only [endsWithS, endsWithC, String.toList_append, List.isSuffixOf, List.getLast?_eq_head?_reverse,
    List.reverse_append] at *
  generalize n.toList.reverse = r at *
  have e : "ZM".toList = ['Z', 'M'] ∧ "Z".toList = ['Z'] ∧ "M".toList = ['M'] := ⟨rfl, rfl, rfl⟩
  -- on the reversed characters `x :: r` of `n` every claim is a comparison of `x` with `'Z'` and `'M'`
  rcases r with _ | ⟨x, r⟩ <;> simp_all [List.isPrefixOf, @eq_comm _ 'M', @eq_comm _ 'Z']

/-- glued to any keyword that does not itself end in `Z` or `M`, the four suffixes give `readOrdinateFlags` (started from
`createXY()`) the flags `tagSuffixes` lists -/
theorem readOrdinateFlags_tag (n : String) (hZ : endsWithC n 'Z' = false) (hM : endsWithC n 'M' = false) :
    ∀ sf ∈ tagSuffixes, WktIO.readOrdinateFlags {} (n ++ sf.1) Flags.createXY = .ok sf.2 := by
  obtain ⟨h1, h2, h3, h4, h5, h6, h7⟩ := endsWith_facts n hZ hM
  simp [tagSuffixes, WktIO.readOrdinateFlags, *, Flags.createXY, Flags.setZ, Flags.setM, Flags.setChangesAllowed, bind,
    Except.bind, pure, Except.pure]

/-- **tags.**  For each of the thirteen type keywords and each of the four spellings, the regenerated `readOrdinateFlags` started
from `createXY()` (as `readGeometryTaggedText` does) returns exactly the flags of the model's `matchType` — declared Z / M and
`changesAllowed = false`, or untouched XY with changes allowed for the bare keyword — and `isTypeName` accepts the spelling -/
theorem gen_readOrdinateFlags_tags :
    ∀ n ∈ typeNames, ∀ sf ∈ tagSuffixes,
      okIs (WktIO.readOrdinateFlags {} (n ++ sf.1) Flags.createXY) sf.2 = true ∧ matchType (n ++ sf.1) = some (n, sf.2) ∧
        WktIO.isTypeName (n ++ sf.1) n = true := fun n hn sf hsf =>
  ⟨(okIs_iff _ _).mpr (readOrdinateFlags_tag n (typeNames_end n hn).1 (typeNames_end n hn).2 sf hsf),
    matchType_tags n hn sf hsf, isTypeName_tag n sf hsf⟩

/-- a chain of four tests that ends in `none` yields `none` exactly when all four fail -/
theorem ite4_none {α : Type} (a b c d : Prop) [Decidable a] [Decidable b] [Decidable c] [Decidable d] (x y z u : α) :
    (if a then some x else if b then some y else if c then some z else if d then some u else none) = none ↔
      ¬ (a ∨ c ∨ d ∨ b) := by
  by_cases a <;> by_cases b <;> by_cases c <;> by_cases d <;> simp [*]

/-- a word that is no tag spelling of any of the thirteen keywords is rejected by every `isTypeName` test of
`readGeometryTaggedText` ("Unknown type" unless it is a bare EMPTY where one is allowed) — and conversely -/
theorem matchType_none_iff (w : String) : matchType w = none ↔ ∀ n ∈ typeNames, WktIO.isTypeName w n = false := by
  simp only [matchType, List.findSome?_eq_none_iff, ite4_none, gen_isTypeName_eq, decide_eq_false_iff_not, push_Z, push_M]

/-- "Cannot mix dimensionality in a geometry": exactly the test `readTagged` applies after the specific reader returns -/
theorem gen_mixCheck_eq {TS GT : Type} (orig nf : Flags) (t : TS) (f : Flags) (e : GT) :
    WktIO.readGeometryTaggedText_mixCheck orig nf t f e
      = if !orig.ca && !(nf.sameDims orig) then .error "ParseException" else .ok () := by
  unfold WktIO.readGeometryTaggedText_mixCheck
  cases hc : orig.ca <;> cases hd : nf.sameDims orig <;>
    simp [hc, hd, Flags.changesAllowed, Flags.ne, throw, throwThe, MonadExceptOf.throw, pure, Except.pure, bind, Except.bind]

/-- the flags a tagged geometry starts with: a bare `EMPTY` inherits the caller's, anything else starts from XY and takes what
`readOrdinateFlags` finds glued to the keyword -/
theorem gen_flags_eq {TS GT : Type} (rof : String → Flags → Except String Flags) (type : String) (t : TS) (fl : Flags) (e : GT) :
    WktIO.readGeometryTaggedText_flags rof type t fl e
      = if type = "EMPTY" then .ok (fl, fl) else (rof type Flags.createXY).map (fun nf => (fl, nf)) := by
  unfold WktIO.readGeometryTaggedText_flags
  by_cases h : type = "EMPTY"
  · simp [h, pure, Except.pure]
  · cases hr : rof type Flags.createXY <;> simp [h, hr, pure, Except.pure, bind, Except.bind, Except.map]

/-- `getNextNumber` is the model's `getNum` (every failure is a `ParseException`) -/
theorem getNextNumber_eq (ts : List Tok) : getNextNumber ts = liftP (getNum ts) := by
  rcases ts with _ | ⟨t, r⟩
  · rfl
  · cases t <;> rfl

/-- a setter guarded by `changesAllowed` cannot throw: it is the model's conditional update -/
theorem setZ_guard {α : Type} (fl : Flags) (b : Bool) (k : Flags → Except String α) :
    (if (fl.changesAllowed && b) = true then fl.setZ true >>= k else k fl) =
      k (if (fl.ca && b) = true then { fl with z := true } else fl) := by
  rcases fl with ⟨z, m, ca⟩
  cases ca <;> cases b <;> cases z <;> rfl
theorem setM_guard {α : Type} (fl : Flags) (b : Bool) (k : Flags → Except String α) :
    (if (fl.changesAllowed && fl.hasZ && b) = true then fl.setM true >>= k else k fl) =
      k (if (fl.ca && fl.z && b) = true then { fl with m := true } else fl) := by
  rcases fl with ⟨z, m, ca⟩
  cases ca <;> cases b <;> cases z <;> cases m <;> rfl

/-- `getPreciseCoordinate` after X, Y and Z (setters already resolved by the guard lemmas): an undeclared M, the M ordinate -/
def genM (fl : Flags) (tok : List Tok) (c : XYZM UInt64) : Except String (List Tok × Flags × XYZM UInt64) :=
  let fl := if fl.ca && fl.z && isNumNext tok then { fl with m := true } else fl
  if fl.m then do
    let r ← getNextNumber tok
    pure (r.2, fl.setChangesAllowed false, { c with m := r.1 })
  else pure (tok, fl.setChangesAllowed false, c)

/-- … after X and Y: an undeclared Z, the Z ordinate, then `genM` -/
def genZ (fl : Flags) (tok : List Tok) (c : XYZM UInt64) : Except String (List Tok × Flags × XYZM UInt64) :=
  let fl := if fl.ca && isNumNext tok then { fl with z := true } else fl
  if fl.z then do
    let r ← getNextNumber tok
    genM fl r.2 { c with z := r.1 }
  else genM fl tok c

/-- the same two stages of the model's `getCoord` -/
def modM (fl : Flags) (x y z : UInt64) (ts : List Tok) : P ((Coord × Flags) × List Tok) := do
  let fl := if fl.ca && fl.z && isNumNext ts then { fl with m := true } else fl
  let (m, ts) ← if fl.m then getNum ts else pure (nanBits, ts)
  pure ((⟨x, y, z, m⟩, { fl with ca := false }), ts)

def modZ (fl : Flags) (x y : UInt64) (ts : List Tok) : P ((Coord × Flags) × List Tok) := do
  let fl := if fl.ca && isNumNext ts then { fl with z := true } else fl
  let (z, ts) ← if fl.z then getNum ts else pure (nanBits, ts)
  modM fl x y z ts

abbrev coordOut (r : P ((Coord × Flags) × List Tok)) : Except String (List Tok × Flags × XYZM UInt64) :=
  (liftP r).map fun r => (r.2, r.1.2, XYZM.ofCoord r.1.1)

theorem genM_eq (fl : Flags) (tok : List Tok) (x y z m : UInt64) (hm : fl.m = true ∨ m = nanBits) :
    genM fl tok ⟨x, y, z, m⟩ = coordOut (modM fl x y z tok) := by
  unfold genM modM
  generalize hfl : (if (fl.ca && fl.z && isNumNext tok) = true then { fl with m := true } else fl) = fl'
  have hm' : fl'.m = true ∨ m = nanBits := by subst hfl; split <;> simp [hm]
  clear hfl hm
  rw [getNextNumber_eq]
  obtain ⟨z', m', ca'⟩ := fl'
  cases m'
  · obtain rfl : m = nanBits := by simpa using hm'
    rfl
  · cases getNum tok <;> rfl

theorem genZ_eq (fl : Flags) (tok : List Tok) (x y z m : UInt64) (hz : fl.z = true ∨ z = nanBits)
    (hm : fl.m = true ∨ m = nanBits) : genZ fl tok ⟨x, y, z, m⟩ = coordOut (modZ fl x y tok) := by
  unfold genZ modZ
  generalize hfl : (if (fl.ca && isNumNext tok) = true then { fl with z := true } else fl) = fl'
  have hz' : fl'.z = true ∨ z = nanBits := by subst hfl; split <;> simp [hz]
  have hm' : fl'.m = true ∨ m = nanBits := by subst hfl; split <;> simp [hm]
  clear hfl hz hm
  rw [getNextNumber_eq]
  obtain ⟨z', m', ca'⟩ := fl'
  cases z'
  · obtain rfl : z = nanBits := by simpa using hz'
    exact genM_eq _ tok x y _ m hm'
  · cases getNum tok with
    | error e => rfl
    | ok r => exact genM_eq _ r.2 x y r.1 m hm'

/-- **`getPreciseCoordinate` is the model's `getCoord`**: X, Y; an undeclared Z is taken when a third number follows and the flags
are still open; an undeclared M when a fourth follows a Z; the flags are closed afterwards.  `makePrecise` is the identity
(floating precision model).  The C++ re-uses one `coord` object for all coordinates of a sequence; ordinates it does not read
keep their old value, which is NaN as long as the corresponding flag is off (`hz`, `hm`: it starts as (0, 0, NaN, NaN)). -/
theorem gen_getPreciseCoordinate_eq {PM : Type} (pm : PM) (ts0 : List Tok) (f0 : Flags) (c00 : XYZM UInt64)
    (ts : List Tok) (fl : Flags) (c0 : Coord) (hz : fl.z = true ∨ c0.z = nanBits) (hm : fl.m = true ∨ c0.m = nanBits) :
    WktIO.getPreciseCoordinate getNextNumber isNumberNext (fun _ c => c) pm ts0 f0 c00 ts fl (XYZM.ofCoord c0)
      = (liftP (getCoord fl ts)).map (fun r => (r.2, r.1.2, XYZM.ofCoord r.1.1)) := by
  unfold WktIO.getPreciseCoordinate
  -- `zeta := false`: the guard lemmas match a continuation `k` only while it is still the `have`-bound variable
  simp (config := { zeta := false }) only [setZ_guard, setM_guard]
  show (do let r1 ← getNextNumber ts
           let r2 ← getNextNumber r1.2
           genZ fl r2.2 ⟨r1.1, r2.1, c0.z, c0.m⟩) =
        coordOut (do let (x, ts) ← getNum ts
                     let (y, ts) ← getNum ts
                     modZ fl x y ts)
  rw [getNextNumber_eq]
  cases getNum ts with
  | error e => rfl
  | ok v1 =>
    obtain ⟨x, ts1⟩ := v1
    show (do let r2 ← getNextNumber ts1
             genZ fl r2.2 ⟨x, r2.1, c0.z, c0.m⟩) =
          coordOut (do let (y, ts) ← getNum ts1
                       modZ fl x y ts)
    rw [getNextNumber_eq]
    cases getNum ts1 with
    | error e => rfl
    | ok v2 => exact genZ_eq fl v2.2 x v2.1 c0.z c0.m hz hm

/-- the end of `getNextEmptyOrOpener`: the word just read must be `EMPTY` or `(` -/
def genFin (fl : Flags) (w : String × List Tok) : Except String (String × List Tok × Flags) :=
  if w.1 == "EMPTY" || w.1 == "(" then pure (w.1, w.2, fl) else throw "ParseException"

/-- how the bridge reports the model's result -/
abbrev eooOut (r : P ((Bool × Flags) × List Tok)) : Except String (String × List Tok × Flags) :=
  (liftP r).map fun r => (if r.1.1 then "EMPTY" else "(", r.2, r.1.2)

theorem genFin_eq (fl : Flags) (ts : List Tok) (hw : ∀ s, Tok.word s ∈ ts → s ≠ "(") :
    getNextWord ts >>= genFin fl = eooOut (eooFin fl ts) := by
  rcases ts with _ | ⟨t, r⟩
  · rfl
  · cases t with
    | word s =>
      have hs : s ≠ "(" := hw s (.head _)
      by_cases h : s = "EMPTY"
      · subst h; rfl
      · simp [genFin, eooFin, eooOut, getNextWord, h, hs, liftP, Err.name, Except.map, bind, Except.bind, throw, throwThe,
          MonadExceptOf.throw]
    | _ => rfl

/-- the test for a second `M` is subsumed by the final test: `M` is neither `EMPTY` nor `(` -/
theorem genFin_M (fl : Flags) (w : String × List Tok) :
    (if w.1 == "M" then .error "ParseException" else genFin fl w) = genFin fl w := by
  by_cases h : w.1 = "M"
  · simp [genFin, h]; rfl
  · simp [h]

theorem setZ_open (z m : Bool) : Flags.setZ ⟨z, m, true⟩ true = .ok ⟨true, m, true⟩ := by cases z <;> rfl
theorem setM_open (z m : Bool) : Flags.setM ⟨z, m, true⟩ true = .ok ⟨z, true, true⟩ := by cases m <;> rfl

/-- **`getNextEmptyOrOpener` is the model's `emptyOrOpener`** — the Z / M / ZM state machine: `ZM`, `Z`, `M` are accepted only while
the flags are open and at most once (`Z M` is an error), set the flags and close them; then `EMPTY` or `(` must follow.
`hw`: the tokenizer never makes a word of a parenthesis (it is a delimiter). -/
theorem gen_getNextEmptyOrOpener_eq (ts0 : List Tok) (f0 : Flags) (ts : List Tok) (fl : Flags)
    (hw : ∀ s, Tok.word s ∈ ts → s ≠ "(") :
    WktIO.getNextEmptyOrOpener getNextWord ts0 f0 ts fl
      = (liftP (emptyOrOpener fl ts)).map (fun r => (if r.1.1 then "EMPTY" else "(", r.2, r.1.2)) := by
  rcases ts with _ | ⟨t, r⟩
  · rfl
  have hr : ∀ s, Tok.word s ∈ r → s ≠ "(" := fun s h => hw s (.tail _ h)
  rcases fl with ⟨z, m, ca⟩
  by_cases hZM : t = .word "ZM"
  · subst hZM
    rw [emptyOrOpener_ZM]
    cases ca
    · rfl
    · show (do let f1 ← Flags.setZ ⟨z, m, true⟩ true
               let f2 ← f1.setM true
               getNextWord r >>= genFin (f2.setChangesAllowed false)) = eooOut (eooFin ⟨true, true, false⟩ r)
      rw [setZ_open, ← genFin_eq _ r hr]
      simp only [bind, Except.bind, setM_open]
      rfl
  by_cases hZ : t = .word "Z"
  · subst hZ
    cases ca
    · rfl
    · rw [emptyOrOpener_Z]
      show (do let f1 ← Flags.setZ ⟨z, m, true⟩ true
               let w ← getNextWord r
               if w.1 == "M" then .error "ParseException" else genFin (f1.setChangesAllowed false) w) =
          eooOut (eooFin ⟨true, m, false⟩ r)
      rw [setZ_open, ← genFin_eq _ r hr]
      simp only [bind, Except.bind, genFin_M]
      rfl
  by_cases hM : t = .word "M"
  · subst hM
    rw [emptyOrOpener_M]
    cases ca
    · rfl
    · show (do let f1 ← Flags.setM ⟨z, m, true⟩ true
               getNextWord r >>= genFin (f1.setChangesAllowed false)) = eooOut (eooFin ⟨z, true, false⟩ r)
      rw [setM_open, ← genFin_eq _ r hr]
      rfl
  -- no dimension word: the word just read is the one that must be `EMPTY` or `(`
  rw [emptyOrOpener_other _ t r hZM hZ hM]
  refine Eq.trans ?_ (genFin_eq _ _ hw)
  cases t with
  -- `s` is none of `ZM`, `Z`, `M`: all three tests fail and `s` itself goes to the end test
  | word s => simp_all [WktIO.getNextEmptyOrOpener, getNextWord, genFin, bind, Except.bind]
  | _ => rfl

/-! non-vacuity: the hypotheses of the reader bridges hold on real token lists, and the regenerated functions compute -/
example : (∀ s, Tok.word s ∈ [Tok.word "ZM", .lp, .num 1, .num 2, .num 3, .num 4, .rp] → s ≠ "(") ∧
    WktIO.getNextEmptyOrOpener getNextWord [] {} [Tok.word "ZM", .lp, .num 1, .num 2, .num 3, .num 4, .rp] {} =
      .ok ("(", [.num 1, .num 2, .num 3, .num 4, .rp], { z := true, m := true, ca := false }) := by
  have hw : ∀ s, Tok.word s ∈ [Tok.word "ZM", .lp, .num 1, .num 2, .num 3, .num 4, .rp] → s ≠ "(" := by
    intro s h; simp at h; subst h; decide
  exact ⟨hw, by rw [gen_getNextEmptyOrOpener_eq _ _ _ _ hw]; rfl⟩
example : WktIO.getNextEmptyOrOpener getNextWord [] {} [Tok.word "Z", .word "M", .lp, .num 1, .num 2, .rp] {} = .error "ParseException" := by
  rw [gen_getNextEmptyOrOpener_eq _ _ _ _ (by intro s h; simp at h; rcases h with h | h <;> subst h <;> decide)]; rfl
example : (WktIO.getPreciseCoordinate getNextNumber isNumberNext (fun (_ : Unit) c => c) () [] {} (XYZM.ofCoord ⟨0, 0, nanBits, nanBits⟩)
    [.num 1, .num 2, .num 3, .rp] {} (XYZM.ofCoord ⟨0, 0, nanBits, nanBits⟩)).map (fun r => r.2.1) = .ok { z := true, ca := false } := by
  rw [gen_getPreciseCoordinate_eq () _ _ _ _ _ _ (Or.inr rfl) (Or.inr rfl)]; rfl

end GeosModel.C10Gen
