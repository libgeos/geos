import GeosModel.Model.Relate.Agree
import GeosModel.Model.Relate.ScratchPoint
import GeosModel.Proofs.Relate.RectFastLemmas
import GeosModel.Proofs.Relate.IMLemmas
/-!
# C02 — all evaluation paths of a topological question agree

The algebra that makes the agreements *necessary*: transposition exchanges within/contains and
covers/coveredBy, leaves disjoint/intersects/touches/crosses/overlaps/equals invariant (with swapped
dimensions), pattern matching commutes with transposing the pattern, and a geometry's matrix with itself
satisfies equals/covers/coveredBy.  `consistent_of_true_matrix`: answers all derived from one matrix by
the DE-9IM definitions pass the consistency test the driver applies to the implementation's answers; so a
failing test exhibits two paths that cannot both be right.  The tie to the code is correspondence only
(no exact oracle is claimed for arbitrary doubles).

Two further parts, each with its own introduction below: the rectangle fast path `RectangleIntersects::intersects` never
overlooks a witnessed intersection (namespace `GeosModel.RectFast`), and the scratch point of the XY forms equals a
fresh point after every `setXY` (namespace `GeosModel.ScratchPoint`).
-/
namespace GeosModel.Relate
open GeosModel

theorem within_eq_contains_transpose (m : IM) : m.isWithin = m.transpose.isContains := rfl

theorem contains_eq_within_transpose (m : IM) : m.isContains = m.transpose.isWithin := rfl

theorem coveredBy_eq_covers_transpose (m : IM) : m.isCoveredBy = m.transpose.isCovers := by
  simp only [IM.isCoveredBy, IM.isCovers, IM.hasPointInCommon, IM.transpose]
  ac_rfl

theorem covers_eq_coveredBy_transpose (m : IM) : m.isCovers = m.transpose.isCoveredBy := by
  rw [coveredBy_eq_covers_transpose, transpose_transpose]

theorem disjoint_transpose (m : IM) : m.transpose.isDisjoint = m.isDisjoint := by
  simp only [IM.isDisjoint, IM.transpose]
  ac_rfl

theorem intersects_transpose (m : IM) : m.transpose.isIntersects = m.isIntersects := by
  simp [IM.isIntersects, disjoint_transpose]

theorem disjoint_eq_not_intersects (m : IM) : m.isDisjoint = !m.isIntersects := by
  simp [IM.isIntersects]

theorem dims_comm (x y a b : Int) : (x == a && y == b) = (y == b && x == a) := Bool.and_comm _ _

theorem touches_transpose (m : IM) (dA dB : Int) : m.transpose.isTouches dB dA = m.isTouches dA dB := by
  simp only [IM.isTouches, IM.transpose]
  have key : (if dB > dA then (dA, dB) else (dB, dA)) = (if dA > dB then (dB, dA) else (dA, dB)) := by
    by_cases h1 : dB > dA
    · have : ¬ dA > dB := by omega
      simp [h1, this]
    · by_cases h2 : dA > dB
      · simp [h1, h2]
      · have : dA = dB := by omega
        subst this; simp
  rw [key, Bool.or_comm (IM.T m.bi) (IM.T m.ib)]

/-- `isCrosses` exchanges its first two rows when the dimensions are exchanged, and `EI` is the `IE` of the transpose -/
theorem crosses_transpose (m : IM) (dA dB : Int) : m.transpose.isCrosses dB dA = m.isCrosses dA dB := by
  simp only [IM.isCrosses, IM.transpose, dims_comm dB dA]
  by_cases h1 : (dA == 0 && dB == 1 || dA == 0 && dB == 2 || dA == 1 && dB == 2) = true
  · have h2 : (dA == 1 && dB == 0 || dA == 2 && dB == 0 || dA == 2 && dB == 1) = false := by
      simp only [Bool.or_eq_true, Bool.and_eq_true, beq_iff_eq] at h1
      simp only [Bool.or_eq_false_iff, Bool.and_eq_false_iff, beq_eq_false_iff_ne, ne_eq]; omega
    simp only [h1, h2, if_true, Bool.false_eq_true, if_false]
  · simp only [h1]
    split <;> rfl

theorem overlaps_transpose (m : IM) (dA dB : Int) : m.transpose.isOverlaps dB dA = m.isOverlaps dA dB := by
  simp only [IM.isOverlaps, IM.transpose, dims_comm dB dA]
  split
  · ac_rfl
  · split
    · ac_rfl
    · rfl

theorem equals_transpose (m : IM) (dA dB : Int) : m.transpose.isEquals dB dA = m.isEquals dA dB := by
  simp only [IM.isEquals, IM.transpose, bne_comm (a := dB)]
  split
  · rfl
  · ac_rfl

/-- transposing a 9-character pattern -/
def transposePat : List Char → List Char
  | [a, b, c, d, e, f, g, h, i] => [a, d, g, b, e, h, c, f, i]
  | p => p

/-- matching commutes with transposing matrix and pattern; a pattern that does not have nine symbols is left alone by
`transposePat` and matches nothing -/
theorem matchesPat_transposePat (m : IM) (p : List Char) : m.transpose.matchesPat (transposePat p) = m.matchesPat p := by
  unfold transposePat
  split
  · simp only [IM.matchesPat, all_zipWith_transpose]
    rfl
  · rename_i hne
    have hl : (p.length == 9) = false := by
      refine beq_eq_false_iff_ne.mpr fun hl => ?_
      obtain ⟨a, b, c, d, e, f, g, h, i, rfl⟩ := eq_nine_of_length p hl
      exact hne a b c d e f g h i rfl
    simp only [IM.matchesPat, hl, Bool.false_and]

theorem matchesPat_transpose (m : IM) (p : List Char) (hp : p.length = 9) :
    m.transpose.matchesPat (transposePat p) = m.matchesPat p :=
  (fun _ => matchesPat_transposePat m p) hp

/-- the named predicates of (B,A) are those of the transposed matrix: within/contains and
covers/coveredBy are exchanged, the others are unchanged -/
theorem predsOf_transpose (m : IM) (dA dB : Int) :
    predsOf m.transpose dB dA =
      [m.isIntersects, m.isDisjoint, m.isTouches dA dB, m.isCrosses dA dB, m.isContains, m.isWithin,
       m.isOverlaps dA dB, m.isEquals dA dB, m.isCoveredBy, m.isCovers] := by
  simp only [predsOf, intersects_transpose, disjoint_transpose, touches_transpose, crosses_transpose,
    overlaps_transpose, equals_transpose, ← contains_eq_within_transpose, ← within_eq_contains_transpose,
    ← covers_eq_coveredBy_transpose, ← coveredBy_eq_covers_transpose]

/-- a non-empty geometry related to itself: interior meets interior, nothing meets the other's exterior;
then equals, covers and coveredBy all hold -/
theorem self_relations (m : IM) (d : Int) (hii : m.ii ≥ 0)
    (h1 : m.ie = -1) (h2 : m.be = -1) (h3 : m.ei = -1) (h4 : m.eb = -1) :
    m.isEquals d d = true ∧ m.isCovers = true ∧ m.isCoveredBy = true := by
  have hT := T_of_nonneg hii
  simp [IM.isEquals, IM.isCovers, IM.isCoveredBy, IM.hasPointInCommon, hT, h1, h2, h3, h4]

/-- **consistent_of_true_matrix**: answers all derived from one matrix by the DE-9IM definitions are
consistent — so the test the driver applies never rejects a correct implementation -/
theorem consistent_of_true_matrix (M : IM) (dA dB : Int) (pats : List (List Char)) :
    consistent (obsFrom M dA dB pats) = true := by
  simp only [consistent, obsFrom, beq_self_eq_true, Bool.and_true, Bool.true_and, Bool.false_eq_true,
    if_false, Bool.false_or, List.all_cons, List.all_nil, id, Bool.and_self]
  simp [List.all_map]

/-- conversely, a failed test names two paths that disagree: it is a conjunction of equalities between
answers (or between an answer and the definition applied to another answer), so `false` means at least
one of them fails -/
theorem inconsistent_exhibits_disagreement (o : Obs) (h : consistent o = false) :
    o.mt ≠ o.m.transpose ∨ o.pm ≠ o.m ∨
    (if o.aEmpty && o.bEmpty then dropEquals o.p ≠ dropEquals (predsOf o.m o.dA o.dB) else o.p ≠ predsOf o.m o.dA o.dB) ∨
    (if o.aEmpty && o.bEmpty then dropEquals o.pb ≠ dropEquals (predsOf o.mt o.dB o.dA) else o.pb ≠ predsOf o.mt o.dB o.dA) ∨
    o.q ≠ prepPredsOf o.m o.dA o.dB ∨ o.qb ≠ prepPredsOf o.mt o.dB o.dA ∨
    (∃ x ∈ o.pats, ¬ (x.2.1 = o.m.matchesPat x.1 ∧ x.2.2 = x.2.1)) ∨
    (o.aEmpty = false ∧ ∃ b ∈ o.self, b = false) := by
  simp only [consistent, Bool.and_eq_false_iff] at h
  rcases h with ((((((h | h) | h) | h) | h) | h) | h) | h
  · exact .inl (by simpa using h)
  · exact .inr (.inl (by simpa using h))
  · refine .inr (.inr (.inl ?_))
    split at h <;> rename_i hc <;> simp only [hc, if_true, if_false, Bool.false_eq_true] <;> simpa using h
  · refine .inr (.inr (.inr (.inl ?_)))
    split at h <;> rename_i hc <;> simp only [hc, if_true, if_false, Bool.false_eq_true] <;> simpa using h
  · exact .inr (.inr (.inr (.inr (.inl (by simpa using h)))))
  · exact .inr (.inr (.inr (.inr (.inr (.inl (by simpa using h))))))
  · refine .inr (.inr (.inr (.inr (.inr (.inr (.inl ?_))))))
    obtain ⟨⟨p, r, pr⟩, hx, hf⟩ := List.all_eq_false.mp h
    exact ⟨_, hx, by simpa using hf⟩
  · refine .inr (.inr (.inr (.inr (.inr (.inr (.inr ?_))))))
    rw [Bool.or_eq_false_iff] at h
    obtain ⟨b, hb, hbf⟩ := List.all_eq_false.mp h.2
    exact ⟨h.1, b, hb, by simpa using hbf⟩

/-! ### non-vacuity -/
example : consistent (obsFrom ⟨2, 1, 2, 1, 0, 1, 2, 1, 2⟩ 2 2 ["T*T***T**".toList]) = true := by decide
example : (predsOf (⟨2, 1, 2, 1, 0, 1, 2, 1, 2⟩ : IM) 2 2) = [true, false, false, false, false, false, true, false, false, false] := by decide

end GeosModel.Relate


/-!
## The rectangle fast path (`RectangleIntersects::intersects`, Model/Relate/RectFast.lean)

`intersects` with a rectangle argument and `PreparedPolygon::intersects` of a prepared rectangle are answered by three
short-circuited visitors instead of a relate matrix.  For the agreement "named predicate = pattern match of relate" the
fast path must not overlook an intersection.  Proved for ALL rectangles (any vertex list), geometries and `Int`
coordinates: an intersection witnessed by two crossing segments — the element's segment taken from ANY linear component,
for a polygon shell or hole alike — or by a rectangle corner that `locatePointInSurface` does not put in the exterior is
always reported: none of the envelope pre-filters in front of the visitors can discard it.  Not proved: the converse for
the "bisected envelope" shortcut (it rests on connectedness of a valid element; checked by stream rect-fast against the
witness reference `refIntersects` on valid input).
-/
namespace GeosModel.RectFast
open GeosModel GeosModel.Kernel GeosModel.SegSeg GeosModel.PolyLocate

/-- the answer is the disjunction of the three visitors behind the whole-geometry envelope test -/
theorem rectIntersects_iff (rect : List Pt) (g : List Elem) :
    rectIntersects rect g = true ↔
      Env.inter (envOfPts rect) (geomEnv g) = true ∧
        ((∃ e ∈ g, envStage (envOfPts rect) e = true) ∨ (∃ e ∈ g, cornerStage (envOfPts rect) rect e = true) ∨
         (∃ e ∈ g, lineStage (envOfPts rect) rect e = true)) := by
  simp [rectIntersects, List.any_eq_true, or_assoc]

/-- the stage number computed from the envelope test `a` and the three visitors `b`, `c`, `d` is 1, 2 or 3 exactly when
the short-circuited disjunction is true -/
theorem stage_of_flags (a b c d : Bool) :
    let n : Nat := if !a then 0 else if b then 1 else if c then 2 else if d then 3 else 4
    (a && (b || c || d)) = decide (n = 1 ∨ n = 2 ∨ n = 3) := by
  cases a <;> cases b <;> cases c <;> cases d <;> decide

/-- `rectStage` names the deciding visitor of `rectIntersects` -/
theorem rectIntersects_eq_stage (rect : List Pt) (g : List Elem) :
    rectIntersects rect g = decide (rectStage rect g = 1 ∨ rectStage rect g = 2 ∨ rectStage rect g = 3) :=
  stage_of_flags _ _ _ _

/-- **a crossing is never overlooked**: if a segment `t` of a linear component `l` of an element (`l` ANY ring of a
polygon: shell or hole) shares a point with a segment `s` of the rectangle ring, the fast path answers true.  The
only hypothesis: the vertices of `l` lie in the element's envelope (always for lines and shells; for a hole it says the
hole lies in the shell's envelope, as in every valid polygon). -/
theorem rectIntersects_of_crossing {rect : List Pt} {g : List Elem} {e : Elem} {l : List Pt} {s t : Pt × Pt}
    (he : e ∈ g) (hl : l ∈ e.lines) (hs : s ∈ edges rect) (ht : t ∈ edges l)
    (hx : segRel s.1 s.2 t.1 t.2 ≠ .disjoint)
    (hin : ∀ p ∈ l, Env.containsPt e.env p.x p.y = true) :
    rectIntersects rect g = true := by
  have hseg : segHas s.1 s.2 t.1 t.2 = true := (segHas_iff _ _ _ _).mpr hx
  have henv := segHas_env hseg
  obtain ⟨s1, s2⟩ := edges_mem rect s hs
  obtain ⟨t1, t2⟩ := edges_mem l t ht
  obtain ⟨rb, hrb, r1⟩ := envOfPts_mem rect s.1 s1
  have r2 := envOfPts_has hrb s2
  obtain ⟨eb, heb, e1⟩ := containsPt_some (hin t.1 t1)
  have e2 := (containsPt_iff eb t.2).mp (heb ▸ hin t.2 t2)
  have hi : Env.inter (envOfPts rect) e.env = true := by
    rw [hrb, heb]; exact inter_of_segEnv r1 r2 e1 e2 henv
  rw [rectIntersects_iff]
  refine ⟨inter_geomEnv _ g e he hi, Or.inr (Or.inr ⟨e, he, ?_⟩)⟩
  unfold lineStage
  rw [hi, Bool.true_and, List.any_eq_true]
  refine ⟨l, hl, ?_⟩
  unfold lineHas
  rw [List.any_eq_true]
  refine ⟨s, hs, ?_⟩
  rw [List.any_eq_true]
  exact ⟨t, ht, hseg⟩

/-- **a contained corner is never overlooked**: one of the first four rectangle vertices not in the exterior of a
polygon element by `SimplePointInAreaLocator::locatePointInSurface` makes the fast path answer true -/
theorem rectIntersects_of_corner {rect : List Pt} {g : List Elem} {rings : List (List Pt)} {c : Pt}
    (he : Elem.polygon rings ∈ g) (hc : c ∈ rect.take 4)
    (hloc : locatePointInPolygon c rings ≠ .exterior) :
    rectIntersects rect g = true := by
  cases rings with
  | nil => exact absurd rfl hloc
  | cons shell holes =>
    have hec : envContains shell c = true := by
      by_contra hn
      have hf : envContains shell c = false := by simpa using hn
      apply hloc
      simp [locatePointInPolygon, hf]
    obtain ⟨eb, heb, e1⟩ := envContains_box hec
    obtain ⟨rb, hrb, r1⟩ := envOfPts_mem rect c (List.mem_of_mem_take hc)
    have henv : (Elem.polygon (shell :: holes)).env = some eb := heb
    have hi : Env.inter (envOfPts rect) (Elem.polygon (shell :: holes)).env = true := by
      rw [hrb, henv]; exact inter_of_common r1 e1
    rw [rectIntersects_iff]
    refine ⟨inter_geomEnv _ g _ he hi, Or.inr (Or.inl ⟨_, he, ?_⟩)⟩
    unfold cornerStage
    simp only
    rw [hi, Bool.true_and, List.any_eq_true]
    refine ⟨c, hc, ?_⟩
    rw [henv, (containsPt_iff eb c).mpr e1, Bool.true_and]
    simpa using hloc

/-- the same with the even–odd specification `Kernel.locateInPolygon` of the polygon (closed rings, holes separate at
the corner): a corner in the closed polygon makes the fast path answer true -/
theorem rectIntersects_of_corner_spec {rect : List Pt} {g : List Elem} {rings : List (List Pt)} {c : Pt}
    (he : Elem.polygon rings ∈ g) (hc : c ∈ rect.take 4)
    (hclosed : ∀ r ∈ rings, RayCount.Closed r) (hsep : HolesSeparateAt c rings.tail)
    (hloc : locateInPolygon c rings ≠ .exterior) :
    rectIntersects rect g = true :=
  rectIntersects_of_corner he hc (by rw [locatePointInPolygon_eq c rings hclosed hsep]; exact hloc)

/-- the "covered envelope" branch of the envelope visitor has a witness: every vertex of a vertex list whose envelope
the rectangle's envelope covers lies in the closed rectangle -/
theorem covered_vertices_inRect {rect l : List Pt} (h : Env.covers (envOfPts rect) (envOfPts l) = true) :
    ∀ p ∈ l, inRect (envOfPts rect) p = true := by
  intro p hp
  obtain ⟨lb, hlb, hb⟩ := envOfPts_mem l p hp
  rw [hlb] at h
  cases hr : envOfPts rect with
  | none => rw [hr] at h; simp [Env.covers] at h
  | some rb =>
    rw [hr] at h
    exact (containsPt_iff rb p).mpr (covers_has h hb)

/-! non-vacuity: a square with two holes and a rectangle whose four corners lie inside the holes — no corner in the
polygon, no shell segment crossed, the polygon's envelope neither covered nor bisected: only the hole rings decide -/
def cheese : Elem := .polygon [[⟨0, 0⟩, ⟨10, 0⟩, ⟨10, 10⟩, ⟨0, 10⟩, ⟨0, 0⟩],
                                [⟨1, 1⟩, ⟨4, 1⟩, ⟨4, 4⟩, ⟨1, 4⟩, ⟨1, 1⟩], [⟨6, 1⟩, ⟨9, 1⟩, ⟨9, 4⟩, ⟨6, 4⟩, ⟨6, 1⟩]]
def bridge : List Pt := [⟨2, 2⟩, ⟨8, 2⟩, ⟨8, 3⟩, ⟨2, 3⟩, ⟨2, 2⟩]
example : rectStage bridge [cheese] = 3 ∧ rectIntersects bridge [cheese] = true ∧ refIntersects bridge [cheese] = true := by decide
example : segRel (⟨2, 2⟩ : Pt) ⟨8, 2⟩ ⟨4, 1⟩ ⟨4, 4⟩ ≠ .disjoint := by decide
/-- without the hole rings the same rectangle lies inside one hole-free face: nothing is witnessed -/
example : rectIntersects [⟨2, 2⟩, ⟨3, 2⟩, ⟨3, 3⟩, ⟨2, 3⟩, ⟨2, 2⟩] [cheese] = false := by decide

end GeosModel.RectFast

/-!
## The reused scratch point of the XY forms (`Point::setXY`, Model/Relate/ScratchPoint.lean)

`GEOSPreparedContainsXY` / `GEOSPreparedIntersectsXY` overwrite one `Point` per context and hand it to the ordinary
prepared predicate.  That the XY forms equal the point forms needs: after `setXY(x, y)` the point is indistinguishable
from a freshly built `POINT (x y)` — coordinate AND cached envelope — whatever was asked before.
-/
namespace GeosModel.ScratchPoint
open GeosModel

/-- **`setXY` forgets the past**: the state after `setXY(x, y)` is that of a fresh `POINT (x y)` -/
theorem setXY_eq_fresh (s : PointSt) (x y : Int) (h : s.coords.length ≤ 1) : setXY s x y = fresh (some (x, y)) := by
  obtain ⟨coords, env⟩ := s
  match coords, h with
  | [], _ => rfl
  | [_], _ => rfl

theorem run_len (s : PointSt) (ops : List (Int × Int)) (h : s.coords.length ≤ 1) : (run s ops).coords.length ≤ 1 := by
  induction ops generalizing s with
  | nil => exact h
  | cons o r ih => exact ih (setXY s o.1 o.2) (by rw [setXY_eq_fresh s o.1 o.2 h]; exact Nat.le_refl 1)

/-- after any history of XY queries the scratch point equals a fresh point at the last queried position -/
theorem run_last (s : PointSt) (ops : List (Int × Int)) (x y : Int) (h : s.coords.length ≤ 1) :
    run s (ops ++ [(x, y)]) = fresh (some (x, y)) := by
  unfold run
  rw [List.foldl_append]
  exact setXY_eq_fresh _ x y (run_len s ops h)

/-- the cached envelope always is the envelope of the coordinate (also when only one ordinate changed) -/
theorem run_coherent (s : PointSt) (ops : List (Int × Int)) (hne : ops ≠ []) (h : s.coords.length ≤ 1) :
    Coherent (run s ops) := by
  obtain ⟨init, last, rfl⟩ : ∃ i l, ops = i ++ [l] := ⟨ops.dropLast, ops.getLast hne, (List.dropLast_concat_getLast hne).symm⟩
  obtain ⟨x, y⟩ := last
  rw [run_last s init x y h]
  exact ⟨rfl, by simp [fresh]⟩

example : run (fresh (some (5, 20))) [(5, 5)] = fresh (some (5, 5)) := by decide
example : (run (fresh none) [(5, 20), (5, 5), (30, 5)]).env = some ⟨30, 30, 5, 5⟩ := by decide

end GeosModel.ScratchPoint
