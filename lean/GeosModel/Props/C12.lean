import GeosModel.Generated.Api
import GeosModel.Model.Api.Bridge
import GeosModel.Proofs.Api.HeapLemmas
/-!
# C12 — any legal C API call sequence is contained: error codes, no crash, no aliasing

Two groups of theorems here; two more parts of the property are in files of their own: **C**, the constructors that take
ownership of their arguments (`Props/C12Ctor.lean`), and **D**, the documented life cycle of an STRtree (`Props/C12Tree.lean`).

**A. The generated table** (`GeosModel/Generated/Api.lean`, rewritten from `capi/geos_c.h.in` and
`capi/geos_ts_c.cpp` by `translate/api_table.py` on every run).  The quantifier `∀ e ∈ apiTable` *is* the
finite set of reentrant entry points of the current source, so evaluation by the kernel is a proof.  A
changed error literal, a removed `execute`, a dropped `setSRID` changes the table and the proof fails.

**B. The ownership discipline** (`Model/Api/Heap.lean`): for every call sequence accepted by `run`
(all finite sequences, by induction) no object is used, borrowed or viewed after it died, results get
fresh ids, a call changes only what its signature lets it change, and destroying every caller-owned
object leaves nothing alive.

That the C++ honours the contract (and never crashes, leaks or hangs while doing so) is *not* proved; it is
observed by the sanitizer-instrumented correspondence run (`harness/c12.cpp` ↔ `Driver/C12.lean`).
-/
namespace GeosModel.Api
open GeosModel.Generated

/-! ## A. table theorems -/

/-- every entry point that documents an error value implements exactly that value -/
theorem api_errval_matches_doc : ∀ e ∈ apiTable, e.errvalMatchesDoc = true := by decide +kernel

/-- entry points that are allowed to run without exception protection: context creation/destruction,
the handler setters, `free`, and three `delete`s of plain parameter structs -/
def unwrappedAllowed : List String :=
  ["GEOSBufferParams_destroy_r", "GEOSClusterInfo_destroy_r",
   "GEOSContext_setErrorHandler_r", "GEOSContext_setErrorMessageHandler_r",
   "GEOSContext_setNoticeHandler_r", "GEOSContext_setNoticeMessageHandler_r",
   "GEOSFree_r", "GEOSMakeValidParams_destroy_r", "GEOS_finish_r", "GEOS_init_r", "finishGEOS_r", "initGEOS_r"]

/-- the allow-list is tight: it is exactly the list of unprotected entry points (in table order) -/
theorem api_unwrapped_exact : (apiTable.filter (fun e => !e.guarded)).map (·.name) = unwrappedAllowed := by rfl

/-- every other entry point runs inside `execute` (directly, or only by calling entry points that do) or
inside a hand-written `try/catch(...)` -/
theorem api_all_wrapped : ∀ e ∈ apiTable, e.guarded = true ∨ e.name ∈ unwrappedAllowed := by
  intro e he
  cases hg : e.guarded
  · exact .inr (api_unwrapped_exact ▸ List.mem_map_of_mem (List.mem_filter.mpr ⟨he, by simp [hg]⟩))
  · exact .inl rfl

/-- every predicate returning `char` reports an exception as 2 -/
theorem api_bool_promoted : ∀ e ∈ apiTable, e.boolPromoted = true := by decide +kernel

/-- pointer-returning entry points fail with NULL (never with another literal) -/
theorem api_ptr_null : ∀ e ∈ apiTable, e.ptrNull = true := by decide +kernel

/-- pointer-returning entry points without any error path: only context creation -/
theorem api_ptr_has_err_path : ∀ e ∈ apiTable, e.ret = .ptr → e.hasErrPath = true ∨ e.name ∈ ["GEOS_init_r", "initGEOS_r"] := by
  decide +kernel

/-- constructive operations that take the SRID of the result from their first geometry argument -/
def sridFromFirstList : List String :=
  ["GEOSBoundary_r", "GEOSBufferWithParams_r", "GEOSBufferWithStyle_r", "GEOSBuffer_r", "GEOSBuildArea_r",
   "GEOSClipByRect_r", "GEOSConcaveHullByLength_r", "GEOSConcaveHullOfPolygons_r", "GEOSConcaveHull_r",
   "GEOSConstrainedDelaunayTriangulation_r", "GEOSConvexHull_r", "GEOSCoverageSimplifyVW_r", "GEOSCoverageUnion_r", "GEOSDelaunayTriangulation_r",
   "GEOSDensify_r", "GEOSDifferencePrec_r", "GEOSDifference_r", "GEOSDisjointSubsetUnion_r", "GEOSEnvelope_r",
   "GEOSGeomGetEndPoint_r", "GEOSGeomGetPointN_r", "GEOSGeomGetStartPoint_r", "GEOSGeom_extractUniquePoints_r",
   "GEOSGeom_setPrecision_r", "GEOSGetCentroid_r", "GEOSInterpolateNormalized_r", "GEOSInterpolate_r",
   "GEOSIntersectionPrec_r", "GEOSIntersection_r", "GEOSLargestEmptyCircle_r", "GEOSLineMergeDirected_r",
   "GEOSLineMerge_r", "GEOSLineSubstring_r", "GEOSMakeValidWithParams_r", "GEOSMakeValid_r",
   "GEOSMaximumInscribedCircle_r", "GEOSMinimumBoundingCircle_r", "GEOSMinimumClearanceLine_r",
   "GEOSMinimumRotatedRectangle_r", "GEOSMinimumWidth_r", "GEOSNode_r", "GEOSOffsetCurve_r", "GEOSPointOnSurface_r",
   "GEOSPolygonHullSimplifyMode_r", "GEOSPolygonHullSimplify_r", "GEOSPolygonize_full_r", "GEOSRemoveRepeatedPoints_r",
   "GEOSReverse_r", "GEOSSharedPaths_r", "GEOSSimplify_r", "GEOSSingleSidedBuffer_r", "GEOSSnap_r",
   "GEOSSymDifferencePrec_r", "GEOSSymDifference_r", "GEOSTopologyPreserveSimplify_r", "GEOSUnaryUnionPrec_r",
   "GEOSUnaryUnion_r", "GEOSUnionPrec_r", "GEOSUnion_r", "GEOSVoronoiDiagram_r"]

/-- constructive operations whose body has **no** `setSRID(first->getSRID())`.  The first group keeps the
SRID by construction (the result is a copy of the argument, or is built by the argument's factory); whether the SRID
really arrives is observed at run time by the `api-seq` stream for every constructive call. -/
def sridNotSyntactic : List String :=
  ["GEOSGeom_clone_r", "GEOSGeom_transformXY_r", "GEOSGeom_transformXYZ_r", "GEOSUnionCascaded_r",
   -- operations on arrays of geometries (no single "first argument")
   "GEOSPolygonize_r", "GEOSPolygonize_valid_r", "GEOSPolygonizer_getCutEdges_r"]

/-- the constructive entry points that set the SRID of their result from their first geometry argument
are exactly the functions of the explicit list (in table order): each of them exists, is constructive and
has the `setSRID(first->getSRID())` -/
theorem api_srid_from_first :
    (apiTable.filter (fun e => e.isConstructive && e.sridFromFirst)).map (·.name) = sridFromFirstList := by rfl

/-- *every* constructive entry point of the current source either sets the SRID from its first argument
or is named in `sridNotSyntactic`: a new constructive function without SRID handling cannot slip in
unnoticed -/
theorem api_constructive_classified :
    ∀ e ∈ apiTable, e.isConstructive = true → e.sridFromFirst = true ∨ e.name ∈ sridNotSyntactic := by
  decide +kernel

/-- every entry point gets a result specification, and borrowed results only come from functions with an
object argument to own them (so the model's `borrowed` legality condition can be met) -/
theorem api_borrowed_has_parent :
    ∀ e ∈ apiTable, e.retBorrowed = true →
      (e.params.any (fun p => match p.cls with | .obj _ => p.mode != .consume | _ => false)) = true := by
  decide +kernel

/-! ### lookup by name

`lookup` returns the first entry of that name, so `lookup apiTable n = some e` says that no earlier entry is
called `n`.  The translator writes the table sorted by name (`translate/api_table.py`); sortedness is checked on the UTF-8
bytes of the names, and in a sorted table every entry is the result of looking up its own name. -/

def Entry.key (e : Entry) : List UInt8 := e.name.toByteArray.data.toList

def increasing : List (List UInt8) → Bool
  | a :: b :: r => decide (a < b) && increasing (b :: r)
  | _ => true

theorem pairwise_of_increasing : ∀ {l}, increasing l = true → l.Pairwise (· < ·)
  | [], _ => .nil
  | [_], _ => .cons (by simp) .nil
  | a :: b :: r, h => by
    simp only [increasing, Bool.and_eq_true, decide_eq_true_eq] at h
    have ih := pairwise_of_increasing h.2
    refine .cons (fun c hc => ?_) ih
    rcases List.mem_cons.mp hc with rfl | hc
    · exact h.1
    · exact List.lt_trans h.1 (List.rel_of_pairwise_cons ih hc)

theorem lookup_of_mem {t : List Entry} (hs : increasing (t.map Entry.key) = true) {e : Entry} (he : e ∈ t) :
    lookup t e.name = some e := by
  have hp := List.pairwise_map.mp (pairwise_of_increasing hs)
  clear hs
  induction t with
  | nil => cases he
  | cons a r ih =>
    rw [List.pairwise_cons] at hp
    rcases List.mem_cons.mp he with rfl | he
    · simp [lookup]
    · have hne : ¬a.name = e.name := fun h =>
        List.lt_irrefl e.key (by have := hp.1 e he; rwa [Entry.key, h] at this)
      simpa [lookup, hne] using ih he hp.2

theorem apiTable_increasing : increasing (apiTable.map Entry.key) = true := by decide +kernel

/-- the entries looked up below are a sublist of the table, so each is found by its name.  The walk takes an entry of the
table into the sublist exactly when it is the next one wanted: `cons_cons` unifies only syntactically equal `e_*` constants. -/
theorem lookup_apiTable : ∀ e ∈ [e_GEOSArea_r, e_GEOSBuffer_r, e_GEOSDisjoint_r, e_GEOSGeomGetNumPoints_r,
    e_GEOSGeom_createCollection_r, e_GEOSGeom_createLineString_r, e_GEOSGeom_destroy_r, e_GEOSGeom_getCoordSeq_r,
    e_GEOSIntersects_r, e_GEOSPrepare_r], lookup apiTable e.name = some e := fun _ he =>
  lookup_of_mem apiTable_increasing <| List.Sublist.subset (l₂ := apiTable) (by
    unfold apiTable
    repeat first | exact List.nil_sublist _ | apply List.Sublist.cons_cons | apply List.Sublist.cons) he

/-- the table theorems are not vacuous: the translator found the entry points, their documentation and their
protection (a silent loss of, say, all "on exception" phrases would make `api_errval_matches_doc` trivially true) -/
theorem api_table_nonvacuous :
    250 ≤ apiTable.length ∧
    165 ≤ (apiTable.filter (fun e => e.docErr.isSome)).length ∧
    35 ≤ (apiTable.filter (fun e => e.ret == .charBool)).length ∧
    100 ≤ (apiTable.filter (fun e => e.ret == .ptr)).length ∧
    250 ≤ (apiTable.filter (fun e => e.wrap == .execute)).length ∧
    20 ≤ (apiTable.filter (fun e => e.params.any (fun p => p.mode == .consume))).length ∧
    (lookup apiTable "GEOSDisjoint_r").any (fun e => e.docErr == some (.int 2) && e.implErr == some (.int 2) && e.wrap == .execute) = true ∧
    (lookup apiTable "GEOSBuffer_r").any (fun e => e.docErr == some .null && e.implErr == some .null && e.sridFromFirst) = true ∧
    (lookup apiTable "GEOSGeomGetNumPoints_r").any (fun e => e.docErr == some (.int (-1)) && e.implErr == some (.int (-1))) = true ∧
    (lookup apiTable "GEOSArea_r").any (fun e => e.docErr == some (.int 0) && e.implErr == some (.int 0)) = true := by
  refine ⟨by decide +kernel, by decide +kernel, by decide +kernel, by decide +kernel, by decide +kernel,
    by decide +kernel, ?_, ?_, ?_, ?_⟩
  · exact (Option.any_eq_true ..).mpr ⟨_, lookup_apiTable e_GEOSDisjoint_r (by simp), rfl⟩
  · exact (Option.any_eq_true ..).mpr ⟨_, lookup_apiTable e_GEOSBuffer_r (by simp), rfl⟩
  · exact (Option.any_eq_true ..).mpr ⟨_, lookup_apiTable e_GEOSGeomGetNumPoints_r (by simp), rfl⟩
  · exact (Option.any_eq_true ..).mpr ⟨_, lookup_apiTable e_GEOSArea_r (by simp), rfl⟩

/-! ## B. the ownership discipline, for all call sequences -/

/-- **no dangling, one call**: a legal call only receives live objects of the declared kind -/
theorem legal_call_args_live (h : Heap) (c : Call) (obs : Obs) (h' : Heap) (out : Outcome)
    (hs : step h c obs = .ok (h', out)) : ∀ i ∈ c.allIds, isLive h i = true := by
  obtain ⟨hl, _, _⟩ := (step_ok_iff h c obs h' out).mp hs
  intro i hi
  obtain ⟨o, hg, hlive⟩ := hl.arg_live i hi
  simp [isLive, hg, hlive]

/-- **legal_seq_no_dangling**: along any call sequence accepted from the empty heap, at every call
(1) every argument is live, and (2) the heap is well formed, i.e. every live view has a live parent and
everything a live object borrows (the base of a prepared geometry, the items of a tree) is live — no
object that the C side may still dereference has been freed. -/
theorem legal_seq_no_dangling (pre post : List (Call × Obs)) (c : Call) (obs : Obs) (h' : Heap) (outs : List Outcome)
    (hr : run [] (pre ++ (c, obs) :: post) = .ok (h', outs)) :
    ∃ hk outs1, run [] pre = .ok (hk, outs1) ∧ WF hk ∧ (∀ i ∈ c.allIds, isLive hk i = true) ∧ WF h' := by
  obtain ⟨hk, o1, o2, h1, h2, _⟩ := run_append pre ((c, obs) :: post) [] h' outs hr
  have wfk : WF hk := run_wf pre [] hk o1 wf_nil h1
  obtain ⟨out, outs', hl, _, _, _⟩ := run_cons_ok hk c obs post h' o2 h2
  refine ⟨hk, o1, h1, wfk, ?_, run_wf _ [] h' outs wf_nil hr⟩
  intro i hi
  obtain ⟨o, hg, hlive⟩ := hl.arg_live i hi
  simp [isLive, hg, hlive]

/-- using an object after it was consumed (destroyed, or given to a constructor) is rejected -/
theorem use_after_consume_illegal (h : Heap) (c : Call) (obs : Obs) (i : Id) (hi : i ∈ c.allIds)
    (hd : isLive h i = false) : ∃ e, step h c obs = .error e := by
  cases hs : step h c obs with
  | error e => exact ⟨e, rfl⟩
  | ok p =>
    obtain ⟨h', out⟩ := p
    have := legal_call_args_live h c obs h' out hs i hi
    rw [hd] at this; cases this

/-- **results_fresh**: the ids of the results of a call are not ids of any object of the heap before the
call (live or dead), are pairwise distinct, and name live objects afterwards: a result never aliases an
existing object -/
theorem results_fresh (h : Heap) (c : Call) (obs : Obs) (h' : Heap) (ids : List Id)
    (hs : step h c obs = .ok (h', .result ids)) :
    (∀ i ∈ ids, h[i]? = none ∧ isLive h' i = true) ∧ ids.Nodup := by
  obtain ⟨-, rfl, hout⟩ := (step_ok_iff h c obs _ _).mp hs
  cases obs with
  | err => cases hout
  | ok n =>
    -- `outcome` on `.ok n` is `.scalar` without a result specification, else `.result` of the `n` ids from `h.length` on,
    -- and then `newObjs` is `n` copies of one live object, found at these positions
    cases hres : c.res <;> simp only [outcome, hres] at hout <;> cases hout
    all_goals
      refine ⟨fun i hi => ?_, range_shift_nodup n h.length⟩
      obtain ⟨k, hk, rfl⟩ := List.mem_map.mp hi
      refine ⟨List.getElem?_eq_none_iff.mpr (Nat.le_add_left ..), ?_⟩
      rw [isLive, Nat.add_comm, apply_new_getElem?, newObjs, hres, List.getElem?_replicate,
        if_pos (List.mem_range.mp hk)]

/-- **const_args_unchanged**: a call changes only the objects its signature lets it consume or modify
(and the views into them): every other object — in particular every `const` argument and every object
that was not passed at all — is bit-for-bit the same record afterwards -/
theorem const_args_unchanged (h : Heap) (c : Call) (obs : Obs) (h' : Heap) (out : Outcome)
    (hs : step h c obs = .ok (h', out)) (i : Id) (o : Obj) (hg : h[i]? = some o)
    (hi : i ∉ c.excl) (hp : ∀ p, o.owner = some p → p ∉ c.excl) : h'[i]? = some o := by
  obtain ⟨_, rfl, _⟩ := (step_ok_iff h c obs _ _).mp hs
  rw [apply_old c obs hg, touch_untouched c _ i o hi hp]

/-- read-only arguments of a legal call are among the unchanged objects -/
theorem readOnly_arg_unchanged (h : Heap) (c : Call) (obs : Obs) (h' : Heap) (out : Outcome)
    (hs : step h c obs = .ok (h', out)) (i : Id) (hi : i ∈ c.readOnly) : h'[i]? = h[i]? := by
  obtain ⟨hl, _, _⟩ := (step_ok_iff h c obs _ _).mp hs
  obtain ⟨o, hg, hlive⟩ := hl.arg_live i (idsOf_sub_allIds c _ i hi)
  rw [hg]
  have hsep := hl.sep i hi
  refine const_args_unchanged h c obs h' out hs i o hg ?_ ?_
  · cases ho : o.owner with
    | none => rw [root_of_owned i o hg ho] at hsep; exact hsep
    | some p =>
      -- a view is never in the consumed/modified set: those are caller-owned
      intro hh
      obtain ⟨⟨o2, hg2, ho2⟩, _⟩ := hl.excl_owned i hh
      rw [hg] at hg2; cases hg2
      rw [ho] at ho2; cases ho2
  · intro p ho
    have : root h i = p := by simp [root, hg, ho]
    rw [this] at hsep; exact hsep

/-- **finish_no_leak**: if every caller-owned object that exists at the end of an accepted sequence was
consumed somewhere in it (destroyed — or handed to a constructor; a second destruction would have been
rejected by `use_after_consume_illegal`), then nothing is alive at `GEOS_finish_r`: views and borrowers
cannot outlive what they depend on -/
theorem finish_no_leak (cs : List (Call × Obs)) (h' : Heap) (outs : List Outcome)
    (hr : run [] cs = .ok (h', outs))
    (hall : ∀ (i : Id) (o : Obj), h'[i]? = some o → o.owner = none → i ∈ consumedAll cs) :
    ∀ o ∈ h', o.live = false := by
  have wf : WF h' := run_wf cs [] h' outs wf_nil hr
  have hdead := run_consumed_dead cs [] h' outs [] (by intro i hi; simp at hi) hr
  intro o ho
  obtain ⟨i, hg⟩ := List.mem_iff_getElem?.mp ho
  cases hlive : o.live with
  | false => rfl
  | true =>
    cases hown : o.owner with
    | none =>
      obtain ⟨o2, hg2, hd⟩ := hdead i (Or.inr (hall i o hg hown))
      rw [hg] at hg2; cases hg2
      rw [hlive] at hd; cases hd
    | some p =>
      obtain ⟨po, hpg, hpl, hpo⟩ := wf.owner i o p hg hlive hown
      obtain ⟨o2, hg2, hd⟩ := hdead p (Or.inr (hall p po hpg hpo))
      rw [hpg] at hg2; cases hg2
      rw [hpl] at hd; cases hd

/-- **error_is_documented**: when the model reports an error outcome its value is the table's value for
that entry point, and no object was created -/
theorem error_is_documented (h : Heap) (c : Call) (obs : Obs) (h' : Heap) (v : Option ErrVal)
    (hs : step h c obs = .ok (h', .error v)) : v = c.errv ∧ obs = .err ∧ h'.length = h.length := by
  obtain ⟨_, rfl, hout⟩ := (step_ok_iff h c obs _ _).mp hs
  cases obs with
  | err =>
    simp only [outcome, Outcome.error.injEq] at hout
    exact ⟨hout, rfl, by simp [apply]⟩
  | ok n =>
    -- a normal return yields `.scalar` or `.result`, never `.error`
    unfold outcome at hout
    cases hres : c.res <;> simp_all

/-! ## non-vacuity: concrete signatures from the generated table, a legal history, illegal histories -/

def sigCoordSeqCreate : Call := { args := [], res := .owned .coordSeq, errv := some .null }
def sigCreateLineString (cs : Id) : Call := { args := [⟨.consume, .coordSeq, [cs]⟩], res := .owned .geom, errv := some .null }
def sigGetCoordSeq (g : Id) : Call := { args := [⟨.const_, .geom, [g]⟩], res := .borrowed .coordSeq, errv := some .null }
def sigPrepare (g : Id) : Call := { args := [⟨.retain, .geom, [g]⟩], res := .owned .prepared, errv := some .null }
def sigPreparedDestroy (p : Id) : Call := { args := [⟨.consume, .prepared, [p]⟩], res := .none, errv := none }
def sigGeomDestroy (g : Id) : Call := { args := [⟨.consume, .geom, [g]⟩], res := .none, errv := none }
def sigCoordSeqDestroy (s : Id) : Call := { args := [⟨.consume, .coordSeq, [s]⟩], res := .none, errv := none }
def sigSetSRID (g : Id) : Call := { args := [⟨.modify, .geom, [g]⟩], res := .none, errv := none }
def sigIntersects (a b : Id) : Call := { args := [⟨.const_, .geom, [a]⟩, ⟨.const_, .geom, [b]⟩], res := .none, errv := some (.int 2) }
def sigCreateCollection (gs : List Id) : Call := { args := [⟨.consume, .geom, gs⟩], res := .owned .geom, errv := some .null }

/-- the signatures above are what the bridge derives from the generated table -/
example : (lookup apiTable "GEOSGeom_createLineString_r").bind (·.toCall [.objs [0]]) = some (sigCreateLineString 0) :=
  Option.bind_eq_some_iff.mpr ⟨_, lookup_apiTable e_GEOSGeom_createLineString_r (by simp), rfl⟩
example : (lookup apiTable "GEOSGeom_getCoordSeq_r").bind (·.toCall [.objs [1]]) = some (sigGetCoordSeq 1) :=
  Option.bind_eq_some_iff.mpr ⟨_, lookup_apiTable e_GEOSGeom_getCoordSeq_r (by simp), rfl⟩
example : (lookup apiTable "GEOSPrepare_r").bind (·.toCall [.objs [1]]) = some (sigPrepare 1) :=
  Option.bind_eq_some_iff.mpr ⟨_, lookup_apiTable e_GEOSPrepare_r (by simp), rfl⟩
example : (lookup apiTable "GEOSGeom_destroy_r").bind (·.toCall [.objs [1]]) = some (sigGeomDestroy 1) :=
  Option.bind_eq_some_iff.mpr ⟨_, lookup_apiTable e_GEOSGeom_destroy_r (by simp), rfl⟩
example : (lookup apiTable "GEOSIntersects_r").bind (·.toCall [.objs [1], .objs [4]]) = some (sigIntersects 1 4) :=
  Option.bind_eq_some_iff.mpr ⟨_, lookup_apiTable e_GEOSIntersects_r (by simp), rfl⟩
example : (lookup apiTable "GEOSGeom_createCollection_r").bind (·.toCall [.other, .objs [1, 4], .other])
    = some (sigCreateCollection [1, 4]) :=
  Option.bind_eq_some_iff.mpr ⟨_, lookup_apiTable e_GEOSGeom_createCollection_r (by simp), rfl⟩

/-- a legal history: cs₀ → line₁ (consumes cs₀) → view₂ of its coordinates → prepared₃ (borrows line₁) →
predicate → destroy prepared → destroy line: everything is dead at the end -/
def demo : List (Call × Obs) :=
  [(sigCoordSeqCreate, .ok 1), (sigCreateLineString 0, .ok 1), (sigGetCoordSeq 1, .ok 1), (sigPrepare 1, .ok 1),
   (sigIntersects 1 1, .ok 0), (sigPreparedDestroy 3, .ok 0), (sigGeomDestroy 1, .ok 0)]

example : ∃ h' outs, run [] demo = .ok (h', outs) ∧
    outs = [.result [0], .result [1], .result [2], .result [3], .scalar, .scalar, .scalar] ∧
    (∀ o ∈ h', o.live = false) := by
  refine ⟨_, _, rfl, ?_, ?_⟩ <;> decide +kernel

/-- the hypothesis of `finish_no_leak` is satisfiable (by the history above) -/
example : ∀ (i : Id) (o : Obj), (heapAfter demo)[i]? = some o → o.owner = none → i ∈ consumedAll demo :=
  allOwnedConsumed_spec _ _ (by decide +kernel)

/-- illegal: destroying the base geometry while a prepared geometry built on it is alive -/
example : accepted [(sigCoordSeqCreate, .ok 1), (sigCreateLineString 0, .ok 1), (sigPrepare 1, .ok 1),
    (sigGeomDestroy 1, .ok 0)] = false := by decide +kernel

/-- illegal: double destroy -/
example : accepted [(sigCoordSeqCreate, .ok 1), (sigCoordSeqDestroy 0, .ok 0), (sigCoordSeqDestroy 0, .ok 0)]
    = false := by decide +kernel

/-- illegal: using a coordinate sequence after a constructor took it — even if the constructor failed -/
example : accepted [(sigCoordSeqCreate, .ok 1), (sigCreateLineString 0, .err), (sigCoordSeqDestroy 0, .ok 0)]
    = false := by decide +kernel

/-- illegal: destroying a view; using a view after its parent was modified -/
example : accepted [(sigCoordSeqCreate, .ok 1), (sigCreateLineString 0, .ok 1), (sigGetCoordSeq 1, .ok 1),
    (sigCoordSeqDestroy 2, .ok 0)] = false := by decide +kernel
example : accepted [(sigCoordSeqCreate, .ok 1), (sigCreateLineString 0, .ok 1), (sigGetCoordSeq 1, .ok 1),
    (sigSetSRID 1, .ok 0), (sigIntersects 2 2, .ok 0)] = false := by decide +kernel

/-- illegal: the same geometry twice in a consumed array (would be a double free) -/
example : accepted [(sigCoordSeqCreate, .ok 1), (sigCreateLineString 0, .ok 1), (sigCreateCollection [1, 1], .ok 1)]
    = false := by decide +kernel

/-- …while the legal history is accepted -/
example : accepted demo = true := by decide +kernel

end GeosModel.Api
