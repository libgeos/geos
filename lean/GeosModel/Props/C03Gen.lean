import GeosModel.Model.Overlay.Core
import GeosModel.Generated.OverlayCore
import GeosModel.Props.C03
/-!
# C03 — the regenerated overlay decision functions are the models the theorems are about

`Generated/OverlayCore.lean` is rewritten from `src/operation/overlayng/OverlayNG.cpp` / `OverlayUtil.cpp` by
`translate/cxx2lean.py` (spec `overlay_core`) on every run, statement by statement (the op codes are read from
`OverlayNG.h`, the numbering of `Location` is checked against `Location.h`).  The theorems below prove each
regenerated function equal to the hand-written model of `Model/Overlay/Core.lean` — the object of the CORE theorems of
`Props/C03.lean` — for **every** op code (also the unknown ones), location pair and dimension pair, and for every
interpretation of the two external predicates `isEmpty`, `isEnvDisjoint` of `isEmptyResult`.
-/
namespace GeosModel.C03Gen
open GeosModel GeosModel.Overlay GeosModel.Generated

theorem gen_isResultOfOp_eq (opCode : Int) (l0 l1 : Loc3) :
    OverlayCore.isResultOfOp opCode l0 l1 = isResultOfOpCode opCode l0 l1 := by
  cases l0 <;> cases l1 <;> rfl

/-- on a legal op code the regenerated function is `Overlay.resultDimension` -/
theorem gen_resultDimension_eq (op : Op) (d0 d1 : Int) :
    OverlayCore.resultDimension op.code d0 d1 = resultDimension op d0 d1 := by
  cases op <;> rfl

/-- an unknown op code gives −1 (`Dimension::False`) -/
theorem gen_resultDimension_unknown (c d0 d1 : Int) (h : Op.ofCode c = none) :
    OverlayCore.resultDimension c d0 d1 = -1 := by
  have hc := Op.ofCode_none h
  simp [OverlayCore.resultDimension, hc.1, hc.2.1, hc.2.2.1, hc.2.2.2]

/-- with a floating precision model `isEnvDisjoint(a, b, pm)` is `Overlay.isEnvDisjoint` of the three facts the model
reads; the regenerated `isEmptyResult` then equals the model for every legal op code -/
theorem gen_isEmptyResult_eq {G PM : Type} (isEnvDisjointF : G → G → PM → Bool) (isEmptyF : G → Bool)
    (op : Op) (a b : G) (pm : PM) (envDisj : Bool)
    (henv : isEnvDisjointF a b pm = isEnvDisjoint (isEmptyF a) (isEmptyF b) envDisj) :
    OverlayCore.isEmptyResult isEnvDisjointF isEmptyF op.code a b pm
      = isEmptyResult op (isEmptyF a) (isEmptyF b) envDisj := by
  cases op <;> simp [OverlayCore.isEmptyResult, isEmptyResult, Op.code, henv]

/-- an unknown op code is never declared empty -/
theorem gen_isEmptyResult_unknown {G PM : Type} (f : G → G → PM → Bool) (e : G → Bool) (c : Int) (a b : G) (pm : PM)
    (h : Op.ofCode c = none) : OverlayCore.isEmptyResult f e c a b pm = false := by
  have hc := Op.ofCode_none h
  simp [OverlayCore.isEmptyResult, hc.1, hc.2.1, hc.2.2.1, hc.2.2.2]

end GeosModel.C03Gen
