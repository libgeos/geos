import GeosModel.Model.Lines.HoleAssign
/-!
# C19 — hole assignment of the polygonizer (`EdgeRing::findEdgeRingContaining`): theorems about the model

`Model/Lines/HoleAssign.lean` follows the C++ branch by branch and is tied to the real function by the correspondence
stream `holeassign` (every hole ring of generated arrangements, built from each of its possible start edges).  For all
rings and candidate lists:

* `ptNotInList_some` / `ptNotInList_none`  the vertex scan returns the FIRST vertex of the test ring that is not a vertex of
                              the candidate; the null coordinate exactly when every vertex is shared;
* `find_sound`                the ring returned is an element of the list (at the returned index), its envelope covers
                              the test ring's envelope and differs from it, and the point that decided is a vertex of
                              the test ring that is NOT a vertex of the returned ring and is not exterior to it;
* `find_strictly_inside`      on a noded arrangement (a vertex of the test ring lies on the candidate's boundary only
                              where it is one of its vertices) that deciding vertex is strictly INSIDE the returned ring:
                              a ring that only touches a shell from outside at shared vertices is never assigned to it;
* `find_complete`             if some candidate passes the three tests, a ring is returned (nullptr only if none does);
* `find_no_later_candidate_inside`  no later candidate that passes the tests has its envelope covered by the returned ring's envelope;
* `start_vertex_matters_without_scan`  witness: with "first vertex" as test point (no scan) a triangle sitting in the bay
                              of a U-shaped shell and touching its corner is assigned to the shell when its ring starts
                              at the shared corner and not otherwise; the modelled code answers "no shell" for every start.
-/
namespace GeosModel.Lines.HoleAssign
open GeosModel.Kernel

theorem isInList_iff (p : Pt) (ps : List Pt) : isInList p ps = true ↔ p ∈ ps := by
  simp [isInList, List.any_eq_true]

theorem ptNotInList_cons (a : Pt) (r ps : List Pt) :
    ptNotInList (a :: r) ps = if isInList a ps then ptNotInList r ps else some a := by
  rw [ptNotInList]; cases isInList a ps <;> rfl

/-- The scan returns the first vertex of `t` that is not in `ps`. -/
theorem ptNotInList_some {t ps : List Pt} {p : Pt} (h : ptNotInList t ps = some p) :
    ∃ pre post, t = pre ++ p :: post ∧ (∀ q ∈ pre, q ∈ ps) ∧ p ∉ ps := by
  induction t with
  | nil => cases h
  | cons a r ih =>
    rw [ptNotInList_cons] at h
    split at h
    · obtain ⟨pre, post, e, h1, h2⟩ := ih h
      exact ⟨a :: pre, post, by rw [e]; rfl, List.forall_mem_cons.mpr ⟨(isInList_iff a ps).mp ‹_›, h1⟩, h2⟩
    · cases h
      exact ⟨[], r, rfl, fun _ hq => (nomatch hq), mt (isInList_iff _ ps).mpr ‹_›⟩

/-- The null coordinate is returned exactly when every vertex of `t` is a vertex of `ps`. -/
theorem ptNotInList_none (t ps : List Pt) : ptNotInList t ps = none ↔ ∀ q ∈ t, q ∈ ps := by
  induction t with
  | nil => simp [ptNotInList]
  | cons a r ih =>
    rw [ptNotInList_cons, List.forall_mem_cons, ← isInList_iff]
    split
    · rw [ih]; exact ⟨fun h => ⟨‹_›, h⟩, fun h => h.2⟩
    · exact ⟨fun h => (nomatch h), fun h => absurd h.1 ‹_›⟩

/-- what the three tests of one loop iteration establish about a candidate -/
def Accepted (test : List Pt) (testEnv : Env) (ring : List Pt) (e : Env) : Prop :=
  envOf ring = some e ∧ e.equals testEnv = false ∧ e.contains testEnv = true ∧
  ∃ p, ptNotInList test ring = some p ∧ p ∈ test ∧ p ∉ ring ∧ locateInRing p ring ≠ .exterior

theorem step_cases (test : List Pt) (testEnv : Env) (min : Option Min) (i : Nat) (r : List Pt) :
    step test testEnv min i r = min ∨
    ∃ e, step test testEnv min i r = some ⟨i, r, e⟩ ∧ Accepted test testEnv r e := by
  unfold step
  split
  · left; rfl
  · rename_i tryEnv he
    by_cases h1 : tryEnv.equals testEnv = true
    · simp [h1]
    · have h1' : tryEnv.equals testEnv = false := by simpa using h1
      by_cases h2 : tryEnv.contains testEnv = true
      · simp only [h1', Bool.false_eq_true, if_false, h2, Bool.not_true]
        cases hp : ptNotInList test r with
        | none => simp [isInRing]
        | some p =>
          by_cases h3 : isInRing r (some p) = true
          · have hacc : Accepted test testEnv r tryEnv := by
              obtain ⟨pre, post, e, _, hn⟩ := ptNotInList_some hp
              refine ⟨he, h1', h2, p, hp, by simp [e], hn, ?_⟩
              simpa [isInRing] using h3
            simp only [h3, if_true]
            cases min with
            | none => right; exact ⟨tryEnv, rfl, hacc⟩
            | some m =>
              by_cases h4 : m.env.contains tryEnv = true
              · right; simp only [h4, if_true]; exact ⟨tryEnv, rfl, hacc⟩
              · left; simp [h4]
          · left; simp [h3]
      · left; simp [h1', h2]

/-- **loop invariant**: a property of (number of candidates seen, current minimum) that holds at the start and is
preserved by every iteration holds of the result -/
theorem find_inv (test : List Pt) (testEnv : Env) (L : List (List Pt)) (he : envOf test = some testEnv)
    (P : Nat → Option Min → Prop) (h0 : P 0 none)
    (hstep : ∀ i min r, L[i]? = some r → P i min → P (i + 1) (step test testEnv min i r)) :
    P L.length (findContaining test L) := by
  have loop_inv : ∀ (rest : List (List Pt)) (i : Nat) (min : Option Min), (∀ k, rest[k]? = L[i + k]?) → P i min →
      P (i + rest.length) (loop test testEnv min i rest) := by
    intro rest
    induction rest with
    | nil => intro i min _ h; exact h
    | cons r rest ih =>
      intro i min hL h
      have := ih (i + 1) (step test testEnv min i r)
        (fun k => by rw [← List.getElem?_cons_succ (a := r), hL (k + 1), Nat.add_assoc, Nat.add_comm 1 k])
        (hstep i min r (hL 0).symm h)
      rwa [Nat.add_assoc, Nat.add_comm 1] at this
  have := loop_inv L 0 none (fun k => by rw [Nat.zero_add]) h0
  rwa [Nat.zero_add, show loop test testEnv none 0 L = findContaining test L by rw [findContaining, he]] at this

/-- Whatever ring is returned, it sits at the returned index of the candidate list, its envelope covers the
test ring's envelope without being equal to it, and the deciding point is a vertex of the test ring, not a vertex of the
returned ring, and not exterior to it. -/
theorem find_sound (test : List Pt) (L : List (List Pt)) (m : Min) (h : findContaining test L = some m) :
    ∃ testEnv, envOf test = some testEnv ∧ L[m.idx]? = some m.ring ∧ Accepted test testEnv m.ring m.env := by
  cases he : envOf test with
  | none => rw [findContaining, he] at h; cases h
  | some testEnv =>
    refine ⟨testEnv, rfl, find_inv test testEnv L he
      (fun _ min => ∀ m, min = some m → L[m.idx]? = some m.ring ∧ Accepted test testEnv m.ring m.env)
      (fun _ h => nomatch h) (fun i min r hr hmin m' hm' => ?_) m h⟩
    rcases step_cases test testEnv min i r with hs | ⟨e, hs, hacc⟩
    · exact hmin m' (hs ▸ hm')
    · rw [hs] at hm'
      cases hm'
      exact ⟨hr, hacc⟩

/-- In a noded arrangement a vertex of one ring lies on another ring only where it is one of its
vertices (`hnoded`).  Then the vertex that decided the assignment is strictly inside the returned ring — so a ring that
merely touches a shell from outside (at shared vertices) can never be assigned to that shell, whichever vertex its
coordinate list starts with. -/
theorem find_strictly_inside (test : List Pt) (L : List (List Pt)) (m : Min) (h : findContaining test L = some m)
    (hnoded : ∀ q ∈ test, locateInRing q m.ring = .boundary → q ∈ m.ring) :
    ∃ p ∈ test, p ∉ m.ring ∧ locateInRing p m.ring = .interior := by
  obtain ⟨_, _, _, _, _, _, p, _, hpt, hpn, hloc⟩ := find_sound test L m h
  refine ⟨p, hpt, hpn, ?_⟩
  cases hl : locateInRing p m.ring with
  | interior => rfl
  | boundary => exact absurd (hnoded p hpt hl) hpn
  | exterior => exact absurd hl hloc

/-- when a candidate passes the three tests, `step` takes it unless the current minimum's envelope does not cover its envelope -/
theorem step_accepted (test : List Pt) (testEnv : Env) (min : Option Min) (i : Nat) (r : List Pt) (e : Env)
    (hacc : Accepted test testEnv r e) :
    step test testEnv min i r =
      match min with
      | none => some ⟨i, r, e⟩
      | some m => if m.env.contains e then some ⟨i, r, e⟩ else min := by
  obtain ⟨he, h1, h2, p, hp, _, _, hloc⟩ := hacc
  unfold step
  cases min with
  | none => simp [he, h1, h2, hp, isInRing, hloc]
  | some m => simp [he, h1, h2, hp, isInRing, hloc]

/-- a minimum, once found, is never lost; a candidate that passes the tests always leaves one -/
theorem step_isSome (test : List Pt) (testEnv : Env) (min : Option Min) (i : Nat) (r : List Pt)
    (h : min.isSome ∨ ∃ e, Accepted test testEnv r e) : (step test testEnv min i r).isSome := by
  rcases h with h | ⟨e, hacc⟩
  · rcases step_cases test testEnv min i r with h' | ⟨e, h', _⟩
    · rw [h']; exact h
    · rw [h']; rfl
  · rw [step_accepted test testEnv min i r e hacc]
    cases min with
    | none => rfl
    | some m => simp only; split <;> rfl

/-- `nullptr` is returned only if no candidate passes the tests. -/
theorem find_complete (test : List Pt) (testEnv : Env) (L : List (List Pt)) (he : envOf test = some testEnv)
    (r : List Pt) (hr : r ∈ L) (e : Env) (hacc : Accepted test testEnv r e) :
    (findContaining test L).isSome := by
  obtain ⟨j, hj, hjr⟩ := List.mem_iff_getElem.mp hr
  refine find_inv test testEnv L he (fun i min => j < i → min.isSome) (fun h => absurd h (Nat.not_lt_zero j))
    (fun i min r' hr' hmin hji => step_isSome test testEnv min i r' ?_) hj
  by_cases hlt : j < i
  · exact Or.inl (hmin hlt)
  · have : i = j := by omega
    rw [this, List.getElem?_eq_getElem hj, hjr] at hr'
    exact Or.inr ⟨e, Option.some.inj hr' ▸ hacc⟩

/-- The loop keeps the LAST candidate of a chain of nested envelopes: no candidate that
comes later in the list and passes the tests has its envelope covered by the envelope of the ring returned.  (This is what the
code guarantees about "innermost"; that envelope nesting reflects ring nesting is a property of the arrangement, not proved.) -/
theorem find_no_later_candidate_inside (test : List Pt) (L : List (List Pt)) (m : Min) (h : findContaining test L = some m)
    (testEnv : Env) (he : envOf test = some testEnv) (j : Nat) (hj : m.idx < j) (ring : List Pt) (e : Env)
    (hr : L[j]? = some ring) (hacc : Accepted test testEnv ring e) : m.env.contains e = false := by
  -- invariant: the minimum was found before position `i`, and no accepted candidate between it and `i` is covered by it
  have hinv := find_inv test testEnv L he
    (fun i min => ∀ m', min = some m' → m'.idx < i ∧ ∀ j, m'.idx < j → j < i → ∀ ring e, L[j]? = some ring →
      Accepted test testEnv ring e → m'.env.contains e = false)
    (fun _ h => nomatch h) (fun i min r hri hmin m2 hm2 => ?_)
  · exact (hinv m h).2 j hj (List.getElem?_eq_some_iff.mp hr).1 ring e hr hacc
  rcases step_cases test testEnv min i r with hs | ⟨e2, hs, _⟩
  · -- the minimum stays: a candidate at `i` that passes the tests was refused, so it is not covered
    rw [hs] at hm2
    obtain ⟨hlt, hall⟩ := hmin m2 hm2
    refine ⟨Nat.lt_succ_of_lt hlt, fun j2 hj2 hji ring2 e3 hr2 hacc2 => ?_⟩
    by_cases hjeq : j2 = i
    · subst hjeq
      cases hri.symm.trans hr2
      have hstep := step_accepted test testEnv min j2 r e3 hacc2
      rw [hs, hm2] at hstep
      simp only at hstep
      by_cases hc : m2.env.contains e3 = true
      · rw [if_pos hc] at hstep
        have : m2.idx = j2 := by rw [Option.some.inj hstep]
        omega
      · exact Bool.not_eq_true _ ▸ hc
    · exact hall j2 hj2 (by omega) ring2 e3 hr2 hacc2
  · -- the candidate at `i` becomes the minimum: nothing lies between
    rw [hs] at hm2
    cases hm2
    exact ⟨Nat.lt_succ_self i, fun j hj hji => absurd hji (by simp only at hj; omega)⟩

/-! ### witness: why the vertex scan is there -/

/-- a U-shaped shell (bay x ∈ [3,7], y ∈ [3,10]) -/
def uShell : List Pt := [⟨3, 3⟩, ⟨7, 3⟩, ⟨7, 10⟩, ⟨10, 10⟩, ⟨10, 0⟩, ⟨0, 0⟩, ⟨0, 10⟩, ⟨3, 10⟩, ⟨3, 3⟩]
/-- the outer ring of a triangle sitting in the bay and touching the corner (3,3), started at each of its three vertices -/
def triAtCorner : List Pt := [⟨3, 3⟩, ⟨6, 6⟩, ⟨4, 8⟩, ⟨3, 3⟩]
def triElsewhere : List Pt := [⟨6, 6⟩, ⟨4, 8⟩, ⟨3, 3⟩, ⟨6, 6⟩]
def triElsewhere2 : List Pt := [⟨4, 8⟩, ⟨3, 3⟩, ⟨6, 6⟩, ⟨4, 8⟩]

/-- the modelled code: the triangle touches the shell from outside, it is not assigned, whatever its start vertex -/
example : findIndex triAtCorner [uShell] = -1 ∧ findIndex triElsewhere [uShell] = -1 ∧ findIndex triElsewhere2 [uShell] = -1 := by decide

/-- Without the scan (test point = first vertex) the answer depends on where the
ring's coordinate list starts: assigned to the U when it starts at the shared corner, not assigned otherwise. -/
theorem start_vertex_matters_without_scan :
    (findContainingFirst triAtCorner [uShell]).isSome = true ∧ (findContainingFirst triElsewhere [uShell]).isSome = false ∧
    (findContaining triAtCorner [uShell]).isSome = false := by decide

/-- non-vacuity of `find_sound`: a square hole inside a square shell, sharing no vertex -/
example : findIndex [⟨2, 2⟩, ⟨2, 4⟩, ⟨4, 4⟩, ⟨4, 2⟩, ⟨2, 2⟩] [uShell, [⟨0, 0⟩, ⟨6, 0⟩, ⟨6, 6⟩, ⟨0, 6⟩, ⟨0, 0⟩]] = 1 := by decide
/-- a triangle inside a square shell touching its corner from INSIDE is assigned (the scan skips the shared corner) -/
example : findIndex [⟨0, 0⟩, ⟨1, 3⟩, ⟨1, 1⟩, ⟨0, 0⟩] [[⟨0, 0⟩, ⟨6, 0⟩, ⟨6, 6⟩, ⟨0, 6⟩, ⟨0, 0⟩]] = 0 := by decide

end GeosModel.Lines.HoleAssign
