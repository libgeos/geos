import GeosModel.Proofs.Precision.GenRoundLemmas
import GeosModel.Generated.PrecisionRound
import Mathlib.Tactic.Ring
import Mathlib.Tactic.Linarith
/-!
# C04 — the regenerated rounding rule is the model the C04 theorems are about

`Generated/PrecisionRound.lean` is rewritten from `src/util/math.cpp` (`java_math_round`, `sym_round`),
`include/geos/util/math.h` (`util::round`) and `src/geom/PrecisionModel.cpp` (`makePrecise`, `snapToInt`, `setScale`, the constructor `PrecisionModel(double)`) by
`translate/cxx2lean.py` (spec `precision_round`) on every run.  The C++ computes with `double`; the regenerated definitions
are generic over the carrier and take the math library (`std::floor`, `std::ceil`, the two results of `std::modf`,
`std::round`, `static_cast<float>`) as explicit function parameters.  They are instantiated

* with exact rationals and the exact `floor` / `ceil` / truncation — and proved equal to `javaRound`, `makePreciseScale`,
  `makePreciseGrid`, `makePreciseQ` (`Model/Precision/Round.lean`, exact layer), the objects of `javaRound_nearest`,
  `javaRound_ties_up`, `makePrecise_idem_exact`, `makePrecise_nearest_exact` in `Props/C04.lean`;
* with the binary64 value model `F64.Val` (`Model/Precision/CxxVal.lean`: every operator is the IEEE operation of the
  model) — and proved equal to `PM.makePrecise`, `snapToInt`, `PM.setScale`, the objects of `makePrecise_idem_f64` and
  `pointwise_moves_to_nearest` and what the driver of stream `precise` runs.

for **all** arguments.  The connecting hypothesis of the binary64 bridge of `makePrecise` is that the regenerated
`java_math_round`, with whatever `floor`/`ceil`/`modf` the platform has, computes `javaRoundF` (exactly-rounded
`java_math_round`; tied by stream `precise`, bit for bit).
-/
namespace GeosModel.C04GenRound
open GeosModel GeosModel.Precision GeosModel.Generated
open GeosModel.F64 (Val)

/-! ## the math library over exact rationals -/

/-- `std::floor` -/
def floorQ (x : Rat) : Rat := (x.floor : Rat)
/-- `std::ceil` -/
def ceilR (x : Rat) : Rat := (ceilQ x : Rat)
/-- integral part stored by `std::modf` (truncation toward zero) -/
def modfIntQ (x : Rat) : Rat := (modfInt x : Rat)
/-- value returned by `std::modf`: the fractional part, with the sign of the argument -/
def modfFracQ (x : Rat) : Rat := x - (modfInt x : Rat)

/-! ## exact layer -/

/-- `util::java_math_round`, regenerated, over exact rationals = `javaRound` — for every argument -/
theorem gen_java_math_round_eq (x : Rat) :
    PrecisionRound.java_math_round (R := Rat) floorQ ceilR modfIntQ modfFracQ x = (javaRound x : Rat) := by
  unfold PrecisionRound.java_math_round javaRound
  simp only [floorQ, ceilR, modfIntQ, modfFracQ, modfInt]
  -- the literal `0.5` becomes `half` and `fabs` becomes `absQ` by the `simp` lemmas `rat_dec_half`, `rat_abs` of
  -- `GenRoundLemmas`; after that the six branches are the model's, test for test
  simp [Cxx.gt, Cxx.ge]

/-- `util::sym_round`, regenerated, over exact rationals = `symRound` (half away from zero; see
`symRound_differs_only_at_negative_ties`) -/
theorem gen_sym_round_eq (x : Rat) :
    PrecisionRound.sym_round (R := Rat) floorQ ceilR modfIntQ modfFracQ x = (symRound x : Rat) := by
  unfold PrecisionRound.sym_round symRound
  simp only [floorQ, ceilR, modfIntQ, modfFracQ, modfInt]
  -- as for `java_math_round`: `rat_dec_half`, `rat_abs`, then the same six branches
  simp [Cxx.gt, Cxx.ge]

/-- `util::round` IS `java_math_round` (not `sym_round`, not `std::round`) -/
theorem gen_round_eq (x : Rat) :
    PrecisionRound.round (R := Rat) floorQ ceilR modfIntQ modfFracQ x = (javaRound x : Rat) := by
  simp [PrecisionRound.round, gen_java_math_round_eq]

/-- `PrecisionModel::makePrecise` for a FIXED model, regenerated, over exact rationals = `makePreciseQ`: the branch
selection (`gridSize > 1`, else `scale != 0`, else unchanged) and both arithmetic branches -/
theorem gen_makePrecise_fixed_eq (toFloat : Rat → Rat) (scale gridSize x : Rat) :
    PrecisionRound.makePrecise (R := Rat) floorQ ceilR modfIntQ modfFracQ toFloat .fixed scale gridSize x
      = makePreciseQ scale gridSize x := by
  unfold PrecisionRound.makePrecise makePreciseQ makePreciseGrid makePreciseScale
  simp [Cxx.gt, Cxx.ne, gen_round_eq]

/-- the two arithmetic branches separately, as `makePrecise_idem_exact` / `makePrecise_nearest_exact` state them -/
theorem gen_makePrecise_branches (toFloat : Rat → Rat) (scale gridSize x : Rat) :
    (1 < gridSize → PrecisionRound.makePrecise (R := Rat) floorQ ceilR modfIntQ modfFracQ toFloat .fixed scale gridSize x
        = makePreciseGrid gridSize x) ∧
    (¬ 1 < gridSize → scale ≠ 0 → PrecisionRound.makePrecise (R := Rat) floorQ ceilR modfIntQ modfFracQ toFloat .fixed scale gridSize x
        = makePreciseScale scale x) := by
  rw [gen_makePrecise_fixed_eq]
  unfold makePreciseQ
  constructor
  · intro h; simp [h]
  · intro h hs; simp [h, hs]

/-- FLOATING leaves the value alone, FLOATING_SINGLE is the conversion to `float` and back — for every carrier -/
theorem gen_makePrecise_floating {R : Type} [Cxx.Field R] (fl cl mi mf tf : R → R) (scale gridSize x : R) :
    PrecisionRound.makePrecise fl cl mi mf tf .floating scale gridSize x = x ∧
    PrecisionRound.makePrecise fl cl mi mf tf .floatingSingle scale gridSize x = tf x := by
  constructor <;> simp [PrecisionRound.makePrecise]

/-! ## binary64 layer -/

/-- `PrecisionModel::snapToInt`, regenerated, over the binary64 model = `Precision.snapToInt` (with `std::round` =
`stdRoundF`, round half away from zero) -/
theorem gen_snapToInt_f64 (v tol : Val) :
    PrecisionRound.snapToInt (R := Val) stdRoundF v tol = Precision.snapToInt v tol := by
  unfold PrecisionRound.snapToInt Precision.snapToInt
  simp

/-- `PrecisionModel::setScale`, regenerated (it assigns the members `scale` and `gridSize`), over the binary64 model =
`PM.setScale`, whatever the members held before: the `newScale == 0` block falls through, a negative scale means a grid
size, `snapToInt` with the tolerance read from the source (1e-5) on the scale or on the grid size -/
theorem gen_setScale_f64 (scale0 gridSize0 newScale : Val) :
    PrecisionRound.setScale (R := Val) stdRoundF scale0 gridSize0 newScale
      = ((PM.setScale newScale).scale, (PM.setScale newScale).gridSize) := by
  unfold PrecisionRound.setScale PM.setScale
  -- the block `newScale == 0` only assigns members that the next two statements overwrite, so `simp` drops it; what is
  -- left are the sign test (`cases`) and the test `scale < 1` (`split`), with the same pair on both sides in each case
  cases h0 : vLt newScale zero <;> simp [h0, gen_snapToInt_f64] <;> split <;> rfl

/-- the constructor `PrecisionModel(double newScale)` (what `GEOSGeom_setPrecision_r` / `GEOS*Prec_r` and stream `precise`
build): model type FIXED and the members of `PM.setScale newScale`, whatever they held before -/
theorem gen_pmCtorScale_f64 (t0 : ModelType) (scale0 gridSize0 newScale : Val) :
    PrecisionRound.pmCtorScale (R := Val) stdRoundF t0 scale0 gridSize0 newScale
      = (ModelType.fixed, (PM.setScale newScale).scale, (PM.setScale newScale).gridSize) := by
  unfold PrecisionRound.pmCtorScale
  simp [gen_setScale_f64]

/-- `PrecisionModel::makePrecise` for a FIXED model over the binary64 model = `PM.makePrecise` (the object of
`makePrecise_idem_f64`, `PM.onGrid`, `pointwise_moves_to_nearest`), given that the regenerated `java_math_round` with the
platform's `floor`/`ceil`/`modf` is the exactly rounded `javaRoundF` -/
theorem gen_makePrecise_f64 (fl cl mi mf tf : Val → Val)
    (hround : ∀ x, PrecisionRound.java_math_round (R := Val) fl cl mi mf x = javaRoundF x) (pm : PM) (v : Val) :
    PrecisionRound.makePrecise (R := Val) fl cl mi mf tf .fixed pm.scale pm.gridSize v = pm.makePrecise v := by
  unfold PrecisionRound.makePrecise PM.makePrecise
  simp [Cxx.gt, Cxx.ne, PrecisionRound.round, hround]

/-- all three model types at once -/
theorem gen_makePreciseT_f64 (fl cl mi mf tf : Val → Val)
    (hround : ∀ x, PrecisionRound.java_math_round (R := Val) fl cl mi mf x = javaRoundF x) (t : ModelType) (pm : PM) (v : Val) :
    PrecisionRound.makePrecise (R := Val) fl cl mi mf tf t pm.scale pm.gridSize v = pm.makePreciseT tf t v := by
  cases t
  · exact gen_makePrecise_f64 fl cl mi mf tf hround pm v
  · exact (gen_makePrecise_floating fl cl mi mf tf pm.scale pm.gridSize v).1
  · exact (gen_makePrecise_floating fl cl mi mf tf pm.scale pm.gridSize v).2

-- non-vacuity: 2.5 ↦ 3, −2.5 ↦ −2 through the regenerated code; PrecisionModel(1000.0) through the regenerated setScale
example : PrecisionRound.java_math_round (R := Rat) floorQ ceilR modfIntQ modfFracQ (5 / 2) = 3 ∧
    PrecisionRound.java_math_round (R := Rat) floorQ ceilR modfIntQ modfFracQ (-5 / 2) = -2 := by
  rw [gen_java_math_round_eq, gen_java_math_round_eq]; decide +kernel
example : PrecisionRound.setScale (R := Val) stdRoundF zero zero (F64.decode 0x408f400000000000)
    = (F64.decode 0x408f400000000000, F64.decode 0x3f50624dd2f1a9fc) := by
  rw [gen_setScale_f64]; decide +kernel

end GeosModel.C04GenRound
