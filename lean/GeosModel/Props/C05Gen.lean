import GeosModel.Proofs.Valid.GenBridge
import GeosModel.Proofs.Valid.NodeTopo
import GeosModel.Proofs.Valid.WedgeDet
import GeosModel.Generated.NodeTopology
/-!
# C05 — the regenerated `PolygonNodeTopology` is the model the CORE theorems are about

`Generated/NodeTopology.lean` is rewritten from `src/algorithm/PolygonNodeTopology.cpp` and `include/geos/geom/Quadrant.h` by
`translate/cxx2lean.py` (spec `node_topology`) on every run, statement by statement: `Quadrant::quadrant(double, double)` and all
seven functions of `PolygonNodeTopology`.  The quadrant numbers and the orientation enumerators are read from the headers;
`Orientation::index` is the parameter `orientationIndex`, instantiated here with `Kernel.orient` (exactness of the orientation
predicate on the grid is C07's subject).  `Quadrant::quadrant` throws for the zero vector, so the regenerated functions live in
`Except`; the theorems below prove each of them equal to `ok` of the hand-written model of `Model/Valid/NodeTopo.lean` — the
object of the CORE theorems of `Props/C05.lean` — for **all** integer points different from the node (and that the zero
vector is exactly the throwing case).  The last theorems restate two CORE results for the regenerated functions themselves.
-/
namespace GeosModel.C05Gen
open GeosModel GeosModel.Kernel GeosModel.Valid GeosModel.Generated GeosModel.ValidGen

theorem gen_quadrantD_eq (dx dy : Int) (h : ¬ (dx = 0 ∧ dy = 0)) :
    NodeTopology.quadrantD dx dy = .ok ((Valid.quadrantD dx dy : Nat) : Int) := by
  unfold NodeTopology.quadrantD Valid.quadrantD
  simp [Cxx.ge, h]
  simp only [apply_ite Except.ok]

/-- the zero vector is the throwing case of `Quadrant::quadrant` (the model maps it to `NE`; no caller passes it) -/
theorem gen_quadrantD_zero : NodeTopology.quadrantD (0 : Int) 0 = .error "IllegalArgumentException" := by
  unfold NodeTopology.quadrantD
  simp [Cxx.ge]

theorem gen_quadrant_eq (o p : Pt) (h : p ≠ o) :
    NodeTopology.quadrant (xy o) (xy p) = .ok ((Valid.quadrant o p : Nat) : Int) := by
  unfold NodeTopology.quadrant Valid.quadrant
  simp [gen_quadrantD_eq _ _ (not_and_or.mpr ((ne_iff_vec o p).1 h))]

theorem gen_quadrant_throws (o : Pt) : NodeTopology.quadrant (xy o) (xy o) = .error "IllegalArgumentException" := by
  unfold NodeTopology.quadrant
  simp [gen_quadrantD_zero]

theorem gen_compareAngle_eq (o p q : Pt) (hp : p ≠ o) (hq : q ≠ o) :
    NodeTopology.compareAngle oi (xy o) (xy p) (xy q) = .ok (Valid.compareAngle o p q) := by
  unfold NodeTopology.compareAngle Valid.compareAngle
  simp only [gen_quadrant_eq _ _ hp, gen_quadrant_eq _ _ hq, ok_bind, pure_eq_ok, oi_xy, decide_eq_true_eq, gt_iff_lt, Int.ofNat_lt,
    apply_ite Except.ok]
  rfl

theorem gen_isAngleGreater_eq (o p q : Pt) (hp : p ≠ o) (hq : q ≠ o) :
    NodeTopology.isAngleGreater oi (xy o) (xy p) (xy q) = .ok (Valid.isAngleGreater o p q) := by
  unfold NodeTopology.isAngleGreater Valid.isAngleGreater
  simp only [gen_quadrant_eq _ _ hp, gen_quadrant_eq _ _ hq, ok_bind, pure_eq_ok, oi_xy, decide_eq_true_eq, gt_iff_lt, Int.ofNat_lt,
    apply_ite Except.ok]

theorem gen_isBetween_eq (o p e0 e1 : Pt) (hp : p ≠ o) (h0 : e0 ≠ o) (h1 : e1 ≠ o) :
    NodeTopology.isBetween oi (xy o) (xy p) (xy e0) (xy e1) = .ok (Valid.isBetween o p e0 e1) := by
  unfold NodeTopology.isBetween Valid.isBetween
  simp only [gen_isAngleGreater_eq _ _ _ hp h0, gen_isAngleGreater_eq _ _ _ hp h1, ok_bind, pure_eq_ok, apply_ite Except.ok]

theorem gen_compareBetween_eq (o p e0 e1 : Pt) (hp : p ≠ o) (h0 : e0 ≠ o) (h1 : e1 ≠ o) :
    NodeTopology.compareBetween oi (xy o) (xy p) (xy e0) (xy e1) = .ok (Valid.compareBetween o p e0 e1) := by
  unfold NodeTopology.compareBetween Valid.compareBetween
  simp only [gen_compareAngle_eq _ _ _ hp h0, gen_compareAngle_eq _ _ _ hp h1, ok_bind, pure_eq_ok, apply_ite Except.ok]

theorem gen_isCrossing_eq (n a0 a1 b0 b1 : Pt) (h0 : a0 ≠ n) (h1 : a1 ≠ n) (hb0 : b0 ≠ n) (hb1 : b1 ≠ n) :
    NodeTopology.isCrossing oi (xy n) (xy a0) (xy a1) (xy b0) (xy b1) = .ok (Valid.isCrossing n a0 a1 b0 b1) := by
  unfold NodeTopology.isCrossing Valid.isCrossing
  simp only [gen_isAngleGreater_eq _ _ _ h0 h1, ok_bind]
  cases Valid.isAngleGreater n a0 a1 <;>
    simp only [Bool.false_eq_true, if_false, if_true, gen_compareBetween_eq _ _ _ _ hb0 h0 h1, gen_compareBetween_eq _ _ _ _ hb1 h0 h1,
      gen_compareBetween_eq _ _ _ _ hb0 h1 h0, gen_compareBetween_eq _ _ _ _ hb1 h1 h0, ok_bind, pure_eq_ok, apply_ite Except.ok]

theorem gen_isInteriorSegment_eq (n a0 a1 b : Pt) (h0 : a0 ≠ n) (h1 : a1 ≠ n) (hb : b ≠ n) :
    NodeTopology.isInteriorSegment oi (xy n) (xy a0) (xy a1) (xy b) = .ok (Valid.isInteriorSegment n a0 a1 b) := by
  unfold NodeTopology.isInteriorSegment Valid.isInteriorSegment
  simp only [gen_isAngleGreater_eq _ _ _ h0 h1, ok_bind]
  cases Valid.isAngleGreater n a0 a1 <;>
    simp only [Bool.false_eq_true, if_false, if_true, gen_isBetween_eq _ _ _ _ hb h0 h1, gen_isBetween_eq _ _ _ _ hb h1 h0, ok_bind,
      pure_eq_ok, Bool.not_false, Bool.not_true]

/-- **the regenerated `isCrossing` decides the wedge specification**: the code generated from the current
`PolygonNodeTopology.cpp` returns `true` exactly when `b0` and `b1` lie strictly in different open wedges of the corner
`(a0, a1)` (`Valid.isCrossing_eq_crossAt` transported along the bridge) -/
theorem gen_isCrossing_iff_wedge (n a0 a1 b0 b1 : Pt) (h0 : a0 ≠ n) (h1 : a1 ≠ n) (hb0 : b0 ≠ n) (hb1 : b1 ≠ n) :
    NodeTopology.isCrossing oi (xy n) (xy a0) (xy a1) (xy b0) (xy b1) = .ok (crossAt n a0 a1 b0 b1) := by
  rw [gen_isCrossing_eq n a0 a1 b0 b1 h0 h1 hb0 hb1, Valid.isCrossing_eq_crossAt n a0 a1 b0 b1 h0 h1 hb0 hb1]

/-- **the regenerated `isInteriorSegment` decides "the segment lies inside the corner"** stated in orientation determinants
only (`Valid.isInteriorSegment_eq_det` transported along the bridge) -/
theorem gen_isInteriorSegment_iff_det (n a0 a1 b : Pt) (h0 : a0 ≠ n) (h1 : a1 ≠ n) (hb : b ≠ n) :
    NodeTopology.isInteriorSegment oi (xy n) (xy a0) (xy a1) (xy b) =
      .ok (inSweep n a0 b a1 || (sameDir n b a1 && !sameDir n a0 a1)) := by
  rw [gen_isInteriorSegment_eq n a0 a1 b h0 h1 hb, Valid.isInteriorSegment_eq_det n a0 a1 b h0 h1 hb]

/-! non-vacuity: the regenerated code evaluates, and throws exactly on a repeated point -/
example : NodeTopology.isCrossing oi (xy ⟨0, 0⟩) (xy ⟨1, 0⟩) (xy ⟨-1, 0⟩) (xy ⟨0, 1⟩) (xy ⟨0, -1⟩) = .ok true := by decide
example : NodeTopology.isCrossing oi (xy ⟨0, 0⟩) (xy ⟨1, 0⟩) (xy ⟨-1, 0⟩) (xy ⟨0, 1⟩) (xy ⟨1, 1⟩) = .ok false := by decide
example : NodeTopology.isInteriorSegment oi (xy ⟨0, 0⟩) (xy ⟨0, -1⟩) (xy ⟨1, 0⟩) (xy ⟨1, -1⟩) = .ok true := by decide
example : NodeTopology.isCrossing oi (xy ⟨0, 0⟩) (xy ⟨0, 0⟩) (xy ⟨-1, 0⟩) (xy ⟨0, 1⟩) (xy ⟨1, 1⟩) = .error "IllegalArgumentException" := by decide

end GeosModel.C05Gen
