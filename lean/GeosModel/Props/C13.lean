import GeosModel.Proofs.Conc.InterleaveLemmas
import GeosModel.Proofs.Conc.IndexedLocate
import GeosModel.Generated.Globals
import GeosModel.Generated.SharedObjects
/-!
# C13 — reentrant API: threads with their own contexts and objects do not interfere

Four parts; in the file they come in the order (1), (3), (2), (4).

**(1) Generic theorems about the interleaving model** (`Model/Conc/Interleave.lean`; sequential
consistency, all schedules, any number of threads), by induction over schedules:

* `no_race_of_discipline` — if every cell a thread touches is immutable-after-init (and only read),
  atomic, consistently guarded by a mutex the thread holds, or private to that thread, then no
  schedule reaches a state where two threads are about to perform conflicting non-atomic accesses;
* `transcript_eq_sequential` — if in addition no thread *observes* (reads) a cell that another thread
  modifies, then in every schedule every thread's transcript is the transcript of its own events run
  alone; a thread that has finished has produced exactly its sequential transcript;
* `independent_of_discipline` — under the discipline the extra hypothesis only concerns atomic and
  mutex-guarded cells ("no thread's transcript depends on an atomic/guarded cell written by another");
* `refcount_unobserved` — a cell that is only ever incremented/decremented (`rmw`, result unused), like the
  default factory's reference count, never violates that hypothesis.

**(2) The inventory** (`Generated/Globals.lean`, regenerated on every run by
`translate/globals_inventory.py` from the freshly built `libgeos.so` / `libgeos_c.so` symbol tables and
the headers): `inventory_disciplined` — every cell is in a safe class **by its declared type**
(std::atomic, mutex, thread_local, const, ABI guard) or is one of the exceptions **named in the list
`exceptions`**, each with the reason why it is tolerated.  A new writable global, a new function-local
static, a new `mutable` member, or a cell whose type stops being atomic/const makes this theorem (a
`decide`) fail.  The exceptions of class `raceCandidate` are real unsynchronised accesses on the
unchanged tree: findings, see `raceCandidates_exact`.

**(3) A lazily indexed object built before sharing** — the point locator of a prepared polygon
(`Model/Conc/IndexedLocate.lean`, `Proofs/Conc/IndexedLocate.lean`): `shared_built_locator_schedule_independent`
(any number of threads asking any points: no race, every answer is `locate rings q`),
`shared_built_locator_report_independent` (the answer does not depend on what order / which superset of the
stabbed segments the interval index reports), `shared_built_locator_answers_evenOdd`.  Stream `sharedlocate`
compares the concurrent implementation with this model.

**(4) The members of objects shared after being built** (`Generated/SharedObjects.lean`, regenerated on every
run by `translate/shared_objects_inventory.py`): `shared_objects_written_only_while_built` — every data member
of the classes inside a prepared geometry is safe by type, or is written only by the functions
**named in the list `allowedWriters`**; `sharedObject_knownRaces_exact` names the members that are the known finding.

Limits: SC only (no weak memory); the link "an API call touches only (a) memory private to its
thread/context, (b) shared immutable geometries, (c) inventory cells" is the property's premise plus
the completeness of the linker's symbol table for process-wide state — it is not proved from the C++.
-/
namespace GeosModel.Conc

/-! ## (1) generic theorems -/

theorem no_race_of_discipline (tag : CellId → Tag) (mem0 : CellId → Val) (p : Prog)
    (hd : Disciplined tag p) : ¬ dataRace (tagAtomic tag) mem0 p := by
  rintro ⟨sched, s, hex, hr⟩
  exact not_racy_of_lockInv tag s (lockInv_exec tag sched _ s (lockInv_init tag mem0 p hd) hex) hr

/-- **transcript_eq_sequential.**  For every schedule that runs (`exec … = some s`): each thread's
    transcript so far is the sequential transcript of the events it has executed, these events are a
    prefix of its program, and a finished thread has produced exactly its sequential transcript. -/
theorem transcript_eq_sequential (mem0 : CellId → Val) (p : Prog) (hind : Independent p)
    (sched : List Tid) (s : St) (hex : exec (St.init mem0 p) sched = some s) (t : Tid) :
    s.out t = seqTranscript mem0 (s.done t) ∧ s.done t ++ s.rest t = p t ∧
    (s.rest t = [] → s.out t = seqTranscript mem0 (p t)) := by
  have inv := viewInv_exec mem0 p hind sched _ s (viewInv_init mem0 p) hex
  refine ⟨inv.outEq t, inv.split t, fun hfin => ?_⟩
  have := inv.split t
  rw [hfin, List.append_nil] at this
  rw [inv.outEq t, this]; rfl

/-- under the discipline, a cell read by one thread and modified by another can only be atomic or mutex-guarded -/
theorem shared_written_cell_is_atomic_or_guarded (tag : CellId → Tag) (p : Prog) (hd : Disciplined tag p)
    (t t' : Tid) (c : CellId) (hne : t ≠ t') (hr : readsCell (p t) c) (hw : writesCell (p t') c) :
    tag c = .atomic ∨ ∃ m, tag c = .guardedBy m := by
  obtain ⟨e, he, ha⟩ := hw
  obtain ⟨h1, a1⟩ := okFrom_mem_access tag t (p t) [] (hd t) (.read c) hr c false rfl
  obtain ⟨h2, a2⟩ := okFrom_mem_access tag t' (p t') [] (hd t') e he c true ha
  exact (accessOK_conflict hne a1 a2 (Or.inr rfl)).imp_right fun ⟨m, hm, _⟩ => ⟨m, hm⟩

/-- "no thread's observable transcript depends on an atomic (or guarded) cell written by another thread" -/
def NoObservedSharedWrite (tag : CellId → Tag) (p : Prog) : Prop :=
  ∀ t t' c, t ≠ t' → (tag c = .atomic ∨ ∃ m, tag c = .guardedBy m) → readsCell (p t) c → ¬ writesCell (p t') c

theorem independent_of_discipline (tag : CellId → Tag) (p : Prog) (hd : Disciplined tag p)
    (hobs : NoObservedSharedWrite tag p) : Independent p := by
  intro t t' c hne hr hw
  exact hobs t t' c hne (shared_written_cell_is_atomic_or_guarded tag p hd t t' c hne hr hw) hr hw

/-- the property's sentence for the model: discipline + no observed shared write ⇒ no data race in any
    interleaving, and every thread that completes returns exactly its sequential transcript -/
theorem reentrant_threads_do_not_interfere (tag : CellId → Tag) (mem0 : CellId → Val) (p : Prog)
    (hd : Disciplined tag p) (hobs : NoObservedSharedWrite tag p) :
    ¬ dataRace (tagAtomic tag) mem0 p ∧
    ∀ sched s, exec (St.init mem0 p) sched = some s → ∀ t, s.rest t = [] → s.out t = seqTranscript mem0 (p t) :=
  ⟨no_race_of_discipline tag mem0 p hd, fun sched s hex t hfin =>
    (transcript_eq_sequential mem0 p (independent_of_discipline tag p hd hobs) sched s hex t).2.2 hfin⟩

/-- **refcount_unobserved.**  A cell that no thread ever `read`s (it is only `rmw`-ed, like `_refCount` of the
    never-destroyed default factory, or only written) cannot make a transcript depend on another thread. -/
theorem refcount_unobserved (p : Prog) (r : CellId) (hnoread : ∀ t, ¬ readsCell (p t) r)
    (hrest : ∀ t t' c, c ≠ r → t ≠ t' → readsCell (p t) c → ¬ writesCell (p t') c) : Independent p := by
  intro t t' c hne hr hw
  by_cases hc : c = r
  · subst hc; exact hnoread t hr
  · exact hrest t t' c hc hne hr hw

/-! ### non-vacuity: a racy program is racy, a disciplined one is disciplined -/

/-- two threads `++refCount` on a plain cell: the model *does* exhibit the race -/
example : dataRace (fun _ => false) (fun _ => 0) (fun t => if t < 2 then [.rmw 0 1] else []) :=
  ⟨[], St.init _ _, rfl, 0, 1, .rmw 0 1, .rmw 0 1, [], [], by decide, rfl, rfl, 0, true, true, rfl, rfl, Or.inl rfl, rfl⟩

/-- same program with the cell atomic satisfies the discipline -/
example : Disciplined (fun _ => .atomic) (fun t => if t < 2 then [.rmw 0 1] else []) := by
  intro t; by_cases h : t < 2 <;> simp [h, okFrom, accessOK]

/-- a thread observing a flag another thread writes does depend on the schedule (hypothesis is needed):
    reader-first and writer-first schedules give different transcripts -/
example : (exec (St.init (fun _ => 0) (fun t => if t = 0 then [.write 7 1] else if t = 1 then [.read 7] else [])) [0, 1]).map (·.out 1) = some [1]
    ∧ (exec (St.init (fun _ => 0) (fun t => if t = 0 then [.write 7 1] else if t = 1 then [.read 7] else [])) [1, 0]).map (·.out 1) = some [0] := by
  constructor <;> rfl

/-- the two-flag lazy cache of `CoordinateSequence` (`m_hasdim = true; m_hasz = true;` vs `hasZ()` reading
    `m_hasdim` then `m_hasz`): a schedule exists in which the reader sees hasdim = 1 and hasz = 0, which no
    sequential order of the two calls produces -/
example : (exec (St.init (fun _ => 0) (fun t => if t = 0 then [.write 1 1, .write 2 1] else if t = 1 then [.read 1, .read 2] else []))
    [0, 1, 1, 0]).map (·.out 1) = some [1, 0] := rfl

/-! ## (3) a lazily indexed object built before sharing: the point locator of a prepared polygon

`Model/Conc/IndexedLocate.lean` models `IndexedPointInAreaLocator::locate` as it is in the source: a local
`RayCrossingCounter` fed with the segments the (already built) interval index reports.  `locate_any_report`: the answer
does not depend on the report order nor on extra reported segments; `locate_eq_evenOdd`: it is the even–odd rule.  Hence a
call touches shared memory only by *reading* the index, and: -/
open GeosModel.Kernel in
/-- **a locator built before sharing may be asked by any number of threads**: whatever points the threads ask, in every
schedule there is no data race and every thread that finishes has received, for each of its calls, exactly
`locate rings q` — the answer of the same call made alone (`mem0 idx` stands for the index it read). -/
theorem shared_built_locator_schedule_independent (idx : CellId) (rings : List (List Pt)) (queries : Tid → List Pt)
    (mem0 : CellId → Val) :
    ¬ dataRace (tagAtomic (fun _ => Tag.immutableAfterInit)) mem0 (fun t => Locate.locateThread idx rings (queries t)) ∧
    ∀ sched s, exec (St.init mem0 (fun t => Locate.locateThread idx rings (queries t))) sched = some s →
      ∀ t, s.rest t = [] → s.out t = (queries t).flatMap (fun q => [mem0 idx, Locate.locCode (Locate.locate rings q)]) := by
  have h := reentrant_threads_do_not_interfere (fun _ => Tag.immutableAfterInit) mem0
    (fun t => Locate.locateThread idx rings (queries t))
    (fun t => Locate.okFrom_locateThread _ idx rfl t rings (queries t) [])
    (fun t t' c _ _ _ hw => Locate.locateThread_no_write idx rings (queries t') c hw)
  refine ⟨h.1, fun sched s hex t hfin => ?_⟩
  rw [h.2 sched s hex t hfin]
  simp [seqTranscript, Locate.seqRun_locateThread]

open GeosModel.Kernel in
/-- … and that answer is the even–odd location of the point in the polygon's rings (all rings closed) -/
theorem shared_built_locator_answers_evenOdd (rings : List (List Pt)) (hc : ∀ r ∈ rings, RayCount.Closed r) (q : Pt) :
    Locate.locate rings q = Locate.evenOdd rings q := Locate.locate_eq_evenOdd rings hc q

open GeosModel.Kernel in
/-- … whatever the interval tree reports (any order, with or without segments that are not stabbed) -/
theorem shared_built_locator_report_independent (rings : List (List Pt)) (p : Pt) (visited : List Locate.Seg)
    (h : (visited.filter (Locate.stabs p)).Perm ((Locate.segsOf rings).filter (Locate.stabs p))) :
    Locate.locateVisited p visited = Locate.locate rings p := Locate.locate_any_report rings p visited h

/-- non-vacuity: the triangle (0,0),(10,0),(0,10): (1,1) interior, (8,8) exterior, (5,5) and (0,0) boundary -/
example : Locate.locate [[⟨0,0⟩,⟨10,0⟩,⟨0,10⟩,⟨0,0⟩]] ⟨1,1⟩ = .interior ∧ Locate.locate [[⟨0,0⟩,⟨10,0⟩,⟨0,10⟩,⟨0,0⟩]] ⟨8,8⟩ = .exterior ∧
    Locate.locate [[⟨0,0⟩,⟨10,0⟩,⟨0,10⟩,⟨0,0⟩]] ⟨5,5⟩ = .boundary ∧ Locate.locate [[⟨0,0⟩,⟨10,0⟩,⟨0,10⟩,⟨0,0⟩]] ⟨0,0⟩ = .boundary := by decide

/-- the hypothesis "the call only reads" is needed.  A `locate` that memoises its last query in three ordinary members
(cells 10 = hasLast, 11 = lastPt, 12 = lastLoc; thread 0 asks point 1 whose location is 0, thread 1 asks point 2 whose
location is 2, twice; each event list is the path the call takes in the schedule below): thread 1's second call finds its
own point in `lastPt` and thread 0's answer in `lastLoc`.  Alone, it receives 2. -/
example :
    let p : Prog := fun t =>
      if t = 0 then [.read 10, .write 11 1, .write 12 0, .write 10 1, .out 0]
      else if t = 1 then [.read 10, .write 11 2, .write 12 2, .write 10 1, .out 2, .read 10, .read 11, .read 12]
      else []
    (exec (St.init (fun _ => 0) p) [0, 0, 1, 1, 1, 1, 1, 0, 0, 0, 1, 1, 1]).map (·.out 1) = some [0, 2, 1, 2, 0] ∧
    seqTranscript (fun _ => 0) (p 1) = [0, 2, 1, 2, 2] := by
  constructor <;> rfl

/-! ## (2) the generated inventory -/
open GeosModel.Generated.Globals

/-- why a cell that is *not* safe by its type is tolerated -/
inductive Why where
  /-- non-const only by declaration: no statement of the library writes it after static initialisation
      (stateless singleton objects, lookup tables, constants).  Zero-risk fix: declare it `const`. -/
  | neverWritten
  /-- `mutable` but written only by constructors / non-const mutators, never by a const method -/
  | notWrittenByConstMethods
  /-- REAL unsynchronised concurrent access on the unchanged tree: a finding (see the manifest / report) -/
  | raceCandidate
  /-- lazily built index or cache of an object the property excludes unless it was built before sharing
      (prepared geometries, legacy STRtree nodes) -/
  | excludedLazyIndex
  /-- member of a per-call temporary helper object (never part of a geometry that can be shared) -/
  | perCallTemporary
  /-- only used by the legacy non-reentrant API (`initGEOS` / functions without `_r`), outside the property -/
  | legacyNonReentrantApi
deriving DecidableEq, Repr

/-- the exception list of `inventory_disciplined` -/
def exceptions : List (String × Why) := [
  -- Interrupt.cpp: written by GEOS_init_r → Interrupt::cancel() in any thread, read by every poll of every thread
  ("(anonymous namespace)::requested", .raceCandidate),
  ("(anonymous namespace)::callback", .raceCandidate),
  -- default GeometryFactory: `++_refCount` / `--_refCount` (plain int) from every geometry ctor/dtor of every thread
  ("GeometryFactory::_refCount", .raceCandidate),
  -- GEOSversion(): `static char version[256]; snprintf(version, …)` on every call (same bytes, still a write/write race)
  ("GEOSversion::version", .raceCandidate),
  -- lazily written by const getters of geometries that may be shared read-only
  ("CoordinateSequence::m_hasdim", .raceCandidate),
  ("CoordinateSequence::m_hasz", .raceCandidate),
  ("GeometryCollection::flags", .raceCandidate),
  -- mutable, but only constructors / geometryChanged (non-const) write them
  ("GeometryCollection::envelope", .notWrittenByConstMethods),
  ("SimpleCurve::envelope", .notWrittenByConstMethods),
  -- stateless singletons / constants that are merely not declared const
  ("geos::algorithm::(anonymous namespace)::endPointRule", .neverWritten),
  ("geos::algorithm::(anonymous namespace)::mod2Rule", .neverWritten),
  ("geos::algorithm::(anonymous namespace)::monoValentRule", .neverWritten),
  ("geos::algorithm::(anonymous namespace)::multiValentRule", .neverWritten),
  ("geos::algorithm::construct::INITIAL_GRID_SIDE", .neverWritten),
  ("geos::geom::Geometry::geometryChangedFilter", .neverWritten),
  ("geos::index::bintree::Root::origin", .neverWritten),
  ("geos::operation::valid::TopologyValidationError::errMsg", .neverWritten),
  ("geos::geom::GeometryFactory::getDefaultInstance()::defInstance", .neverWritten),
  ("geos::geomgraph::EdgeEndStar::getCoordinate()::nullCoord", .neverWritten),
  ("geos::planargraph::DirectedEdgeStar::getCoordinate() const::nullCoord", .neverWritten),
  ("geos::operation::buffer::BufferNodeFactory::instance()::onf", .neverWritten),
  ("geos::util::Profiler::instance()::internal_profiler", .neverWritten),
  ("getMachineByteOrder()::endian_check", .neverWritten),
  -- prepared geometries and legacy STRtree nodes: lazily built, excluded by the property unless built before sharing
  ("BasicPreparedGeometry::relate_ng", .excludedLazyIndex),
  ("PreparedLineString::indexedDistance", .excludedLazyIndex),
  ("PreparedLineString::segStrings", .excludedLazyIndex),
  ("PreparedPolygon::indexedDistance", .excludedLazyIndex),
  ("PreparedPolygon::indexedPtOnGeomLoc", .excludedLazyIndex),
  ("PreparedPolygon::ptOnGeomLoc", .excludedLazyIndex),
  ("PreparedPolygon::segIntFinder", .excludedLazyIndex),
  ("PreparedPolygon::segStrings", .excludedLazyIndex),
  ("AbstractNode::bounds", .excludedLazyIndex),
  -- CircularArc is a helper value constructed per call
  ("CircularArc::m_center", .perCallTemporary),
  ("CircularArc::m_center_known", .perCallTemporary),
  ("CircularArc::m_orientation", .perCallTemporary),
  ("CircularArc::m_orientation_known", .perCallTemporary),
  ("CircularArc::m_radius", .perCallTemporary),
  ("CircularArc::m_radius_known", .perCallTemporary),
  -- the global context of the non-reentrant API
  ("handle", .legacyNonReentrantApi)
]

def excused (c : Cell) : Bool := (exceptions.lookup c.name).isSome

/-- **inventory_disciplined.**  Every cell of the generated inventory is safe by its declared type, or is one
    of the exceptions named above.  Re-checked against the freshly generated inventory on every run. -/
theorem inventory_disciplined : ∀ c ∈ cells, c.ty.safe = true ∨ excused c = true := by
  decide +kernel

/-- the cells whose unsynchronised concurrent use is real on this tree — exactly these, by name -/
def raceCandidates : List String :=
  (exceptions.filter (fun e => e.2 == Why.raceCandidate)).map (·.1)

theorem raceCandidates_exact : raceCandidates =
    ["(anonymous namespace)::requested", "(anonymous namespace)::callback", "GeometryFactory::_refCount",
     "GEOSversion::version", "CoordinateSequence::m_hasdim", "CoordinateSequence::m_hasz",
     "GeometryCollection::flags"] := rfl

/-- tag used to connect the inventory with the interleaving model: a cell safe by type may be used freely
    (atomic/guard/mutex → `atomic`; const → `immutableAfterInit`; thread_local → private, modelled per thread),
    everything else is `plain`, i.e. must not be touched by a disciplined program at all -/
def tagOfTy : TyClass → Tag
  | .atomic => .atomic
  | .mutex => .atomic
  | .guard => .atomic
  | .constAfterInit => .immutableAfterInit
  | .threadLocal => .atomic
  | .plain => .plain

/-- a program that touches process-wide state only through inventory cells that are safe by type (numbered by
    their position in the inventory), reading the const ones, has no data race and sequential transcripts,
    provided no thread reads an atomic cell another thread writes.  (Instance of the generic theorems.) -/
theorem inventory_program_safe (mem0 : CellId → Val) (p : Prog)
    (hd : Disciplined (fun c => match cells[c]? with | some cell => tagOfTy cell.ty | none => .plain) p)
    (hobs : NoObservedSharedWrite (fun c => match cells[c]? with | some cell => tagOfTy cell.ty | none => .plain) p) :
    ¬ dataRace (tagAtomic (fun c => match cells[c]? with | some cell => tagOfTy cell.ty | none => .plain)) mem0 p ∧
    ∀ sched s, exec (St.init mem0 p) sched = some s → ∀ t, s.rest t = [] → s.out t = seqTranscript mem0 (p t) :=
  reentrant_threads_do_not_interfere _ mem0 p hd hobs

/-- non-vacuity of the inventory theorem: the inventory is not empty, contains safe and unsafe cells -/
example : cells.length ≥ 40 ∧ (cells.filter (fun c => c.ty.safe)).length ≥ 10 ∧ (cells.filter (fun c => !c.ty.safe)).length ≥ 1 := by decide

/-! ## (4) the members of objects that are shared after being built

`Generated/SharedObjects.lean` (regenerated on every run by `translate/shared_objects_inventory.py`) lists every non-static
data member of the classes that live inside a prepared geometry on the point-predicate, segment-intersection and distance
paths (prepared geometry classes, point-in-area locators, `FastSegmentSetIntersectionFinder`,
`MCIndexSegmentSetMutualIntersector`, `IndexedFacetDistance`, `FacetSequence`, `TemplateSTRtree`, `MonotoneChain`) with the
member functions that write it.  `shared_objects_written_only_while_built`: every member is safe by its declared type, or
every function that writes it is one of the functions **named below**, each with the reason why a write there does not
happen after the object was built and shared — or is a recorded finding.  A new member written by a query method
(a memo of the last answer, a statistics counter, a scratch buffer moved into the object), or a new write to an existing
member from a function not named here, makes this theorem (a `decide`) fail. -/
/-- why a write by the named function is tolerated -/
inductive WriteWhy where
  /-- the function runs only while the object is constructed / its index is built (called from constructors or from the
      build step, which for `TemplateSTRtree::build` is additionally under the tree's mutex) -/
  | buildPhase
  /-- lazily creates the member on first use; the property excludes lazily indexed objects unless built before sharing, and
      once the member exists the function takes the branch that does not write -/
  | lazyBuildExcluded
  /-- per-call state kept in the object by the NON-re-entrant `process(segStrings)` / `setSegmentIntersector`.  Until /repo
      commit "fix: FastSegmentSetIntersectionFinder must not keep per-call state in the shared intersector" the prepared
      geometries called these on their shared intersector (finding `scenario-fails/sharedprep`: concurrent
      `intersects(areal/lineal)` on one prepared polygon crashed); since then `FastSegmentSetIntersectionFinder` builds the
      index in its constructor (`buildIndex`) and queries through the re-entrant `process(segStrings, si)`, which writes no
      member.  The functions still exist for single-threaded users (`SegmentSetMutualIntersector` API), hence the entries. -/
  | knownRace
  /-- member of a helper object created per call (iterators), never part of a shared object -/
  | perCallObject
deriving DecidableEq, Repr

/-- member ↦ (functions that may write it, why) -/
def allowedWriters : List (String × List String × WriteWhy) := [
  ("BasicPreparedGeometry::baseGeom", ["setGeometry"], .buildPhase),
  ("BasicPreparedGeometry::relate_ng", ["getRelateNG"], .lazyBuildExcluded),
  ("FacetSequence::env", ["computeEnvelope"], .buildPhase),
  ("IndexedPointInAreaLocator::index", ["buildIndex"], .lazyBuildExcluded),
  ("IndexedPointInAreaLocator::IntervalIndexedGeometry::index", ["addLine", "init"], .buildPhase),
  ("MCIndexSegmentSetMutualIntersector::index", ["buildIndex", "process"], .lazyBuildExcluded),
  ("MCIndexSegmentSetMutualIntersector::indexBuilt", ["buildIndex", "process"], .lazyBuildExcluded),
  ("MCIndexSegmentSetMutualIntersector::monoChains", ["addToMonoChains", "process"], .knownRace),
  ("MCIndexSegmentSetMutualIntersector::nOverlaps", ["intersectChains", "process"], .knownRace),
  ("MCIndexSegmentSetMutualIntersector::processCounter", ["process"], .knownRace),
  ("SegmentSetMutualIntersector::segInt", ["setSegmentIntersector"], .knownRace),
  ("MonotoneChain::env", ["getEnvelope"], .lazyBuildExcluded),
  ("PreparedLineString::indexedDistance", ["getIndexedFacetDistance"], .lazyBuildExcluded),
  ("PreparedLineString::segIntFinder", ["getIntersectionFinder"], .lazyBuildExcluded),
  ("PreparedPolygon::indexedDistance", ["getIndexedFacetDistance"], .lazyBuildExcluded),
  ("PreparedPolygon::indexedPtOnGeomLoc", ["getPointLocator"], .lazyBuildExcluded),
  ("PreparedPolygon::ptOnGeomLoc", ["getPointLocator"], .lazyBuildExcluded),
  ("PreparedPolygon::segIntFinder", ["getIntersectionFinder"], .lazyBuildExcluded),
  ("TemplateSTRtreeImpl::nodeCapacity", ["operator="], .buildPhase),
  ("TemplateSTRtreeImpl::nodes", ["build", "createBranchNode", "createLeafNode", "operator="], .buildPhase),
  ("TemplateSTRtreeImpl::numItems", ["build", "operator="], .buildPhase),
  ("TemplateSTRtreeImpl::root", ["build", "operator="], .buildPhase),
  ("TemplateSTRtreeImpl::Iterator::m_iter", ["operator++", "skipDeleted"], .perCallObject)
]

def writersOK (m : Member) : Bool :=
  m.ty.safe || m.writers.all (fun w => match allowedWriters.lookup m.name with
    | some (ws, _) => ws.contains w
    | none => false)

/-- **shared_objects_written_only_while_built.**  Re-checked against the freshly generated member list on every run. -/
theorem shared_objects_written_only_while_built :
    ∀ m ∈ GeosModel.Generated.SharedObjects.members, writersOK m = true := by decide +kernel

/-- the members with per-call state in a shared object — exactly these, by name (the known finding) -/
theorem sharedObject_knownRaces_exact :
    (allowedWriters.filter (fun e => e.2.2 == WriteWhy.knownRace)).map (·.1) =
    ["MCIndexSegmentSetMutualIntersector::monoChains", "MCIndexSegmentSetMutualIntersector::nOverlaps",
     "MCIndexSegmentSetMutualIntersector::processCounter", "SegmentSetMutualIntersector::segInt"] := rfl

/-- non-vacuity: the list is not empty, contains members that are written by some function and members nobody writes;
    a member written by a query method is rejected -/
example : GeosModel.Generated.SharedObjects.members.length ≥ 30 ∧
    (GeosModel.Generated.SharedObjects.members.filter (fun m => !m.writers.isEmpty)).length ≥ 10 ∧
    writersOK { name := "IndexedPointInAreaLocator::lastLoc", ty := .plain, decl := "geom::Location lastLoc", loc := "-", writers := ["locate"] } = false ∧
    writersOK { name := "IndexedPointInAreaLocator::index", ty := .plain, decl := "-", loc := "-", writers := ["buildIndex", "locate"] } = false := by decide +kernel

end GeosModel.Conc
