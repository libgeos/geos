import GeosModel.Proofs.Distance.RealCxx
import GeosModel.Proofs.Distance.SegSegReal
import GeosModel.Model.Distance.BB
import GeosModel.Generated.DistanceCore
import Mathlib.Tactic.SplitIfs
/-!
# C08 — the regenerated distance primitives are the specification the theorems are about

`Generated/DistanceCore.lean` is rewritten from `src/algorithm/Distance.cpp`, `include/geos/geom/Coordinate.h` and
`include/geos/geom/Envelope.h` by `translate/cxx2lean.py` (spec `distance_core`) on every run.  The C++ computes with `double`;
the regenerated definitions are generic over the carrier and are instantiated here

* with `Int` where the code only compares, adds and multiplies — `Envelope::distanceSquared` is `Distance.boxBox2` (the bound of
  `env_distance_lower_bound`), the static `Envelope::intersects(p1,p2,q1,q2)` is `SegSeg.envIntersects`;
* with `ℝ` (`std::sqrt` = `Real.sqrt`, instance `Proofs/Distance/RealCxx.lean`) where it divides and takes square roots —
  `CoordinateXY::distance`, `Envelope::distance` and `Distance::pointToSegment`, which for all integer points equals
  `√(pointSeg2 p a b)`: the square root of the exact rational that `dist2_pointSeg_exact` proves to be the minimum of
  `|p − (a + t(b−a))|²` over the segment (`Proofs/Distance/RealBridge.lean` reads the rational specification in `ℝ`), and
  `Distance::segmentToSegment`, which for all integer points equals `√(segSeg2 a b c d)` although its parameter tests and the
  exact predicate `Kernel.segRel` of the specification differ (`Proofs/Distance/SegSegReal.lean`).

What the bridges do NOT say: anything about rounding.  In `double` the quotient `r` and the products are rounded; the correspondence
streams `distance` / `distance-fp` compare the compiled code with the exact specification to 1e-12 relative.

Proof style: a regenerated function is a decision skeleton over arithmetic values.  The values become the model's by `simp only` with
the carrier's equations (`Cxx.int_*`, `Cxx.real_*`); the skeleton is reshaped by a lemma over variables (`ite3_ite3` for the two
three-way choices of `Envelope::distanceSquared`, `Bool.if_false_left` / `ite_or` for early exits that return the same value).
-/
namespace GeosModel.C08Gen
open GeosModel GeosModel.Kernel GeosModel.Distance GeosModel.Generated GeosModel.SegSeg

/-- an integer point as the regenerated code sees it, over `Int` and over `ℝ` -/
def xyZ (p : Pt) : Cxx.XY Int := ⟨p.x, p.y⟩
noncomputable def xyR (p : Pt) : Cxx.XY ℝ := ⟨p.x, p.y⟩

/-! ### `CoordinateXY` -/

/-- `operator==(a, b)` / `equals2D`: both ordinates equal, for any carrier -/
theorem coordEq_eq {R : Type} [Cxx.Ord R] (a b : Cxx.XY R) :
    DistanceCore.coordEq a b = (Cxx.Ord.eq a.x b.x && Cxx.Ord.eq a.y b.y) := by
  show (if (!Cxx.Ord.eq a.x b.x) = true then false else if (!Cxx.Ord.eq a.y b.y) = true then false else true : Bool) = _
  simp only [Bool.if_false_left, Bool.decide_eq_true, Bool.not_not, Bool.and_true]

theorem gen_coordEq_eq (a b : Cxx.XY ℝ) : DistanceCore.coordEq a b = decide (a.x = b.x ∧ a.y = b.y) := by
  rw [coordEq_eq, Cxx.real_eq, Cxx.real_eq, Bool.decide_and]

/-- on integer points `operator==` is equality of the points -/
theorem gen_coordEq_pt (a b : Pt) : DistanceCore.coordEq (xyZ a) (xyZ b) = decide (a = b) := by
  rw [coordEq_eq, Bool.eq_iff_iff]
  simp only [xyZ, Cxx.int_eq, Bool.and_eq_true, beq_iff_eq, decide_eq_true_eq, Pt.ext_iff']

/-- `CoordinateXY::distance`: the square root of the squared distance -/
theorem gen_coordDistance_eq (px py qx qy : ℝ) :
    DistanceCore.coordDistance px py ⟨qx, qy⟩ = Real.sqrt (d2R px py qx qy) := by
  simp only [DistanceCore.coordDistance, d2R, Id.run, pure, Cxx.real_sqrt, Cxx.real_add, Cxx.real_sub, Cxx.real_mul]

/-! ### `Envelope` -/

theorem cxx_min_real (a b : ℝ) : Cxx.min a b = min a b := by
  simp only [Cxx.min, Cxx.real_lt, decide_eq_true_eq]; split_ifs with h
  · exact (min_eq_right (le_of_lt h)).symm
  · exact (min_eq_left (not_lt.mp h)).symm
theorem cxx_max_real (a b : ℝ) : Cxx.max a b = max a b := by
  simp only [Cxx.max, Cxx.real_lt, decide_eq_true_eq]; split_ifs with h
  · exact (max_eq_right (le_of_lt h)).symm
  · exact (max_eq_left (not_lt.mp h)).symm

/-- the four early exits of the static `Envelope::intersects(p1, p2, q1, q2)` as one conjunction, for any carrier -/
theorem envIntersects4_eq {R : Type} [Cxx.Ord R] (p1 p2 q1 q2 : Cxx.XY R) :
    DistanceCore.envIntersects4 p1 p2 q1 q2 =
      (!Cxx.Ord.lt (Cxx.max q1.x q2.x) (Cxx.min p1.x p2.x) && (!Cxx.Ord.lt (Cxx.max p1.x p2.x) (Cxx.min q1.x q2.x) &&
       (!Cxx.Ord.lt (Cxx.max q1.y q2.y) (Cxx.min p1.y p2.y) && !Cxx.Ord.lt (Cxx.max p1.y p2.y) (Cxx.min q1.y q2.y)))) := by
  -- the `do` block is typed `Id Bool`; read at `Bool` the lemmas about `if … then false else …` apply
  show (if _ then false else if _ then false else if _ then false else if _ then false else true : Bool) = _
  simp only [Cxx.gt, Bool.if_false_left, Bool.decide_eq_true, Bool.and_true]

/-- the static `Envelope::intersects(p1, p2, q1, q2)` is `SegSeg.envIntersects` -/
theorem gen_envIntersects4_eq (p1 p2 q1 q2 : Pt) :
    DistanceCore.envIntersects4 (R := Int) (xyZ p1) (xyZ p2) (xyZ q1) (xyZ q2) = envIntersects p1 p2 q1 q2 := by
  rw [Bool.eq_iff_iff, envIntersects_iff, envIntersects4_eq]
  simp only [xyZ, Cxx.min_int, Cxx.max_int, Cxx.int_lt, Bool.and_eq_true, Bool.not_eq_true', decide_eq_false_iff_not]

open Classical in
/-- the static `Envelope::intersects(p1, p2, q1, q2)` over `ℝ` is the envelope test `envR` of `segSegR` -/
theorem gen_envIntersects4_real (p1x p1y p2x p2y q1x q1y q2x q2y : ℝ) :
    DistanceCore.envIntersects4 (R := ℝ) ⟨p1x, p1y⟩ ⟨p2x, p2y⟩ ⟨q1x, q1y⟩ ⟨q2x, q2y⟩
      = decide (envR p1x p1y p2x p2y q1x q1y q2x q2y) := by
  rw [Bool.eq_iff_iff, decide_eq_true_eq, envIntersects4_eq]
  simp only [envR, cxx_min_real, cxx_max_real, Cxx.real_lt, Bool.and_eq_true, Bool.not_eq_true', decide_eq_false_iff_not]

theorem ite3_apply {α β : Type} (g : α → β) {c1 c2 : Prop} [Decidable c1] [Decidable c2] (x1 x2 x0 : α) :
    (if c1 then g x1 else if c2 then g x2 else g x0) = g (if c1 then x1 else if c2 then x2 else x0) := by
  rw [apply_ite g, apply_ite g]

/-- a function of two three-way choices, written as nine leaves (the shape `do` notation gives `Envelope::distanceSquared`) -/
theorem ite3_ite3 {α β : Type} (f : α → α → β) {c1 c2 c3 c4 : Prop} [Decidable c1] [Decidable c2] [Decidable c3]
    [Decidable c4] (x1 x2 x0 y1 y2 y0 : α) :
    (if c1 then if c3 then f x1 y1 else if c4 then f x1 y2 else f x1 y0
     else if c2 then if c3 then f x2 y1 else if c4 then f x2 y2 else f x2 y0
     else if c3 then f x0 y1 else if c4 then f x0 y2 else f x0 y0) =
    f (if c1 then x1 else if c2 then x2 else x0) (if c3 then y1 else if c4 then y2 else y0) := by
  rw [ite3_apply (f x1), ite3_apply (f x2), ite3_apply (f x0), ite3_apply (fun x => f x _)]

/-- **`Envelope::distanceSquared` is `boxBox2`**, the quantity `env_distance_lower_bound` proves to be a lower bound of the squared
distance of any two points of the two boxes -/
theorem gen_envDistanceSquared_eq (a b : Box) :
    DistanceCore.envDistanceSquared (R := Int) a.minx a.maxx a.miny a.maxy ⟨b.minx, b.maxx, b.miny, b.maxy⟩ = boxBox2 a b := by
  simp only [DistanceCore.envDistanceSquared, boxBox2, gap, Id.run, pure, Cxx.int_lt, decide_eq_true_eq]
  exact ite3_ite3 (fun dx dy : Int => dx * dx + dy * dy) ..

/-- `Envelope::distance` over `ℝ` is the square root of `boxBox2` -/
theorem gen_envDistance_eq (a b : Box) :
    DistanceCore.envDistance (R := ℝ) a.minx a.maxx a.miny a.maxy ⟨b.minx, b.maxx, b.miny, b.maxy⟩
      = Real.sqrt ((boxBox2 a b : Int) : ℝ) := by
  simp only [DistanceCore.envDistance, DistanceCore.envDistanceSquared, Id.run, pure, Cxx.real_sqrt, Cxx.real_lt,
    decide_eq_true_eq, Int.cast_lt, Cxx.real_add, Cxx.real_sub, Cxx.real_mul, Cxx.real_ofInt, Int.cast_zero]
  rw [ite3_ite3 (fun dx dy : ℝ => dx * dx + dy * dy)]
  simp only [boxBox2, gap]; push_cast; rfl

/-! ### `Distance::pointToSegment` -/

/-- for all real arguments the regenerated `pointToSegment` is the clamp formula `pointSegR` -/
theorem gen_pointToSegment_real (px py ax ay bx by' : ℝ) :
    DistanceCore.pointToSegment (R := ℝ) ⟨px, py⟩ ⟨ax, ay⟩ ⟨bx, by'⟩ = pointSegR px py ax ay bx by' := by
  simp only [DistanceCore.pointToSegment, pointSegR, gen_coordEq_eq, gen_coordDistance_eq, d2R, Cxx.ge, Id.run, pure,
    Cxx.real_le, Cxx.real_div, Cxx.real_add, Cxx.real_sub, Cxx.real_mul, Cxx.real_ofInt, Cxx.real_abs, Cxx.real_sqrt,
    decide_eq_true_eq, Int.cast_one, Int.cast_zero]
  rfl -- the two sides differ in `Decidable` instances only

/-- **`Distance::pointToSegment` in exact arithmetic is the square root of `pointSeg2`**, for all integer points -/
theorem gen_pointToSegment_eq (p a b : Pt) :
    DistanceCore.pointToSegment (R := ℝ) (xyR p) (xyR a) (xyR b) = Real.sqrt (pointSeg2 p a b).toReal := by
  rw [← pointSegR_eq]; exact gen_pointToSegment_real _ _ _ _ _ _

/-! ### `Distance::segmentToSegment` -/

/-- for all real arguments the regenerated `segmentToSegment` is the decision skeleton `segSegR` -/
theorem gen_segmentToSegment_real (ax ay bx by' cx cy dx dy : ℝ) :
    DistanceCore.segmentToSegment (R := ℝ) ⟨ax, ay⟩ ⟨bx, by'⟩ ⟨cx, cy⟩ ⟨dx, dy⟩ = segSegR ax ay bx by' cx cy dx dy := by
  classical -- `segSegR` decides `envR` classically; `simp` needs that instance to rewrite the conditions
  -- `noIntersection` is set by three tests in turn and read once: `do` notation copies the final `if` into every branch
  simp only [DistanceCore.segmentToSegment, segSegR, gen_coordEq_eq, gen_pointToSegment_real, cxx_min_real,
    gen_envIntersects4_real, if_true, Bool.false_eq_true, if_false, Cxx.gt, Id.run, pure, Cxx.real_lt, Cxx.real_eq,
    Cxx.real_div, Cxx.real_sub, Cxx.real_mul, Cxx.real_ofInt, decide_eq_true_eq, Int.cast_one, Int.cast_zero,
    Bool.or_eq_true, Bool.not_eq_true', decide_eq_false_iff_not, ← ite_or, or_assoc]

/-- **`Distance::segmentToSegment` in exact arithmetic is the square root of `segSeg2`**, for all integer points: the parameter
tests `r, s ∈ [0,1]` of the C++ and the exact predicate `Kernel.segRel` of the specification lead to the same value -/
theorem gen_segmentToSegment_eq (a b c d : Pt) :
    DistanceCore.segmentToSegment (R := ℝ) (xyR a) (xyR b) (xyR c) (xyR d) = Real.sqrt (segSeg2 a b c d).toReal := by
  rw [← segSegR_eq]; exact gen_segmentToSegment_real _ _ _ _ _ _ _ _

end GeosModel.C08Gen
