import GeosModel.Proofs.Valid.NodeTopo
import GeosModel.Proofs.Valid.RefInv
import GeosModel.Proofs.Valid.CrossSymm
import GeosModel.Proofs.Valid.RingNested
import GeosModel.Proofs.Valid.WedgeDet
import GeosModel.Proofs.Valid.PairRule
import GeosModel.Proofs.Valid.ProcessAll
import GeosModel.Proofs.Valid.RuleOrder
import GeosModel.Proofs.Valid.SimplePair
import GeosModel.Proofs.Valid.SelfNode
import GeosModel.Proofs.Valid.NestedTester
/-!
# C05 — isValid and isSimple decide the OGC rules exactly

Two layers (DESIGN.md section 3, C05).

**CORE (FULL).**  `Model/Valid/NodeTopo.lean` is `algorithm::PolygonNodeTopology` + `Quadrant::quadrant` over `Int`,
branch by branch.  Theorems below, for *all* integer points:
`compareAngle o · ·` is a strict weak order on the directions from `o` (antisymmetric, transitive, incomparability
transitive), it agrees with the half-plane / `Kernel.det` specification `angLt` of the counter-clockwise order from
the positive x-axis, its zero is "same ray"; `isAngleGreater` is `compareAngle = 1`;
`isCrossing` is true exactly when `b0` and `b1` lie strictly in different open wedges of the corner `(a0, a1)`
(`crossAt`, stated with the cyclic order `cyc` of the specification order); `isInteriorSegment` is true exactly when
`b` points into the sweep from `a0` (exclusive) counter-clockwise to `a1` (inclusive).

**CORE, second part (FULL for the statements made).**  `Model/Valid/RingNested.lean` is
`PolygonTopologyAnalyzer::isRingNested` (the one decision behind hole-in-shell, nested holes, nested shells and
shell-in-hole) with `findNonEqualVertex`, `isIncidentSegmentInRing`, `intersectingSegIndex`, `findRingVertexPrev/Next`,
`Orientation::isCCWArea` / `Area::ofRingSigned`, branch by branch, tied to the real function by the stream `ring-nested`.
Theorems: the counter-clockwise sweep `cyc` of the specification is a condition on orientation determinants alone
(`cyc_iff_det`), hence `isInteriorSegment_iff_det` ("the segment lies inside the corner", no reference to the axes);
`isCrossing` is invariant under all eight lattice symmetries and `isInteriorSegment` under the four rotations; exchanging
the arms of a corner negates `isInteriorSegment`; `isCrossing` = "`isInteriorSegment` differs for the two edges"; only the
rays of the points matter (repeated-point skipping is harmless); translation invariance; `isCCWArea` is the sign of the
shoelace specification `Kernel.area2` on closed rings and flips under reversal; off the target ring `isRingNested` is the
even–odd point-in-ring specification of the start vertex, on it the node topology of the first test segment.
Not proved: that `isRingNested` equals ring containment for non-crossing rings (a Jordan-curve statement) — that is
checked per case against the exact reference `ringInRing` by the stream `ring-nested`.

**CORE, third part.**  `Model/Valid/PairRule.lean` is `PolygonIntersectionAnalyzer::findInvalidIntersection` (the decision
for every pair of ring segments the noder presents), tied to the real `processIntersections` by the stream `pair-rule`;
`findInvalidIntersection_eq_pairRule`: it returns exactly the code of the reference evaluator's `pairRule`.

**CORE, fourth part (translator-tied: see `Props/C05Gen*.lean`).**  `processIntersections` / `processAll`
(Model/Valid/PairRule.lean): after the analyzer has been shown any sequence of segment pairs its recorded code is "none" exactly
when every presented pair is allowed, a recorded code is the code of a presented pair, and over all pairs of distinct segments
of rings without repeated points "no invalid intersection" is the reference's rule 5/6 (`areaIntersections`) — that the noder
presents every intersecting pair stays a correspondence matter.  `Model/Valid/RuleOrder.lean`: the order in which `IsValidOp`
runs its checks and stops (`firstErr` of a list); the reference evaluator's `firstOf` is that sequencing and `pointRef`,
`lineRef`, `ringRef`, `polygonalRef` (one element) follow the orders the regenerated C++ is proved to follow.

**CORE, fifth part: simplicity.**  `Model/Valid/SimplePair.lean` is `IsSimpleOp::NonSimpleIntersectionFinder::findIntersection` with
`isIntersectionEndpoint` / `intersectionVertexIndex`, branch by branch (translator-tied: `Props/C05GenSimple.lean`);
`findIntersection_decides_simplePair`: under the Mod-2 boundary rule it reports an intersection for a pair of distinct segments of
de-duplicated lines exactly when the reference's `simplePair` forbids the pair, hence (`linesSimple_iff_no_intersection`) a set of
lines is simple for the reference exactly when the C++ decision finds nothing in any pair — that the noder presents every
intersecting pair stays a correspondence matter (stream valid-grid: GEOSisSimple / GEOSisRing).

**CORE, sixth part: the self-touch bookkeeping of the self-touching-ring mode.**  `Model/Valid/SelfNode.lean` is the path
`findInvalidIntersection` → `PolygonRing::addSelfTouch` → `PolygonRing::findInteriorSelfNode` → `PolygonRingSelfNode::isExterior`,
branch by branch, tied to the real functions by the stream `self-node`.  Every presented pair that reaches `addSelfTouch` is
recorded, nothing is dropped (`selfNodes_are_all_recorded`); a recorded entry belongs to an allowed pair of one ring in flag mode
whose passes do not cross (`recorded_selfTouch_is_allowed`); an interior self node is found exactly when SOME presented pair
records an entry that is not exterior (`interiorSelfNode_found_iff`), hence independently of the order / multiplicity in which
the noder presents the pairs (`interiorSelfNode_order_irrelevant`) — a ring that passes k times through a node has k(k−1)/2
pairs of passes there and each of them counts; the test is symmetric in the edge of the second pass that is used
(`isExterior_other_edge`) and in the direction of the ring (`isExterior_ring_reversal`).

**CORE, seventh part: nested shells.**  `Model/Valid/NestedTester.lean` is `IndexedNestedPolygonTester` (`isNested`,
`findNestedPoint`, `findIncidentSegmentNestedPoint`, `Envelope::covers`), branch by branch (point locations = C07's model of
`IndexedPointInAreaLocator`, `isRingNested` = the second part), tied to the real class by the stream `nested-tester`.  When no
`isRingNested` call throws: the loop over the candidate's holes is `any` over the holes — every hole counts, the envelope test
only skips holes that cannot contain the shell (`nested_incident_spec`); `findNestedPoint` does not depend on the order of the
candidate's holes (`findNestedPoint_hole_order_irrelevant`); `isNested` reports nested shells exactly when some element has a hit
among the OTHER elements (`isNested_iff_some_pair`), hence independently of the order of the elements
(`isNested_element_order_irrelevant`) and of the order in which the spatial index hands over the candidates.

**SPEC (PARTIAL).**  `Model/Valid/Ref.lean` evaluates the OGC/JTS rules literally with exact predicates; GEOS is tied
to it by the correspondence stream `valid-grid`.  Proved here about the reference: invariance of the intersection
rule (codes 5/6) and of the structural rules under translation, and the symmetries of the wedge specification
(`crossAt` under reversal of either pass, exchange of the two passes, and translation).  The full invariance statement of the property
(all eight lattice symmetries, ring rotation / reversal, hole / element permutation, for every rule) is kept as
`C05_ref_invariant_full`; it is checked on every generated case against GEOS itself by the harness' invariance
oracle, but is **not** proved for the reference evaluator beyond the parts named `…_partial`.
Not proved: that the literal rules are the OGC point-set definition, and that "one interior face" is equivalent to
`interiorClasses = components` (argument: Euler's formula; every bounded component of the ring arrangement that
does not contain the shell floats in exactly one interior face because holes are inside the shell and not nested).
-/
namespace GeosModel.C05
open GeosModel.Kernel GeosModel.Valid GeosModel.Relate

/-! ## CORE: the angular order of `PolygonNodeTopology` -/

theorem compareAngle_range (o p q : Pt) :
    compareAngle o p q = -1 ∨ compareAngle o p q = 0 ∨ compareAngle o p q = 1 :=
  Valid.compareAngle_range o p q

theorem compareAngle_antisymm (o p q : Pt) : compareAngle o q p = - compareAngle o p q :=
  Valid.compareAngle_antisymm o p q

/-- transitivity of the strict order on directions from a common origin -/
theorem compareAngle_trans (o p q r : Pt) (hp : p ≠ o) (hq : q ≠ o) (hr : r ≠ o)
    (h1 : compareAngle o p q = -1) (h2 : compareAngle o q r = -1) : compareAngle o p r = -1 :=
  Valid.compareAngle_trans o p q r hp hq hr h1 h2

/-- transitivity of incomparability: with the two theorems above, a strict weak order -/
theorem compareAngle_eq_trans (o p q r : Pt) (hq : q ≠ o)
    (h1 : compareAngle o p q = 0) (h2 : compareAngle o q r = 0) : compareAngle o p r = 0 :=
  Valid.compareAngle_eq_trans o p q r hq h1 h2

/-- **agreement with the counter-clockwise order from the positive x-axis**, stated with the half-plane /
`Kernel.det` specification: `p` before `q` iff `p` is in the upper half turn `[0°,180°)` and `q` is not, or they are
in the same half turn and `det o p q > 0` (`q` is to the left of `o → p`) -/
theorem compareAngle_lt_iff_angLt (o p q : Pt) (hp : p ≠ o) (hq : q ≠ o) :
    compareAngle o p q = -1 ↔
      ((upper o p = true ∧ upper o q = false) ∨ (upper o p = upper o q ∧ det o p q > 0)) := by
  rw [Valid.compareAngle_lt_iff o p q hp hq, Valid.angLt_iff]

/-- `compareAngle = 0` exactly for two points on the same ray from `o` (collinear, positive dot product) -/
theorem compareAngle_eq_zero_iff_sameDir (o p q : Pt) (hp : p ≠ o) (hq : q ≠ o) :
    compareAngle o p q = 0 ↔ (det o p q = 0 ∧ dot o p q > 0) := by
  rw [Valid.compareAngle_eq_zero_iff o p q hp hq, Valid.sameDir_iff]

/-- inside one quadrant the comparison *is* the sign of `Kernel.det` -/
theorem compareAngle_same_quadrant (o p q : Pt) (h : quadrant o p = quadrant o q) :
    compareAngle o p q = (det o q p).sign := by
  rw [Valid.compareAngle_nf, h, if_neg (Nat.lt_irrefl _), if_neg (Nat.lt_irrefl _)]
  split_ifs with h3 h4
  · exact (Int.sign_eq_one_of_pos h3).symm
  · exact (Int.sign_eq_neg_one_of_neg h4).symm
  · rw [show det o q p = 0 by omega]; rfl

/-- the second copy of the comparison in the C++ (`isAngleGreater`) is consistent with the first -/
theorem isAngleGreater_iff (o p q : Pt) : isAngleGreater o p q = true ↔ compareAngle o p q = 1 :=
  Valid.isAngleGreater_iff o p q

/-- **isCrossing_iff**: for a node `n` and corner points different from it, `isCrossing` is true exactly when `b0`
and `b1` lie strictly in different open wedges of the corner `(a0, a1)`: one strictly inside the counter-clockwise
sweep from `a0` to `a1`, the other strictly inside the sweep from `a1` to `a0` -/
theorem isCrossing_iff (n a0 a1 b0 b1 : Pt) (h0 : a0 ≠ n) (h1 : a1 ≠ n) (hb0 : b0 ≠ n) (hb1 : b1 ≠ n) :
    isCrossing n a0 a1 b0 b1 = true ↔
      ((cyc n a0 b0 a1 = true ∧ cyc n a1 b1 a0 = true) ∨ (cyc n a1 b0 a0 = true ∧ cyc n a0 b1 a1 = true)) := by
  rw [Valid.isCrossing_eq_crossAt n a0 a1 b0 b1 h0 h1 hb0 hb1]
  unfold crossAt; simp

/-- **isInteriorSegment_iff**: true exactly when `n → b` points strictly inside the counter-clockwise sweep from
`a0` to `a1`, or along `a1` itself (and the corner is not degenerate) -/
theorem isInteriorSegment_iff (n a0 a1 b : Pt) (h0 : a0 ≠ n) (h1 : a1 ≠ n) (hb : b ≠ n) :
    isInteriorSegment n a0 a1 b = true ↔
      (cyc n a0 b a1 = true ∨ (angEq n b a1 = true ∧ angEq n a0 a1 = false)) := by
  rw [Valid.isInteriorSegment_eq_interiorAt n a0 a1 b h0 h1 hb]
  unfold interiorAt; simp

/-- a degenerate corner (both edges along one ray) has no inside: nothing crosses it -/
theorem isCrossing_degenerate_corner (n a0 a1 b0 b1 : Pt) (h0 : a0 ≠ n) (h1 : a1 ≠ n) (hb0 : b0 ≠ n) (hb1 : b1 ≠ n)
    (hs : compareAngle n a0 a1 = 0) : isCrossing n a0 a1 b0 b1 = false := by
  rw [Valid.isCrossing_eq_crossT, compareAngle_congr_right hb0 h0 h1 hs,
    compareAngle_congr_right hb1 h0 h1 hs, hs]
  -- both `compareBetween` values are taken against one ray: each is 0 or −1, never 1
  cases S3.ofInt (compareAngle n b0 a0) <;> cases S3.ofInt (compareAngle n b1 a0) <;> rfl

/-! non-vacuity: concrete corners -/
example : isCrossing ⟨0, 0⟩ ⟨1, 0⟩ ⟨-1, 0⟩ ⟨0, 1⟩ ⟨0, -1⟩ = true := by decide +kernel
example : isCrossing ⟨0, 0⟩ ⟨1, 0⟩ ⟨-1, 0⟩ ⟨0, 1⟩ ⟨1, 1⟩ = false := by decide +kernel
example : isCrossing ⟨0, 0⟩ ⟨1, 0⟩ ⟨-1, 0⟩ ⟨2, 0⟩ ⟨0, -1⟩ = false := by decide +kernel     -- collinear overlap is not a crossing
example : isInteriorSegment ⟨0, 0⟩ ⟨0, -1⟩ ⟨1, 0⟩ ⟨1, -1⟩ = true := by decide +kernel
example : compareAngle ⟨0, 0⟩ ⟨1, 0⟩ ⟨-1, 0⟩ = -1 ∧ compareAngle ⟨0, 0⟩ ⟨-1, 0⟩ ⟨-1, -1⟩ = -1 ∧ compareAngle ⟨0, 0⟩ ⟨2, 2⟩ ⟨1, 1⟩ = 0 := by decide +kernel

/-! ## CORE, second part: the nesting decision `PolygonTopologyAnalyzer::isRingNested`

This one decision is behind four rules of `IsValidOp` (hole in shell, nested holes, nested shells, shell inside a hole of another
element).  First the facts about the node functions it rests on, then `isCCWArea`, then `isRingNested` itself. -/

/-- **the two sides of a corner are complementary**: exchanging the arms of a proper corner (what `isIncidentSegmentInRing`
does for a counter-clockwise target ring) negates `isInteriorSegment`, for every direction that is not along an arm -/
theorem isInteriorSegment_swap_arms (n a0 a1 b : Pt) (h0 : a0 ≠ n) (h1 : a1 ≠ n) (hb : b ≠ n)
    (hx : compareAngle n a0 a1 ≠ 0) (hp0 : compareAngle n b a0 ≠ 0) (hp1 : compareAngle n b a1 ≠ 0) :
    isInteriorSegment n a1 a0 b = !isInteriorSegment n a0 a1 b := by
  rw [isInteriorSegment_eq_T n a1 a0 b, isInteriorSegment_eq_T n a0 a1 b, ofInt_compareAngle_swap n a0 a1]
  exact S3.of_table (S3.all_spec (S3.all_spec (S3.all_spec interiorT_swap _) _) _)
    (by rw [compatB_actual n a0 a1 b h0 h1 hb, decide_eq_true (ofInt_ne_zero hx), decide_eq_true (ofInt_ne_zero hp0),
      decide_eq_true (ofInt_ne_zero hp1)]; rfl)

/-- **a crossing is "one edge on each side"**: for edges `b0`, `b1` off the arms of a proper corner, `isCrossing` holds
exactly when `isInteriorSegment` gives different answers for `b0` and `b1` (the two C++ functions are consistent) -/
theorem isCrossing_eq_sides_differ (n a0 a1 b0 b1 : Pt) (h0 : a0 ≠ n) (h1 : a1 ≠ n) (hb0 : b0 ≠ n) (hb1 : b1 ≠ n)
    (hx : compareAngle n a0 a1 ≠ 0) (hp0 : compareAngle n b0 a0 ≠ 0) (hp1 : compareAngle n b0 a1 ≠ 0)
    (hq0 : compareAngle n b1 a0 ≠ 0) (hq1 : compareAngle n b1 a1 ≠ 0) :
    isCrossing n a0 a1 b0 b1 = (isInteriorSegment n a0 a1 b0 != isInteriorSegment n a0 a1 b1) :=
  Valid.isCrossing_eq_sides n a0 a1 b0 b1 h0 h1 hb0 hb1 hx hp0 hp1 hq0 hq1

/-- **only the rays matter** (`isInteriorSegment`): replacing `a0`, `a1`, `b` by any other points on the same rays from the
node — which is what the repeated-point skipping of `findNonEqualVertex` / `findRingVertexPrev/Next` and the choice of the
segment end instead of a nearer point amount to — does not change the answer -/
theorem isInteriorSegment_rays (n a0 a1 b a0' a1' b' : Pt) (h0 : a0 ≠ n) (h1 : a1 ≠ n) (hb : b ≠ n)
    (h0' : a0' ≠ n) (h1' : a1' ≠ n) (hb' : b' ≠ n)
    (e0 : compareAngle n a0 a0' = 0) (e1 : compareAngle n a1 a1' = 0) (eb : compareAngle n b b' = 0) :
    isInteriorSegment n a0' a1' b' = isInteriorSegment n a0 a1 b := by
  rw [isInteriorSegment_eq_T n a0' a1' b', isInteriorSegment_eq_T n a0 a1 b,
    compareAngle_congr h0 h0' h1 h1' e0 e1, compareAngle_congr hb hb' h0 h0' eb e0,
    compareAngle_congr hb hb' h1 h1' eb e1]

/-- **only the rays matter** (`isCrossing`) -/
theorem isCrossing_rays (n a0 a1 b0 b1 a0' a1' b0' b1' : Pt) (h0 : a0 ≠ n) (h1 : a1 ≠ n) (hb0 : b0 ≠ n) (hb1 : b1 ≠ n)
    (h0' : a0' ≠ n) (h1' : a1' ≠ n) (hb0' : b0' ≠ n) (hb1' : b1' ≠ n)
    (e0 : compareAngle n a0 a0' = 0) (e1 : compareAngle n a1 a1' = 0)
    (f0 : compareAngle n b0 b0' = 0) (f1 : compareAngle n b1 b1' = 0) :
    isCrossing n a0' a1' b0' b1' = isCrossing n a0 a1 b0 b1 := by
  rw [isCrossing_eq_crossT n a0' a1' b0' b1', isCrossing_eq_crossT n a0 a1 b0 b1,
    compareAngle_congr h0 h0' h1 h1' e0 e1, compareAngle_congr hb0 hb0' h0 h0' f0 e0,
    compareAngle_congr hb0 hb0' h1 h1' f0 e1, compareAngle_congr hb1 hb1' h0 h0' f1 e0,
    compareAngle_congr hb1 hb1' h1 h1' f1 e1]

/-- **the counter-clockwise sweep in determinants only**: the specification relation `cyc` (defined through the half-plane
order, which singles out the positive x-axis) is the rotation-invariant condition `inSweep`: for `det n u v > 0` (less than a
half turn) `det n u d > 0 ∧ det n d v > 0`; for `det n u v < 0` (more than a half turn) `det n u d > 0 ∨ det n d v > 0`; for
opposite `u`, `v` (a half turn) `det n u d > 0`; empty when `u` and `v` are one ray -/
theorem cyc_iff_det (n u d v : Pt) (hu : u ≠ n) (hd : d ≠ n) (hv : v ≠ n) :
    cyc n u d v = true ↔
      (if det n u v > 0 then det n u d > 0 ∧ det n d v > 0
       else if det n u v < 0 then det n u d > 0 ∨ det n d v > 0
       else dot n u v < 0 ∧ det n u d > 0) := by
  rw [Valid.cyc_eq_inSweep n u d v hu hd hv]
  unfold inSweep
  split_ifs <;> simp only [Bool.and_eq_true, Bool.or_eq_true, decide_eq_true_eq]

/-- **`isInteriorSegment` decides "the segment lies inside the corner" exactly**, with the corner's inside stated in
orientation determinants only (no reference to the coordinate axes): the C++ function is true exactly when `n → b` lies
strictly inside the counter-clockwise sweep from `a0` to `a1` (`inSweep`, see `cyc_iff_det`) or along the ray of `a1`
while `a0`, `a1` are not one ray -/
theorem isInteriorSegment_iff_det (n a0 a1 b : Pt) (h0 : a0 ≠ n) (h1 : a1 ≠ n) (hb : b ≠ n) :
    isInteriorSegment n a0 a1 b = true ↔
      (inSweep n a0 b a1 = true ∨ ((det n b a1 = 0 ∧ dot n b a1 > 0) ∧ ¬ (det n a0 a1 = 0 ∧ dot n a0 a1 > 0))) := by
  rw [Valid.isInteriorSegment_eq_det n a0 a1 b h0 h1 hb, Bool.or_eq_true, Bool.and_eq_true, Bool.not_eq_true',
    ← Bool.not_eq_true, Valid.sameDir_iff, Valid.sameDir_iff]

/-- **`isCrossing` is invariant under all eight lattice symmetries** (the four rotations and four reflections of the
grid; `compareAngle`, which it is built from, is not): the verdict at a node does not depend on how the axes are laid -/
theorem isCrossing_lattice_invariant (k : Nat) (n a0 a1 b0 b1 : Pt) (h0 : a0 ≠ n) (h1 : a1 ≠ n) (hb0 : b0 ≠ n) (hb1 : b1 ≠ n) :
    isCrossing (latticeSym k n) (latticeSym k a0) (latticeSym k a1) (latticeSym k b0) (latticeSym k b1) =
      isCrossing n a0 a1 b0 b1 :=
  Valid.isCrossing_latticeSym k n a0 a1 b0 b1 h0 h1 hb0 hb1

/-- **`isInteriorSegment` is invariant under the four lattice rotations** (a reflection exchanges the two sides of the
corner: see `isInteriorSegment_swap_arms`) -/
theorem isInteriorSegment_rotation_invariant (k : Nat) (hk : k % 8 < 4) (n a0 a1 b : Pt) (h0 : a0 ≠ n) (h1 : a1 ≠ n) (hb : b ≠ n) :
    isInteriorSegment (latticeSym k n) (latticeSym k a0) (latticeSym k a1) (latticeSym k b) = isInteriorSegment n a0 a1 b :=
  Valid.isInteriorSegment_rotate k (by unfold Valid.isReflection; simp; omega) n a0 a1 b h0 h1 hb

/-- the C++ node functions are translation invariant (all points, no side conditions) -/
theorem nodeTopology_translate (t n a0 a1 b0 b1 : Pt) :
    compareAngle (t.shift n) (t.shift a0) (t.shift a1) = compareAngle n a0 a1 ∧
    isCrossing (t.shift n) (t.shift a0) (t.shift a1) (t.shift b0) (t.shift b1) = isCrossing n a0 a1 b0 b1 ∧
    isInteriorSegment (t.shift n) (t.shift a0) (t.shift a1) (t.shift b0) = isInteriorSegment n a0 a1 b0 :=
  ⟨compareAngle_shift t n a0 a1, by rw [isCrossing_eq_crossT, isCrossing_eq_crossT]; simp only [compareAngle_shift],
    by rw [isInteriorSegment_eq_T, isInteriorSegment_eq_T]; simp only [compareAngle_shift]⟩

/-- **`Orientation::isCCWArea`** (the x-shifted shoelace loop of `Area::ofRingSigned`) **is the sign of the specification
area** on every closed ring: true exactly when `Kernel.area2` is positive -/
theorem isCCWArea_iff_area2_pos (ring : List Pt) (hc : RayCount.Closed ring) : isCCWArea ring = true ↔ 0 < area2 ring := by
  unfold isCCWArea; rw [ofRingSigned2_eq ring hc]; simp

/-- reversing a closed ring of non-zero area flips `isCCWArea` — so the arms handed to `isInteriorSegment` by
`isIncidentSegmentInRing` are exchanged exactly when the ring is traversed the other way -/
theorem isCCWArea_reverse (ring : List Pt) (hc : RayCount.Closed ring) (ha : area2 ring ≠ 0) :
    isCCWArea ring.reverse = !isCCWArea ring := by
  unfold isCCWArea
  rw [ofRingSigned2_eq _ (closed_reverse ring hc), ofRingSigned2_eq ring hc, area2_reverse, ← decide_not]
  exact decide_eq_decide.mpr (by omega)

/-- **`isRingNested` off the target ring is exact point-in-ring**: when the start vertex of the test ring does not lie on
the closed target ring, the model never takes the throwing branch and answers exactly the even–odd specification
`Kernel.locateInRing` of that vertex -/
theorem isRingNested_off_ring (p0 : Pt) (rest target : List Pt) (hc : RayCount.Closed target)
    (hoff : locateInRing p0 target ≠ .boundary) :
    isRingNested (p0 :: rest) target = some (decide (locateInRing p0 target = .interior)) := by
  rw [isRingNested_cons p0 rest target hc]
  cases h : locateInRing p0 target
  · rfl
  · exact absurd h hoff
  · rfl

/-- **`isRingNested` on the target ring is the node topology of the first test segment**: the answer is
`isInteriorSegment` of the first non-repeated test vertex against the corner of the target ring at the start vertex -/
theorem isRingNested_on_ring (p0 : Pt) (rest target : List Pt) (hc : RayCount.Closed target)
    (hon : locateInRing p0 target = .boundary) :
    isRingNested (p0 :: rest) target =
      (cornerAt p0 target).map fun c => isInteriorSegment p0 c.1 c.2 (findNonEqualVertex (p0 :: rest) p0) := by
  rw [isRingNested_cons p0 rest target hc, hon]; rfl

/-! non-vacuity: an arch `A` with three teeth.  `B = [0,40]×[0,10]` lies under the arch `A`, outside it, touching its
three teeth at both ends and the midpoint of its first segment; `C` lies inside the slab of `A`. -/
def archA : List Pt := [⟨0, 10⟩, ⟨5, 20⟩, ⟨15, 20⟩, ⟨20, 10⟩, ⟨25, 20⟩, ⟨35, 20⟩, ⟨40, 10⟩, ⟨45, 20⟩, ⟨45, -10⟩, ⟨55, -10⟩,
  ⟨55, 30⟩, ⟨-15, 30⟩, ⟨-15, -10⟩, ⟨-5, -10⟩, ⟨-5, 20⟩, ⟨0, 10⟩]
example : isRingNested [⟨0, 10⟩, ⟨40, 10⟩, ⟨40, 0⟩, ⟨0, 0⟩, ⟨0, 10⟩] archA = some false := by decide +kernel
example : isRingNested [⟨40, 10⟩, ⟨0, 10⟩, ⟨0, 0⟩, ⟨40, 0⟩, ⟨40, 10⟩] archA = some false := by decide +kernel
example : isRingNested [⟨0, 10⟩, ⟨40, 10⟩, ⟨40, 0⟩, ⟨0, 0⟩, ⟨0, 10⟩] archA.reverse = some false := by decide +kernel
example : isRingNested [⟨10, 22⟩, ⟨30, 22⟩, ⟨30, 28⟩, ⟨10, 28⟩, ⟨10, 22⟩] archA = some true := by decide +kernel
example : isRingNested [⟨0, 10⟩, ⟨3, 18⟩, ⟨-3, 18⟩, ⟨0, 10⟩] archA = some true := by decide +kernel      -- inside the first tooth, starting at its tip
example : isCCWArea archA = true ∧ isCCWArea archA.reverse = false := by decide +kernel
example : isInteriorSegment ⟨0, 0⟩ ⟨1, 0⟩ ⟨0, 1⟩ ⟨1, 1⟩ = true ∧ isInteriorSegment ⟨0, 0⟩ ⟨0, 1⟩ ⟨1, 0⟩ ⟨1, 1⟩ = false := by decide +kernel
example : inSweep ⟨0, 0⟩ ⟨1, 0⟩ ⟨-1, -1⟩ ⟨0, -1⟩ = true ∧ inSweep ⟨0, 0⟩ ⟨0, -1⟩ ⟨-1, -1⟩ ⟨1, 0⟩ = false ∧
    inSweep ⟨0, 0⟩ ⟨1, 0⟩ ⟨0, 1⟩ ⟨-2, 0⟩ = true ∧ inSweep ⟨0, 0⟩ ⟨1, 0⟩ ⟨0, 1⟩ ⟨2, 0⟩ = false := by decide +kernel
example : latticeSym 1 ⟨1, 0⟩ = ⟨0, 1⟩ ∧ latticeSym 4 ⟨1, 2⟩ = ⟨-1, 2⟩ ∧
    isCrossing (latticeSym 5 ⟨0, 0⟩) (latticeSym 5 ⟨1, 0⟩) (latticeSym 5 ⟨-1, 0⟩) (latticeSym 5 ⟨0, 1⟩) (latticeSym 5 ⟨0, -1⟩) = true := by decide +kernel

/-! ### a FINDING about `isRingNested`: on a self-touching target ring only ONE pass through the start vertex is looked at

`isIncidentSegmentInRing` takes the first segment of the target ring that contains the start vertex of the test ring
(`intersectingSegIndex`) and decides by the corner of the target ring there.  A ring that is valid in the self-touching-ring mode
may pass through that point twice; the corner of the first pass does not say on which side of the ring a segment in the sector of
the other pass lies, so the answer depends on where the TARGET ring starts.  Witness (replayed on GEOS:
replays/known-C05-ring-start-on-multipass-node.json): a shell with an inverted pocket at (0,0) and a hole starting at (0,0) that
lies inside the shell (the point (−5,5), strictly inside the hole, is in the shell's interior whatever the start vertex). -/

def selfTouchShell : List Pt := [⟨-1, 2⟩, ⟨2, 1⟩, ⟨0, 0⟩, ⟨11, 0⟩, ⟨-13, 12⟩, ⟨-33, 11⟩, ⟨-11, 0⟩, ⟨0, 0⟩, ⟨-1, 2⟩]
/-- the same ring started at (11,0) -/
def selfTouchShellRot : List Pt := [⟨11, 0⟩, ⟨-13, 12⟩, ⟨-33, 11⟩, ⟨-11, 0⟩, ⟨0, 0⟩, ⟨-1, 2⟩, ⟨2, 1⟩, ⟨0, 0⟩, ⟨11, 0⟩]
def holeAtNode : List Pt := [⟨0, 0⟩, ⟨-8, 9⟩, ⟨-12, 11⟩, ⟨0, 0⟩]

/-- **`isRingNested` is not invariant under rotation of a self-touching target ring** (the model is the C++, branch by branch, and
the stream `ring-nested` / the translator tie bind it to the source): the hole is reported outside the shell for one start vertex
of the shell and inside for another, while a point strictly inside the hole is in the shell's interior for both -/
theorem isRingNested_selfTouching_target_depends_on_start :
    isRingNested holeAtNode selfTouchShell = some false ∧ isRingNested holeAtNode selfTouchShellRot = some true ∧
    RayCount.locatePointInRing ⟨-5, 5⟩ selfTouchShell = .interior ∧ RayCount.locatePointInRing ⟨-5, 5⟩ selfTouchShellRot = .interior := by
  decide +kernel

/-! ## CORE, third part: the per-pair decision `PolygonIntersectionAnalyzer::findInvalidIntersection` -/

/-- **the per-pair decision of `IsValidOp` IS the reference's intersection rule**: for every pair of segments of rings
without repeated points and both settings of the self-touching-ring flag, the model of the C++ decision (adjacency by index
arithmetic, crossing at a node by the quadrant code `isCrossing`, the end-vertex short cut) returns exactly the code
(none / 5 / 6) of the reference evaluator's `pairRule` (which states the node rule with the wedge specification `crossAt`) -/
theorem findInvalidIntersection_eq_pairRule (flag : Bool) (s t : RSeg)
    (hs1 : s.prev ≠ s.p) (hs2 : s.p ≠ s.q) (ht1 : t.prev ≠ t.p) (ht2 : t.p ≠ t.q) :
    findInvalidIntersection flag s t = (pairRule flag s t).map (·.1) :=
  Valid.findInvalidIntersection_eq_pairRule flag s t hs1 hs2 ht1 ht2

/-- the adjacency test of the C++ (`delta <= 1 || delta >= size - 2`) is cyclic adjacency of segment indices -/
theorem isAdjacentInRing_eq_cyclic (m i0 i1 : Nat) : isAdjacentInRing m i0 i1 = adjacentIdx m i0 i1 :=
  Valid.isAdjacentInRing_eq m i0 i1

/-! non-vacuity: a proper crossing, a permitted touch of two rings at a vertex, a crossing at a vertex, a ring touching itself -/
example : findInvalidIntersection false ⟨0, 0, 0, 4, ⟨0, 10⟩, ⟨0, 0⟩, ⟨10, 10⟩⟩ ⟨1, 1, 2, 4, ⟨10, 10⟩, ⟨10, 0⟩, ⟨0, 10⟩⟩ = some 5 := by decide +kernel
example : findInvalidIntersection false ⟨0, 0, 0, 4, ⟨0, 4⟩, ⟨0, 0⟩, ⟨4, 0⟩⟩ ⟨1, 1, 0, 3, ⟨3, -3⟩, ⟨2, 0⟩, ⟨1, -3⟩⟩ = none := by decide +kernel
example : findInvalidIntersection false ⟨0, 0, 0, 4, ⟨0, 4⟩, ⟨0, 0⟩, ⟨4, 0⟩⟩ ⟨1, 1, 0, 3, ⟨3, 3⟩, ⟨2, 0⟩, ⟨1, -3⟩⟩ = some 5 := by decide +kernel
example : findInvalidIntersection false ⟨0, 0, 2, 6, ⟨10, 0⟩, ⟨5, 5⟩, ⟨10, 10⟩⟩ ⟨0, 0, 5, 6, ⟨0, 10⟩, ⟨5, 5⟩, ⟨0, 0⟩⟩ = some 6 ∧
    findInvalidIntersection true ⟨0, 0, 2, 6, ⟨10, 0⟩, ⟨5, 5⟩, ⟨10, 10⟩⟩ ⟨0, 0, 5, 6, ⟨0, 10⟩, ⟨5, 5⟩, ⟨0, 0⟩⟩ = none := by decide +kernel

/-! ## CORE, fourth part: the analyzer over a sequence of pairs, and the order of the rules -/

/-- **no recorded code ⟺ every presented pair is allowed**: after `processIntersections` has been called for any sequence of
pairs, `invalidCode` is still "none" exactly when each pair is a segment with itself or `findInvalidIntersection` allows it -/
theorem processAll_none_iff (flag : Bool) (pairs : List (RSeg × RSeg)) :
    processAll flag pairs = none ↔
      ∀ st ∈ pairs, (st.1.rid == st.2.rid && st.1.k == st.2.k) = true ∨ findInvalidIntersection flag st.1 st.2 = none :=
  Valid.processAll_none_iff flag pairs

/-- **a recorded code is the code of a presented pair** (not of a segment with itself) -/
theorem processAll_some (flag : Bool) (pairs : List (RSeg × RSeg)) (c : Nat) (h : processAll flag pairs = some c) :
    ∃ st ∈ pairs, (st.1.rid == st.2.rid && st.1.k == st.2.k) = false ∧ findInvalidIntersection flag st.1 st.2 = some c :=
  Valid.processAll_some flag pairs c h

/-- **`hasInvalidIntersection` after all pairs is the reference's rule 5/6**: over all pairs of distinct segments of rings without
repeated points, the analyzer records nothing exactly when `areaIntersections` finds nothing -/
theorem processAll_pairsOf_none_iff_ref (flag : Bool) (segs : List RSeg) (hw : Valid.SegsWF segs) :
    processAll flag (pairsOf segs) = none ↔ areaIntersections flag segs = none := by
  rw [processAll_pairsOf flag segs hw, List.getLast?_eq_none_iff, ← Option.map_eq_none_iff (f := (·.codes)),
    areaIntersections_codes, ← List.isEmpty_iff]
  cases (badCodes flag segs).isEmpty <;> simp

/-- and a recorded code is one of the reference's admissible codes -/
theorem processAll_pairsOf_code_admissible (flag : Bool) (segs : List RSeg) (hw : Valid.SegsWF segs) (c : Nat)
    (h : processAll flag (pairsOf segs) = some c) : ∃ v, areaIntersections flag segs = some v ∧ c ∈ v.codes := by
  rw [processAll_pairsOf flag segs hw] at h
  have hm := List.mem_of_getLast? h
  have hc := areaIntersections_codes flag segs
  rw [if_neg (by rw [List.isEmpty_iff]; exact List.ne_nil_of_mem hm), Option.map_eq_some_iff] at hc
  obtain ⟨v, hv, e⟩ := hc
  exact ⟨v, hv, e ▸ List.mem_eraseDups.mpr hm⟩

/-- the reference evaluator's sequencing (`firstOf`) is `firstErr`, the sequencing of `IsValidOp` -/
theorem ref_sequencing_is_firstErr (rs : List (Unit → Option Verdict)) : firstOf rs = (firstErr rs).getD Verdict.ok := by
  induction rs with
  | nil => rfl
  | cons r rs ih =>
    simp only [firstOf, firstErr]
    cases r () <;> simp [ih]

/-- the reference follows `IsValidOp`'s order for a Point, a LineString, a LinearRing -/
theorem ref_point_line_ring_order (s : VSeq) (h : s.pts.isEmpty = false) :
    pointRef s = (firstErr (pointOrder (coordRule [s]))).getD Verdict.ok ∧
    lineRef s = (firstErr (lineOrder (fun _ => coordRule [s]) (fun _ => sizeRule 2 [s]))).getD Verdict.ok ∧
    ringRef s = (firstErr (ringOrder (fun _ => coordRule [s]) (fun _ => closedRule [s]) (fun _ => sizeRule 4 [s])
      (fun _ => ringSimpleRule s))).getD Verdict.ok :=
  ⟨by simp [pointRef, h, ref_sequencing_is_firstErr, pointOrder], by simp [lineRef, h, ref_sequencing_is_firstErr, lineOrder],
    by simp [ringRef, h, ref_sequencing_is_firstErr, ringOrder]⟩

/-- the reference follows `IsValidOp`'s order for a Polygon: coordinates, closure, size, intersections, holes in shell, nested holes,
connected interior -/
theorem ref_polygon_order (flag : Bool) (shell : VSeq) (holes : List VSeq) (h : shell.pts.isEmpty = false) :
    polygonalRef flag [shell :: holes] =
      (firstErr (polygonOrder (fun _ => coordRule (shell :: holes)) (fun _ => closedRule (shell :: holes)) (fun _ => sizeRule 4 (shell :: holes))
        (fun _ => areaIntersections flag (polySegs [(shell :: holes).map fun s => dedup s.pts]))
        (fun _ => holesInShell [(shell :: holes).map fun s => dedup s.pts])
        (fun _ => holesNotNested [(shell :: holes).map fun s => dedup s.pts])
        (fun _ => interiorConnected [(shell :: holes).map fun s => dedup s.pts]))).getD Verdict.ok := by
  -- for one element the nested-shells rule of the reference reports nothing (`0 + 1 ≤ 1`) and drops out of the sequence
  simp only [polygonalRef, List.filter_cons, h, Bool.not_false, if_true, List.filter_nil, List.isEmpty_cons, Bool.false_eq_true, if_false,
    ref_sequencing_is_firstErr, polygonOrder, List.flatMap_cons, List.flatMap_nil, List.append_nil, List.cons_append, List.nil_append,
    List.map_cons, List.map_nil, List.length_cons, List.length_nil, Nat.zero_add, Nat.le_refl, firstErr]

/-! non-vacuity: two crossing segments then an allowed pair: the code of the crossing stays recorded; `SegsWF` holds for a triangle -/
example : processAll false [(⟨0, 0, 0, 4, ⟨0, 10⟩, ⟨0, 0⟩, ⟨10, 10⟩⟩, ⟨1, 1, 2, 4, ⟨10, 10⟩, ⟨10, 0⟩, ⟨0, 10⟩⟩),
    (⟨0, 0, 0, 4, ⟨0, 4⟩, ⟨0, 0⟩, ⟨4, 0⟩⟩, ⟨1, 1, 0, 3, ⟨3, -3⟩, ⟨2, 0⟩, ⟨1, -3⟩⟩)] = some 5 := by decide +kernel
example : Valid.SegsWF (ringSegs 0 0 [⟨0, 0⟩, ⟨4, 0⟩, ⟨0, 4⟩, ⟨0, 0⟩]) := by
  unfold Valid.SegsWF; decide
example : firstErr [fun _ => (none : Option Nat), fun _ => some 3, fun _ => some 4] = some 3 := by decide +kernel

/-! ## CORE, fifth part: the per-pair decision of `IsSimpleOp` -/

/-- **`IsSimpleOp`'s per-pair decision IS the reference's simplicity rule** (Mod-2 boundary rule, the default): for two distinct
segments of de-duplicated lines that are coherent (`LPairWF`: indices in range, one `n` per line, consecutive segments share their
vertex), the model of `NonSimpleIntersectionFinder::findIntersection` reports an intersection exactly when `simplePair` forbids the
way the two segments meet: proper crossings, overlaps, a vertex of one inside the other, a touch at a vertex that is not an end point
of both lines, and — for different lines — an end-point touch involving a closed line; closure of one line at its own end points and
the shared vertex of adjacent segments are allowed -/
theorem findIntersection_decides_simplePair (s t : LSeg) (h : Valid.LPairWF s t) :
    findIntersection true s t = !simplePair s t :=
  Valid.findIntersection_eq_not_simplePair s t h

/-- so a segment set is simple for the reference exactly when the C++ decision finds no intersection in any pair -/
theorem linesSimple_iff_no_intersection (segs : List LSeg) (hw : ∀ st ∈ pairsOf segs, Valid.LPairWF st.1 st.2) :
    ((pairsOf segs).all fun st => simplePair st.1 st.2) = (pairsOf segs).all fun st => !findIntersection true st.1 st.2 :=
  Valid.all_simplePair_iff segs hw

/-! non-vacuity: a T-junction is found, two lines meeting end to end are not, the same with a closed partner is (Mod-2), ring closure is
allowed; the coherence hypothesis holds for the two segments of the line (0,0) (10,0) (10,10) -/
example : findIntersection true ⟨0, 0, 1, false, ⟨0, 0⟩, ⟨10, 0⟩⟩ ⟨1, 0, 1, false, ⟨5, 0⟩, ⟨5, 5⟩⟩ = true := by decide +kernel
example : findIntersection true ⟨0, 0, 1, false, ⟨0, 0⟩, ⟨10, 0⟩⟩ ⟨1, 0, 1, false, ⟨10, 0⟩, ⟨15, 5⟩⟩ = false := by decide +kernel
example : findIntersection true ⟨0, 0, 1, false, ⟨0, 0⟩, ⟨10, 0⟩⟩ ⟨1, 0, 3, true, ⟨10, 0⟩, ⟨15, 5⟩⟩ = true := by decide +kernel
example : findIntersection true ⟨0, 0, 3, true, ⟨0, 0⟩, ⟨10, 0⟩⟩ ⟨0, 2, 3, true, ⟨0, 10⟩, ⟨0, 0⟩⟩ = false := by decide +kernel
example : Valid.LPairWF ⟨0, 0, 2, false, ⟨0, 0⟩, ⟨10, 0⟩⟩ ⟨0, 1, 2, false, ⟨10, 0⟩, ⟨10, 10⟩⟩ :=
  ⟨by decide, by decide, by decide, by decide, fun _ => rfl, fun _ => by decide, fun _ _ => rfl, fun _ h => by simp at h⟩

/-! ## CORE, sixth part: the self-touch bookkeeping of the self-touching-ring mode -/

/-- the analyzer with bookkeeping records the same code as `processAll` (fourth part) -/
theorem selfState_code (flag : Bool) (pairs : List (RSeg × RSeg)) : (processAllSelf flag pairs).code = processAll flag pairs :=
  congrArg SelfState.code (foldl_processSelf flag pairs {})

/-- **nothing is dropped**: after any sequence of presented pairs the ring's self-node list holds exactly one entry per
presented pair (not a segment with itself) that reaches the `addSelfTouch` call, in presentation order — also when several
of them are at the same location -/
theorem selfNodes_are_all_recorded (flag : Bool) (pairs : List (RSeg × RSeg)) :
    (processAllSelf flag pairs).selfNodes = pairs.filterMap (Valid.recorded flag) :=
  congrArg SelfState.selfNodes (foldl_processSelf flag pairs {})

/-- a self-touch is recorded only in flag mode, only for two segments of one ring string, only when the pair is allowed,
and the two recorded passes do not cross -/
theorem recorded_selfTouch_is_allowed (flag : Bool) (s t : RSeg) (n : SelfNode) (h : selfTouchOf flag s t = some n) :
    flag = true ∧ (s.rid == t.rid) = true ∧ findInvalidIntersection flag s t = none ∧
      isCrossing n.nodePt n.e00 n.e01 n.e10 n.e11 = false := by
  -- `selfTouchOf` and `findInvalidIntersection` branch on the same tests: every branch but one returns no node, and on that one the
  -- tests passed are the claim (same ring and flag set, passes not crossing) and `findInvalidIntersection` has reached its last `none`
  revert h
  unfold selfTouchOf findInvalidIntersection
  rcases segRel s.p s.q t.p t.q with _ | proper | _
  · intro h; cases h
  · cases proper
    · dsimp only
      cases (s.rid == t.rid) && isAdjacentInRing s.m s.k t.k
      · cases (s.rid == t.rid) && !flag
        · rcases meetPts s t with _ | ⟨x, _ | ⟨y, r⟩⟩
          · intro h; cases h
          · dsimp only
            cases x == s.q || x == t.q
            · cases h4 : isCrossing x (if x == s.p then s.prev else s.p) s.q (if x == t.p then t.prev else t.p) t.q
              · cases h5 : (s.rid == t.rid) && flag
                · intro h; cases h
                · intro h; cases h
                  rw [Bool.and_eq_true] at h5
                  exact ⟨h5.2, h5.1, rfl, h4⟩
              · intro h; cases h
            · intro h; cases h
          · intro h; cases h
        · intro h; cases h
      · intro h; cases h
    · intro h; cases h
  · intro h; cases h

/-- **the self-touch check looks at every recorded pair of passes**: for a ring (shell or hole) and any sequence of
presented pairs, `findInteriorSelfNode` finds a node exactly when SOME presented pair records a self-touch whose second pass
is not exterior (with `isInteriorOnRight = isShell xor isCCWArea ring`) -/
theorem interiorSelfNode_found_iff (isShell : Bool) (ring : List Pt) (pairs : List (RSeg × RSeg)) :
    (selfTouchVerdict isShell ring pairs).2.isSome = true ↔
      ∃ p ∈ pairs, ∃ n, Valid.recorded true p = some n ∧ n.isExterior (isShell != isCCWArea ring) = false := by
  unfold selfTouchVerdict
  simp only [findInteriorSelfNode_isSome_iff, selfNodes_are_all_recorded, List.mem_filterMap, RingState.isInteriorOnRight]
  constructor
  · rintro ⟨n, ⟨p, hp, hr⟩, hn⟩; exact ⟨p, hp, n, hr, hn⟩
  · rintro ⟨p, hp, n, hr, hn⟩; exact ⟨n, ⟨p, hp, hr⟩, hn⟩

/-- a reported node is the node of a recorded entry that is not exterior -/
theorem interiorSelfNode_is_recorded (r : RingState) (p : Pt) (h : r.findInteriorSelfNode = some p) :
    ∃ n ∈ r.selfNodes, n.isExterior r.isInteriorOnRight = false ∧ n.nodePt = p := by
  rw [findInteriorSelfNode_eq, Option.map_eq_some_iff] at h
  obtain ⟨n, hf, hp⟩ := h
  exact ⟨n, List.mem_of_find?_eq_some hf, by simpa using List.find?_some hf, hp⟩

/-- **the order in which the noder presents the pairs, and presenting a pair again, do not matter** for whether the interior
is found disconnected by a self-touch -/
theorem interiorSelfNode_order_irrelevant (isShell : Bool) (ring : List Pt) (pairs pairs' : List (RSeg × RSeg))
    (h : ∀ p, p ∈ pairs ↔ p ∈ pairs') :
    (selfTouchVerdict isShell ring pairs).2.isSome = (selfTouchVerdict isShell ring pairs').2.isSome :=
  findInteriorSelfNode_isSome_congr _ _ rfl rfl fun n => by
    simp only [selfNodes_are_all_recorded, List.mem_filterMap]
    exact exists_congr fun p => and_congr_left' (h p)

/-- "either of the other edges could be used to test" (`PolygonRingSelfNode::isExterior`): for non-crossing passes, with the
second pass off the arms of a proper first corner, `e11` gives the same answer as `e10` -/
theorem isExterior_other_edge (n : SelfNode) (r : Bool)
    (h0 : n.e00 ≠ n.nodePt) (h1 : n.e01 ≠ n.nodePt) (hb0 : n.e10 ≠ n.nodePt) (hb1 : n.e11 ≠ n.nodePt)
    (hx : compareAngle n.nodePt n.e00 n.e01 ≠ 0)
    (hp0 : compareAngle n.nodePt n.e10 n.e00 ≠ 0) (hp1 : compareAngle n.nodePt n.e10 n.e01 ≠ 0)
    (hq0 : compareAngle n.nodePt n.e11 n.e00 ≠ 0) (hq1 : compareAngle n.nodePt n.e11 n.e01 ≠ 0)
    (hc : isCrossing n.nodePt n.e00 n.e01 n.e10 n.e11 = false) :
    ({ n with e10 := n.e11 } : SelfNode).isExterior r = n.isExterior r :=
  Valid.isExterior_other_edge n r h0 h1 hb0 hb1 hx hp0 hp1 hq0 hq1 hc

/-- traversing the ring in the other direction (the arms of the first pass exchange, the interior changes side) gives the same
answer -/
theorem isExterior_ring_reversal (n : SelfNode) (r : Bool)
    (h0 : n.e00 ≠ n.nodePt) (h1 : n.e01 ≠ n.nodePt) (hb : n.e10 ≠ n.nodePt)
    (hx : compareAngle n.nodePt n.e00 n.e01 ≠ 0)
    (hp0 : compareAngle n.nodePt n.e10 n.e00 ≠ 0) (hp1 : compareAngle n.nodePt n.e10 n.e01 ≠ 0) :
    ({ n with e00 := n.e01, e01 := n.e00 } : SelfNode).isExterior (!r) = n.isExterior r := by
  unfold SelfNode.isExterior
  simp only
  rw [isInteriorSegment_swap_arms n.nodePt n.e00 n.e01 n.e10 h0 h1 hb hx hp0 hp1]
  cases r <;> cases isInteriorSegment n.nodePt n.e00 n.e01 n.e10 <;> rfl

/-! non-vacuity: a counter-clockwise shell that passes THREE times through the node (10,0): an inverted pocket above (a legal hole) and an
exverted lobe below (cuts its interior off).  Whatever the order of the pairs, the lobe is found; the pocket alone is accepted. -/
def pocketAndLobe : List Pt := [⟨20, 20⟩, ⟨0, 20⟩, ⟨0, 0⟩, ⟨10, 0⟩, ⟨8, 8⟩, ⟨12, 8⟩, ⟨10, 0⟩, ⟨8, -8⟩, ⟨12, -8⟩, ⟨10, 0⟩, ⟨20, 0⟩, ⟨20, 20⟩]
def pocketOnly : List Pt := [⟨20, 20⟩, ⟨0, 20⟩, ⟨0, 0⟩, ⟨10, 0⟩, ⟨8, 8⟩, ⟨12, 8⟩, ⟨10, 0⟩, ⟨20, 0⟩, ⟨20, 20⟩]
example : selfTouchVerdict true pocketAndLobe (pairsOf (ringSegs 0 0 pocketAndLobe)) = (none, some ⟨10, 0⟩) := by decide +kernel
example : selfTouchVerdict true pocketAndLobe (pairsOf (ringSegs 0 0 pocketAndLobe)).reverse = (none, some ⟨10, 0⟩) := by decide +kernel
example : selfTouchVerdict true pocketOnly (pairsOf (ringSegs 0 0 pocketOnly)) = (none, none) := by decide +kernel
example : ((processAllSelf true (pairsOf (ringSegs 0 0 pocketAndLobe))).selfNodes.map (·.nodePt)) = [⟨10, 0⟩, ⟨10, 0⟩, ⟨10, 0⟩] := by decide +kernel

/-! ## CORE, seventh part: nested shells (`IndexedNestedPolygonTester`) -/

/-- **every hole counts**: on the incident-segment path (both shell vertices on the candidate's boundary) the shell is reported
nested exactly when it is nested in the candidate's shell and in NONE of its holes (`inHole` = the hole's envelope covers the
shell's and `isRingNested` says nested) — wherever that hole stands in the list -/
theorem nested_incident_spec (shell polyShell : List Pt) (holes : List (List Pt)) (hne : polyShell.isEmpty = false) (b : Bool)
    (hs : isRingNested shell polyShell = some b) (hn : Valid.HolesNoThrow shell holes) :
    findIncidentSegmentNestedPoint shell (polyShell :: holes) =
      some (if b && !holes.any (Valid.inHole shell) then shell.head? else none) := by
  simp only [findIncidentSegmentNestedPoint, hne, Bool.false_eq_true, if_false, hs, holesLoop_eq_any shell holes hn]
  cases b <;> cases holes.any (inHole shell) <;> rfl

/-- **reordering the holes of the candidate changes nothing** in `findNestedPoint` (two point locations + incident path) -/
theorem findNestedPoint_hole_order_irrelevant (shell polyShell : List Pt) (holes holes' : List (List Pt)) (hp : holes.Perm holes')
    (hn : Valid.HolesNoThrow shell holes) :
    findNestedPoint shell (polyShell :: holes) = findNestedPoint shell (polyShell :: holes') := by
  unfold findNestedPoint
  match shell, hn with
  | [], _ | [_], _ => rfl
  | p0 :: p1 :: r, hn =>
    simp only [locateIndexed_perm p0 (hp.cons polyShell), locateIndexed_perm p1 (hp.cons polyShell),
      findIncidentSegmentNestedPoint, holesLoop_perm (p0 :: p1 :: r) holes holes' hp hn]

/-- **`isNested` is "some element has a hit among the other elements"** (`hitB a b`: `b`'s envelope covers `a`'s and
`findNestedPoint` yields a point), for element lists on which nothing throws -/
theorem isNested_iff_some_pair (polys : List Poly) (hn : Valid.NoThrow polys) :
    (∃ p, isNested polys = some (some p)) ↔ ∃ l1 a l2, polys = l1 ++ a :: l2 ∧ (l1 ++ l2).any (Valid.hitB a) = true := by
  rcases isNestedLoop_noThrow [] polys hn with ⟨hp, hh⟩ | ⟨hp, hh⟩
  · exact iff_of_true hp hh
  · exact iff_of_false (fun ⟨p, h⟩ => nomatch hp.symm.trans h) hh

theorem isNested_not_iff (polys : List Poly) (hn : Valid.NoThrow polys) : isNested polys = some none ↔ ¬ Valid.HasHit polys := by
  rcases isNestedLoop_noThrow [] polys hn with ⟨⟨p, hp⟩, hh⟩ | ⟨hp, hh⟩
  · exact iff_of_false (fun h => nomatch hp.symm.trans h) (not_not_intro hh)
  · exact iff_of_true hp hh

/-- **reordering the elements of the MultiPolygon does not change whether nested shells are reported** -/
theorem isNested_element_order_irrelevant (polys polys' : List Poly) (hp : polys.Perm polys') (hn : Valid.NoThrow polys) :
    (∃ p, isNested polys = some (some p)) ↔ (∃ p, isNested polys' = some (some p)) :=
  (isNested_iff_some_pair polys hn).trans
    (Iff.trans ⟨HasHit.perm hp, HasHit.perm hp.symm⟩ (isNested_iff_some_pair polys' (hn.perm hp)).symm)

/-! non-vacuity: a square with two holes and a triangle inside the SECOND hole whose first two vertices lie on that hole's ring:
not nested, in either hole order; the same triangle pushed across the hole's right edge into the solid part is nested. -/
def twoHoleSquare : Poly := [[⟨0, 0⟩, ⟨30, 0⟩, ⟨30, 30⟩, ⟨0, 30⟩, ⟨0, 0⟩], [⟨2, 2⟩, ⟨2, 4⟩, ⟨4, 4⟩, ⟨4, 2⟩, ⟨2, 2⟩],
  [⟨10, 10⟩, ⟨10, 20⟩, ⟨20, 20⟩, ⟨20, 10⟩, ⟨10, 10⟩]]
def twoHoleSquareSwapped : Poly := [twoHoleSquare.getD 0 [], twoHoleSquare.getD 2 [], twoHoleSquare.getD 1 []]
example : isNested [twoHoleSquare, [[⟨10, 15⟩, ⟨15, 10⟩, ⟨18, 18⟩, ⟨10, 15⟩]]] = some none := by decide +kernel
example : isNested [twoHoleSquareSwapped, [[⟨10, 15⟩, ⟨15, 10⟩, ⟨18, 18⟩, ⟨10, 15⟩]]] = some none := by decide +kernel
example : isNested [[[⟨10, 15⟩, ⟨15, 10⟩, ⟨18, 18⟩, ⟨10, 15⟩]], twoHoleSquare] = some none := by decide +kernel
example : isNested [twoHoleSquare, [[⟨20, 15⟩, ⟨30, 15⟩, ⟨25, 20⟩, ⟨20, 15⟩]]] = some (some ⟨20, 15⟩) := by decide +kernel
example : Valid.HolesNoThrow [⟨10, 15⟩, ⟨15, 10⟩, ⟨18, 18⟩, ⟨10, 15⟩] (twoHoleSquare.drop 1) := by
  unfold Valid.HolesNoThrow; decide

/-! ## SPEC: the reference evaluator -/

/-- the wedge specification does not depend on where the plane's origin is -/
theorem crossAt_translate (t o a0 a1 b0 b1 : Pt) :
    crossAt (t.shift o) (t.shift a0) (t.shift a1) (t.shift b0) (t.shift b1) = crossAt o a0 a1 b0 b1 :=
  Valid.crossAt_shift t o a0 a1 b0 b1

/-- reversing the direction of travel along the first pass does not change whether the passes cross -/
theorem crossAt_reverse_a (o a0 a1 b0 b1 : Pt) : crossAt o a1 a0 b0 b1 = crossAt o a0 a1 b0 b1 :=
  Bool.or_comm _ _

/-- reversing the direction of travel along the second pass does not change whether the passes cross -/
theorem crossAt_reverse_b (o a0 a1 b0 b1 : Pt) : crossAt o a0 a1 b1 b0 = crossAt o a0 a1 b0 b1 := by
  unfold crossAt
  rw [Bool.or_comm, Bool.and_comm (cyc o a1 b1 a0), Bool.and_comm (cyc o a0 b1 a1)]

/-- whether two passes cross does not depend on which of them is called the first: if the edges of `b` are separated by
the corner of `a`, the edges of `a` are separated by the corner of `b` (needed for permutation of rings / elements) -/
theorem crossAt_symmetric (o a0 a1 b0 b1 : Pt) (h0 : a0 ≠ o) (h1 : a1 ≠ o) (hb0 : b0 ≠ o) (hb1 : b1 ≠ o) :
    crossAt o b0 b1 a0 a1 = crossAt o a0 a1 b0 b1 :=
  Valid.crossAt_symm o a0 a1 b0 b1 h0 h1 hb0 hb1

/-- the same for the C++ function: `isCrossing` is symmetric in its two corners -/
theorem isCrossing_symmetric (n a0 a1 b0 b1 : Pt) (h0 : a0 ≠ n) (h1 : a1 ≠ n) (hb0 : b0 ≠ n) (hb1 : b1 ≠ n) :
    isCrossing n b0 b1 a0 a1 = isCrossing n a0 a1 b0 b1 := by
  rw [Valid.isCrossing_eq_crossAt n b0 b1 a0 a1 hb0 hb1 h0 h1, Valid.isCrossing_eq_crossAt n a0 a1 b0 b1 h0 h1 hb0 hb1]
  exact Valid.crossAt_symm n a0 a1 b0 b1 h0 h1 hb0 hb1

/-- removing repeated points commutes with translation -/
theorem dedup_translate (t : Pt) (l : List Pt) : dedup (l.map t.shift) = (dedup l).map t.shift := by
  match l with
  | [] | [_] => rfl
  | a :: b :: r =>
    have ih := dedup_translate t (b :: r)
    simp only [List.map_cons] at ih ⊢
    unfold dedup
    rw [shift_beq]
    split
    · exact ih
    · simp only [List.map_cons, ih]

/-- **ref_invariant (PARTIAL: translation, intersection rule)**: which code (none / 5 / 6) the intersection rule gives
for a pair of ring segments is unchanged by translation, for both settings of the self-touching-ring flag -/
theorem ref_invariant_translate_pairRule_partial (flag : Bool) (t : Pt) (s u : RSeg) :
    (pairRule flag (RSeg.shift t s) (RSeg.shift t u)).map (·.1) = (pairRule flag s u).map (·.1) :=
  Valid.pairRule_shift_code flag t s u

/-- **ref_invariant (PARTIAL: translation, rules 5/6 over a whole polygonal geometry)**: the set of admissible codes of
the intersection stage is unchanged by translation -/
theorem ref_invariant_translate_intersections_partial (flag : Bool) (t : Pt) (segs : List RSeg) :
    (areaIntersections flag (segs.map (RSeg.shift t))).map (·.codes) = (areaIntersections flag segs).map (·.codes) := by
  rw [areaIntersections_codes, areaIntersections_codes, badCodes_shift]

/-- the full invariance statement of the property for the reference evaluator (NOT proved; see the module text).
`sym` ranges over the eight lattice symmetries composed with translations, `restructure` over ring rotation,
ring reversal, hole permutation and element permutation. -/
def C05_ref_invariant_full : Prop :=
  ∀ (flag : Bool) (g g' : VG), Valid.SameUpToSymmetry g g' →
    (validRef flag g).valid = (validRef flag g').valid ∧ simpleRef g = simpleRef g'

/-- non-vacuity of the intersection rule: a proper crossing is code 5; two non-adjacent segments of one ring meeting in
a vertex are code 6 in OGC mode and allowed with the flag when the passes do not cross; adjacent segments are allowed -/
example : (pairRule false ⟨0, 0, 0, 4, ⟨0, 10⟩, ⟨0, 0⟩, ⟨10, 10⟩⟩ ⟨0, 0, 2, 4, ⟨10, 10⟩, ⟨10, 0⟩, ⟨0, 10⟩⟩).map (·.1) = some 5 := by decide +kernel
example : (pairRule false ⟨0, 0, 0, 6, ⟨5, 5⟩, ⟨0, 0⟩, ⟨10, 0⟩⟩ ⟨0, 0, 1, 6, ⟨0, 0⟩, ⟨10, 0⟩, ⟨5, 5⟩⟩).map (·.1) = none := by decide +kernel
example : (pairRule false ⟨0, 0, 2, 6, ⟨10, 0⟩, ⟨5, 5⟩, ⟨10, 10⟩⟩ ⟨0, 0, 5, 6, ⟨0, 10⟩, ⟨5, 5⟩, ⟨0, 0⟩⟩).map (·.1) = some 6 := by decide +kernel
example : (pairRule true ⟨0, 0, 2, 6, ⟨10, 0⟩, ⟨5, 5⟩, ⟨10, 10⟩⟩ ⟨0, 0, 5, 6, ⟨0, 10⟩, ⟨5, 5⟩, ⟨0, 0⟩⟩).map (·.1) = none := by decide +kernel
example : (pairRule true ⟨0, 0, 2, 6, ⟨0, 0⟩, ⟨5, 5⟩, ⟨10, 10⟩⟩ ⟨0, 0, 5, 6, ⟨10, 0⟩, ⟨5, 5⟩, ⟨0, 10⟩⟩).map (·.1) = some 5 := by decide +kernel

end GeosModel.C05
