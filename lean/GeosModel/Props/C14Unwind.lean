import GeosModel.Model.Interrupt.Unwind
/-!
# C14 — the interrupt reaches the API wrapper: theorems about `Model/Interrupt/Unwind.lean`

* `unwind_transparent`        if every frame between the poll and `execute` is transparent for `InterruptedException`, it
                              arrives unchanged (for any stack);
* `unwind_changed_has_opaque_frame`  conversely, whenever it does not arrive unchanged, some frame on the stack is not transparent;
* `framed_run_eq_run`         under that condition the protocol model's "the first poll that throws unwinds to `execute`"
                              is exact: the run with handler stacks equals `Proto.runFrom` (so all theorems of Props/C14 apply);
* `validate_preserves_every_exception`  `ValidatingNoder::validate`'s handler changes no exception class (checked against the real
                              function by the stream `unwind`);
* `overlay_float_stack_transparent`  validate inside `OverlayNGRobust::Overlay`'s first attempt: an interrupt passes both;
* `topology_still_retried`    …while a TopologyException of the validation is absorbed there (the fallback the code wants);
* `rewriting_below_retry_swallows`  MECHANISM (negative witness): a frame that rethrows whatever it caught as a TopologyException,
                              placed under `robustFrame`, turns the interrupt into a retry — the operation completes
                              (`rewritten_interrupt_completes`) although each of the two frames "handles interrupts" alone.
-/
namespace GeosModel.Interrupt

theorem unwind_transparent (fs : List Frame) (e : Exc) (h : ∀ f ∈ fs, f.transparentFor e = true) :
    unwind fs e = .raised e := by
  induction fs with
  | nil => rfl
  | cons f fs ih =>
    have hf := h f (List.mem_cons_self ..)
    simp only [Frame.transparentFor, beq_iff_eq] at hf
    simp only [unwind, hf]
    exact ih (fun g hg => h g (List.mem_cons_of_mem _ hg))

theorem unwind_changed_has_opaque_frame (fs : List Frame) (e : Exc) (h : unwind fs e ≠ .raised e) :
    ∃ f ∈ fs, f.transparentFor e = false := by
  induction fs generalizing e with
  | nil => exact absurd rfl h
  | cons f fs ih =>
    by_cases hf : f.transparentFor e = true
    · have hf' := hf
      simp only [Frame.transparentFor, beq_iff_eq] at hf'
      simp only [unwind, hf'] at h
      obtain ⟨g, hg, hn⟩ := ih e h
      exact ⟨g, List.mem_cons_of_mem _ hg, hn⟩
    · exact ⟨f, List.mem_cons_self .., by simpa using hf⟩

/-- **framed_run_eq_run.**  With transparent stacks at every poll the run with handlers is the protocol model's run. -/
theorem framed_run_eq_run {ρ : Type} (stack : Nat → List Frame) (r : ρ)
    (h : ∀ i, ∀ f ∈ stack i, f.transparentFor .interrupted = true) :
    ∀ (rem i : Nat) (s : State),
      runFromF stack r rem i s = ((runFrom r rem i s).1, FOutcome.ofOutcome (runFrom r rem i s).2) := by
  intro rem
  induction rem with
  | zero => intro i s; simp [runFromF, runFrom, FOutcome.ofOutcome]
  | succ n ih =>
    intro i s
    unfold runFromF runFrom
    cases hp : process s i with
    | mk s' t =>
      cases t with
      | true => simp [unwind_transparent (stack i) .interrupted (h i), FOutcome.ofOutcome]
      | false => simpa using ih (i + 1) s'

/-- **validate_preserves_every_exception.**  `throw;` after the cleanup: whatever was raised leaves unchanged. -/
theorem validate_preserves_every_exception (e : Exc) : validateFrame.handle e = .raised e := by
  cases e <;> rfl

theorem overlay_float_stack_transparent : unwind [validateFrame, robustFrame] .interrupted = .raised .interrupted := by decide +kernel

/-- **topology_still_retried.**  The noding failure the fallback exists for is absorbed by the first attempt's handler, as is
    any other runtime_error; an interrupt is the only GEOS exception it lets through. -/
theorem topology_still_retried :
    unwind [validateFrame, robustFrame] .topology = .absorbed ∧
    (∀ e, robustFrame.handle e = .raised e ↔ (e = .interrupted ∨ e = .logic ∨ e = .stdOther ∨ e = .nonStd)) := by
  refine ⟨by decide, ?_⟩
  intro e; cases e <;> decide

/-- a cleanup handler that rewraps whatever it caught as a TopologyException -/
def rewritingFrame : Frame := [⟨.stdException, .throwNew .topology⟩]

/-- **rewriting_below_retry_swallows.**  Each frame alone does not absorb an interrupt (the inner one re-raises *something*, the outer
    one lets interrupts through), together they do. -/
theorem rewriting_below_retry_swallows :
    rewritingFrame.handle .interrupted ≠ .absorbed ∧ robustFrame.handle .interrupted = .raised .interrupted ∧
    unwind [rewritingFrame, robustFrame] .interrupted = .absorbed := by decide +kernel

/-- …and the operation then runs to completion: interrupt requested at poll 2 of 3, handlers as above at every poll -/
theorem rewritten_interrupt_completes :
    (runFromF (fun _ => [rewritingFrame, robustFrame]) "result" 3 1 ⟨false, some (requestAt 2)⟩).2 = .done "result" ∧
    (runFromF (fun _ => [validateFrame, robustFrame]) "result" 3 1 ⟨false, some (requestAt 2)⟩).2 = .interrupted 2 := by decide +kernel

/-- what reaches the caller of the C API: `execute` absorbs every exception (error value) -/
theorem execute_absorbs_all (e : Exc) : executeFrame.handle e = .absorbed := by cases e <;> rfl

/-! non-vacuity -/
example : validateFrame.transparentFor .interrupted = true ∧ robustFrame.transparentFor .interrupted = true ∧
    snapFrame.transparentFor .interrupted = true ∧ snapFrame.transparentFor .topology = false := by decide +kernel

end GeosModel.Interrupt
