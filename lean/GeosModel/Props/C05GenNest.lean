import GeosModel.Proofs.Valid.NestBridge
import GeosModel.Generated.ValidRingNested
/-!
# C05 — the regenerated `PolygonTopologyAnalyzer::isRingNested` (with all helpers) is the model the CORE theorems are about

`Generated/ValidRingNested.lean` is rewritten from `src/operation/valid/PolygonTopologyAnalyzer.cpp` (and `CoordinateXY::equals2D`) by
`translate/cxx2lean.py` (spec `valid_ring_nested`) on every run: `isRingNested`, `findNonEqualVertex`, `isIncidentSegmentInRing`,
`intersectingSegIndex`, `findRingVertexPrev`, `findRingVertexNext`, `ringIndexPrev`, `ringIndexNext` — including the three `while`
loops (generated with fuel = number of ring points; running out of fuel is the exception "while: out of fuel") and the search loop.
Instantiation: coordinate sequences and rings are lists of `Kernel.Pt` (ALL of them), `PointLocation::isOnSegment / locateInRing` are
C07's models `RayCount.isOnSegment / locatePointInRing`, `Orientation::isCCWArea` and `PolygonNodeTopology::isInteriorSegment` are the
models of `Model/Valid` (the latter regenerated and bridged in `Props/C05Gen.lean`).  Each theorem states the regenerated function
as `ok` of the hand-written model of `Model/Valid/RingNested.lean`, with the exact conditions under which the C++ throws (point not
on the ring) or would not terminate (every vertex of the ring equals the node).
-/
namespace GeosModel.C05GenNest
open GeosModel GeosModel.Kernel GeosModel.Valid GeosModel.Generated GeosModel.ValidGen

/-- `PointLocation::isOnSegment` on regenerated coordinates (C07's model) -/
abbrev onSeg (p a b : Cxx.XY Int) : Bool := RayCount.isOnSegment (pt p) (pt a) (pt b)
/-- `PointLocation::locateInRing` on regenerated coordinates (C07's model) -/
abbrev locRing (p : Cxx.XY Int) (s : List Pt) : Loc := RayCount.locatePointInRing (pt p) s
/-- `PolygonNodeTopology::isInteriorSegment` on regenerated coordinates -/
abbrev intSeg (n a0 a1 b : Cxx.XY Int) : Bool := Valid.isInteriorSegment (pt n) (pt a0) (pt a1) (pt b)

theorem gen_equals2D_eq (a b : Pt) : ValidRingNested.equals2D a.x a.y (xy b) = (a == b) := by
  unfold ValidRingNested.equals2D
  apply Bool.eq_iff_iff.mpr
  rw [Pt.beq_iff]
  cases a; cases b
  simp [Cxx.ne]

/-- the same on a vertex as the loops hold it -/
theorem equals2D_pt (v : Cxx.XY Int) (b : Pt) : ValidRingNested.equals2D v.x v.y (xy b) = (pt v == b) :=
  gen_equals2D_eq (pt v) b

theorem gen_ringIndexPrev_eq (ring : List Pt) (i : Nat) :
    ValidRingNested.ringIndexPrev List.length ring i = Valid.ringIndexPrev ring.length i := by
  cases i <;> rfl

theorem gen_ringIndexNext_eq (ring : List Pt) (i : Nat) :
    ValidRingNested.ringIndexNext List.length ring i = Valid.ringIndexNext ring.length i := by
  unfold ValidRingNested.ringIndexNext Valid.ringIndexNext
  by_cases h : i ≥ ring.length - 2 <;> simp [h]

/-- `findRingVertexPrev`: the vertex the model finds — unless every step of the walk (as many as the ring has points) still sits on
the node, where the C++ loop would go on -/
theorem gen_findRingVertexPrev_eq (ring : List Pt) (index : Nat) (node : Pt) :
    ValidRingNested.findRingVertexPrev List.length sAt ring index (xy node) =
      if Valid.findRingVertexPrev ring index node == node then .error "while: out of fuel"
      else .ok (xy (Valid.findRingVertexPrev ring index node)) := by
  unfold ValidRingNested.findRingVertexPrev Valid.findRingVertexPrev
  dsimp only
  rw [forIn_walk ring (fun _ v => v == node) (Valid.ringIndexPrev ring.length) (walkPrev ring node) (fun _ => rfl) (fun _ _ => rfl)]
  · simp only [ok_bind, equals2D_pt, pt_sAt]
    rfl
  · intro x s
    simp only [equals2D_pt, gen_ringIndexPrev_eq]
    cases pt s.2 == node <;> rfl

theorem gen_findRingVertexNext_eq (ring : List Pt) (index : Nat) (node : Pt) :
    ValidRingNested.findRingVertexNext List.length sAt ring index (xy node) =
      if Valid.findRingVertexNext ring index node == node then .error "while: out of fuel"
      else .ok (xy (Valid.findRingVertexNext ring index node)) := by
  unfold ValidRingNested.findRingVertexNext Valid.findRingVertexNext
  dsimp only
  rw [forIn_walk ring (fun _ v => v == node) (Valid.ringIndexNext ring.length) (walkNext ring node) (fun _ => rfl) (fun _ _ => rfl)]
  · simp only [ok_bind, equals2D_pt, pt_sAt]
    rfl
  · intro x s
    simp only [equals2D_pt, gen_ringIndexNext_eq]
    cases pt s.2 == node <;> rfl

/-- `intersectingSegIndex`: the model's index, and the C++ throws exactly where the model has `none` (the point is on no segment) -/
theorem gen_intersectingSegIndex_eq (ring : List Pt) (p : Pt) :
    ValidRingNested.intersectingSegIndex List.length sAt onSeg ring (xy p) =
      match Valid.intersectingSegIndex p 0 ring with
      | some i => .ok i
      | none => .error "IllegalArgumentException" := by
  unfold ValidRingNested.intersectingSegIndex
  dsimp only
  rw [forIn_first (fun i => if RayCount.isOnSegment p (ring.getD i default) (ring.getD (i + 1) default) then
      some (if p == ring.getD (i + 1) default then i + 1 else i) else none)]
  · rw [findSome_intersectingSegIndex p (ring.getD · default) ring 0 (fun j _ => by rw [Nat.zero_add])]
    cases Valid.intersectingSegIndex p 0 ring <;> rfl
  · intro i s
    simp only [onSeg, pt_xy, pt_sAt, show ValidRingNested.equals2D (xy p).x (xy p).y (sAt ring (i + 1)) = (p == ring.getD (i + 1) default)
      from gen_equals2D_eq p _]
    cases RayCount.isOnSegment p (ring.getD i default) (ring.getD (i + 1) default) <;>
      cases p == ring.getD (i + 1) default <;> rfl

/-- `findNonEqualVertex` on a ring of at least two points: the model's vertex; the loop always ends within the ring -/
theorem gen_findNonEqualVertex_eq (ring : List Pt) (p : Pt) (h : 2 ≤ ring.length) :
    ValidRingNested.findNonEqualVertex sAt (fun r : List Pt => r) List.length ring (xy p) = .ok (xy (Valid.findNonEqualVertex ring p)) := by
  unfold ValidRingNested.findNonEqualVertex
  dsimp only
  rw [forIn_walk ring (fun i v => v == p && decide (i < ring.length - 1)) (· + 1) (walkNE ring p) (fun _ => rfl) (fun _ _ => rfl)]
  · obtain ⟨h1, h2⟩ := findNonEqualVertex_eq_walk ring p h
    simp only [ok_bind, equals2D_pt, pt_sAt, h2, Bool.false_eq_true, if_false]
    exact congrArg (fun q => Except.ok (xy q)) h1
  · intro x s
    simp only [equals2D_pt]
    cases pt s.2 == p && decide (s.1 < ring.length - 1) <;> rfl

/-- `isIncidentSegmentInRing`: throws where the model has `none` (the point is on no segment of the ring); would not terminate when a
walk stays on the node; otherwise the model's answer -/
theorem gen_isIncidentSegmentInRing_eq (p0 p1 : Pt) (ring : List Pt) :
    ValidRingNested.isIncidentSegmentInRing List.length sAt onSeg Valid.isCCWArea intSeg (xy p0) (xy p1) ring =
      match Valid.intersectingSegIndex p0 0 ring with
      | none => .error "IllegalArgumentException"
      | some index =>
        if Valid.findRingVertexPrev ring index p0 == p0 then .error "while: out of fuel"
        else if Valid.findRingVertexNext ring index p0 == p0 then .error "while: out of fuel"
        else .ok ((Valid.isIncidentSegmentInRing p0 p1 ring).getD false) := by
  unfold ValidRingNested.isIncidentSegmentInRing Valid.isIncidentSegmentInRing Valid.cornerAt
  rw [gen_intersectingSegIndex_eq]
  cases Valid.intersectingSegIndex p0 0 ring with
  | none => rfl
  | some index =>
    simp only [ok_bind, gen_findRingVertexPrev_eq]
    cases Valid.findRingVertexPrev ring index p0 == p0
    · simp only [Bool.false_eq_true, if_false, ok_bind, gen_findRingVertexNext_eq]
      cases Valid.findRingVertexNext ring index p0 == p0
      · cases Valid.isCCWArea ring <;> rfl
      · rfl
    · rfl

/-- `isRingNested` for a test ring of at least two points: point location of its start vertex decides off the target ring; on it,
the regenerated `isIncidentSegmentInRing` of the first non-repeated test vertex -/
theorem gen_isRingNested_eq (test target : List Pt) (h : 2 ≤ test.length) :
    ValidRingNested.isRingNested List.length sAt (fun r : List Pt => r) List.length onSeg locRing Valid.isCCWArea intSeg test target =
      match RayCount.locatePointInRing (test.getD 0 default) target with
      | .exterior => .ok false
      | .interior => .ok true
      | .boundary => ValidRingNested.isIncidentSegmentInRing List.length sAt onSeg Valid.isCCWArea intSeg (xy (test.getD 0 default))
          (xy (Valid.findNonEqualVertex test (test.getD 0 default))) target := by
  unfold ValidRingNested.isRingNested
  have hf := gen_findNonEqualVertex_eq test (test.getD 0 default) h
  have hs : sAt test 0 = xy (test.getD 0 default) := rfl
  simp only [hs, hf, locRing, pt_xy, ok_bind]
  cases RayCount.locatePointInRing (test.getD 0 default) target <;> simp

/-- **the regenerated `isRingNested` returns the model's answer**: whenever the model answers `some b` and neither corner walk stays on
the start vertex (the target ring has a vertex different from it), the code generated from the current source returns `b` -/
theorem gen_isRingNested_ok (test target : List Pt) (h : 2 ≤ test.length) (b : Bool) (hm : Valid.isRingNested test target = some b)
    (hwalk : ∀ index, Valid.intersectingSegIndex (test.getD 0 default) 0 target = some index →
      Valid.findRingVertexPrev target index (test.getD 0 default) ≠ test.getD 0 default ∧
      Valid.findRingVertexNext target index (test.getD 0 default) ≠ test.getD 0 default) :
    ValidRingNested.isRingNested List.length sAt (fun r : List Pt => r) List.length onSeg locRing Valid.isCCWArea intSeg test target = .ok b := by
  rw [gen_isRingNested_eq test target h]
  cases test with
  | nil => simp at h
  | cons p0 rest =>
    simp only [Valid.isRingNested] at hm
    simp only [List.getD_cons_zero] at hwalk ⊢
    cases hl : RayCount.locatePointInRing p0 target with
    | exterior => rw [hl] at hm; cases hm; rfl
    | interior => rw [hl] at hm; cases hm; rfl
    | boundary =>
      rw [hl] at hm
      simp only at hm ⊢
      rw [gen_isIncidentSegmentInRing_eq]
      cases hi : Valid.intersectingSegIndex p0 0 target with
      | none => simp [Valid.isIncidentSegmentInRing, Valid.cornerAt, hi] at hm
      | some index =>
        obtain ⟨w1, w2⟩ := hwalk index hi
        have w1' : (Valid.findRingVertexPrev target index p0 == p0) = false := by simpa using w1
        have w2' : (Valid.findRingVertexNext target index p0 == p0) = false := by simpa using w2
        simp [w1', w2', hm]

/-! non-vacuity: the regenerated code run on the arch `archA` (the same ring as `C05.archA`, repeated here; a ring outside it that touches it, start vertex on the arch) and
on a point that is on no segment (the throwing case cannot be reached through `isRingNested`: shown on `intersectingSegIndex`) -/
def archA : List Pt := [⟨0, 10⟩, ⟨5, 20⟩, ⟨15, 20⟩, ⟨20, 10⟩, ⟨25, 20⟩, ⟨35, 20⟩, ⟨40, 10⟩, ⟨45, 20⟩, ⟨45, -10⟩, ⟨55, -10⟩,
  ⟨55, 30⟩, ⟨-15, 30⟩, ⟨-15, -10⟩, ⟨-5, -10⟩, ⟨-5, 20⟩, ⟨0, 10⟩]
example : ValidRingNested.isRingNested List.length sAt (fun r : List Pt => r) List.length onSeg locRing Valid.isCCWArea intSeg
    [⟨0, 10⟩, ⟨40, 10⟩, ⟨40, 0⟩, ⟨0, 0⟩, ⟨0, 10⟩] archA = .ok false := by
  apply gen_isRingNested_ok _ _ (by decide) false (by decide +kernel)
  intro index hi
  have : index = 0 := by
    have h0 : Valid.intersectingSegIndex (⟨0, 10⟩ : Pt) 0 archA = some 0 := by decide +kernel
    simp only [List.getD_cons_zero] at hi
    rw [h0] at hi; exact (Option.some.inj hi).symm
  subst this; decide +kernel
example : ValidRingNested.intersectingSegIndex List.length sAt onSeg archA (xy ⟨1, 1⟩) = .error "IllegalArgumentException" := by
  rw [gen_intersectingSegIndex_eq]; decide +kernel

end GeosModel.C05GenNest
