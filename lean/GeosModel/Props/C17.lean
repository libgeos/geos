import GeosModel.Proofs.Fix.Dispatch
import GeosModel.Model.Fix.Spec
import GeosModel.Model.Fix.Cxx
/-!
# C17 — MakeValid always returns a valid geometry and preserves valid input

SPEC+C with a CORE (DESIGN.md section 3, C17).  The repair algorithms (noding, polygonization, buffer by zero,
overlay) are not modelled.  What is proved here is about the CORE model `Model/Fix/Dispatch.lean` of
`GeometryFixer`'s control flow — the type dispatch and the keep-collapsed decision table — for *every* input shape:

* `fix_dispatch_total`: every constructor (empties and nested collections included) is handled and the result type
  obeys the table `allowed` (point→Point; line→LineString, or Point when collapses are kept; ring→LinearRing /
  LineString / Point; polygon→Polygon / MultiPolygon, or LineString / Point when kept; collections element-wise);
* `fix_dim_le`: the dimension of the result type never exceeds the input's;
* `fix_no_collapse`: without keep-collapsed the result has exactly the input's dimension class (a collapse becomes an
  EMPTY of the input's kind, never a lower-dimensional geometry);
* `collapse_kept_iff`: a collapsed line / polygon comes back lower-dimensional exactly when requested;
* `fix_collection_keeps`, `fix_nest`, `collapse_in_collection_kept_iff`: the elements of a GeometryCollection are fixed
  with the caller's keep-collapsed setting, at any nesting depth (the model follows the /repo commit "fix:
  GeometryFixer::fixCollection must hand keepCollapsed down to the elements"; with the static `fix` called on the elements,
  collapses inside collections are never kept — finding F5; `fixDropping_false`, `fixDropping_atomic`,
  `collection_dropped_keep_collapsed` describe that variant);
* `buildRoute_isSome_iff`: which inputs the linework method's `build` has a routine for;
* `fix_empty_atomic`, `fix_empty_polygon_stable`: EMPTY atomic inputs come back as the EMPTY of their own type with keep on
  or off (for the polygon the model follows /repo commit 1fc4024a4; without it keep-collapsed turns `POLYGON EMPTY` into
  `LINESTRING EMPTY`, which makes the structure method non-idempotent — finding F4).

The contract itself (output valid by the C05 reference, dimension / envelope monotone, valid input topologically equal
by the C01 reference matrix, no vertex lost (linework), area = documented region (structure), idempotence) is evaluated
exactly by the driver on every generated case: correspondence only.  A few internal-consistency lemmas of the
contract's predicates are proved at the end.
-/
namespace GeosModel.C17
open GeosModel.Fix GeosModel.Kernel

/-! ## the result-type rule -/

theorem mem_allowed_point (keep : Bool) : Ty.point ∈ allowed keep .point := by simp [allowed]

/-- areal oracle hypothesis: the union of fixed *areal* elements is a Polygon or MultiPolygon -/
def UnionAreal : Shape → Prop
  | .multiPolygon _ u => u = .polygon ∨ u = .multiPolygon
  | _ => True

/-- **fix_dispatch_total**: for every shape (every constructor; empty flags and element lists arbitrary) the fixer
returns, and the type of what it returns is one of the types the table allows for the input's type -/
theorem fix_dispatch_total (keep : Bool) (s : Shape) (h : UnionAreal s) : (fix keep s).ty ∈ allowed keep s.ty := by
  -- per constructor: every result the element function can give (`Proofs/Fix/Dispatch`: `…_cases`, `…_ty`) has its type in the row
  cases s with
  | point e v => cases e <;> cases v <;> exact List.mem_cons_self
  | line e c =>
    simp only [fix, Shape.ty, allowed]
    rcases fixLineString_ty keep e c with h1 | ⟨hk, h1⟩ <;> simp_all
  | ring e c v =>
    simp only [fix, Shape.ty, allowed]
    rcases ringElem_cases keep e v c with h1 | h1 | h1 | ⟨hk, h1⟩ <;> rw [h1] <;> simp [Res.ty, *]
  | polygon se a c n w =>
    simp only [fix, Shape.ty, allowed]
    rcases polyElem_cases keep se a w c n with h1 | h1 | h1 | h1 | ⟨hk, h1 | h1⟩ <;> rw [h1] <;> simp [Res.ty, *]
  | multiPoint ps => cases ps <;> exact List.mem_cons_self
  | multiLine ls =>
    simp only [Shape.ty, allowed]
    rcases multiLine_ty keep ls with h1 | h1 | ⟨rfl, h1 | h1⟩ <;> simp [h1]
  | multiPolygon ps u =>
    -- the empty MultiPolygon, or the type `u` of the union, which `h` says is Polygon or MultiPolygon
    simp only [fix, Shape.ty, allowed]
    split_ifs <;> rcases h with h | h <;> simp [Res.ty, h]
  | collection gs => cases gs <;> exact List.mem_cons_self

/-- a GeometryCollection comes back as a GeometryCollection of the element results, each fixed with the caller's
keep-collapsed setting -/
theorem fix_collection_keeps (keep : Bool) (gs : List Shape) (h : gs ≠ []) :
    fix keep (.collection gs) = .coll (gs.map (fix keep)) := by
  simp only [fix]
  simp [List.isEmpty_eq_false_iff.2 h, fixList_eq_map]

/-- `n` GeometryCollections around a shape / a result -/
def nest : Nat → Shape → Shape
  | 0, s => s
  | n + 1, s => .collection [nest n s]
def nestRes : Nat → Res → Res
  | 0, r => r
  | n + 1, r => .coll [nestRes n r]

/-- the fixer commutes with wrapping in collections: at any nesting depth an element is fixed exactly as on its own, with
the setting the caller asked for -/
theorem fix_nest (keep : Bool) (n : Nat) (s : Shape) : fix keep (nest n s) = nestRes n (fix keep s) := by
  induction n with
  | zero => rfl
  | succ k ih => simp [nest, nestRes, fix_collection_keeps, ih]

/-- **Collapses inside collections are kept exactly when requested, at any nesting depth**: a collapsed line (one point
left after cleaning) inside `n` nested GeometryCollections comes back as a Point when keep-collapsed is on, and as the
empty LineString when it is off; likewise a polygon whose shell has no area comes back as its collapsed line / the empty
polygon. -/
theorem collapse_in_collection_kept_iff (keep : Bool) (n : Nat) :
    fix keep (nest n (.line false 1)) = nestRes n (if keep then .atom .point false else .atom .lineString true)
    ∧ fix keep (nest n (.polygon false .empty 3 0 .empty))
        = nestRes n (if keep then .atom .lineString false else .atom .polygon true) := by
  constructor <;> rw [fix_nest] <;> cases keep <;> rfl

example : fix true (.collection [.collection [.line false 1], .line false 3])
    = .coll [.coll [.atom .point false], .atom .lineString false] := rfl

/-! ## the linework method's dispatch (`MakeValid::build`; regenerated and bridged in `Props/C17GenMV.lean`) -/

/-- `build` has a routine for an input exactly when the input is valid or is not a Point, MultiPoint or LinearRing: on an
invalid geometry of one of these three types the linework method throws instead of returning a geometry — the property's
"every structurally well-formed input" is false of it (known finding; the structure method has no such gap,
`C17Gen.gen_getResult_total`) -/
theorem buildRoute_isSome_iff (valid : Bool) (t : Ty) :
    (buildRoute valid t).isSome ↔ (valid = true ∨ (t ≠ .point ∧ t ≠ .multiPoint ∧ t ≠ .linearRing)) := by
  cases valid <;> cases t <;> simp [buildRoute]

/-- a valid input is cloned whatever its type (so "a valid input comes back topologically equal" cannot fail in `build` itself) -/
theorem buildRoute_valid (t : Ty) : buildRoute true t = some .clone := rfl

example : buildRoute false .linearRing = none ∧ buildRoute false .polygon = some .poly := ⟨rfl, rfl⟩

/-! ## `fixDropping`: keep-collapsed not handed down into collections (regression reference)

`fixDropping` is `fix` with the elements of a GeometryCollection fixed by the static `fix(elem)`, i.e. with keep-collapsed off
(finding F5).  It agrees with `fix`
whenever keep-collapsed is off and on every input that is not a GeometryCollection, and differs on
`GEOMETRYCOLLECTION(LINESTRING(3 4, 3 4))` with keep-collapsed on — the witness is replayed on the implementation on
every run (driver clause `keep-collapsed`, replays/known-C17-collection-drops-keepcollapsed.json must come out `ok`). -/
mutual
  theorem fixDropping_false : ∀ s : Shape, fixDropping false s = fix false s
    | .collection gs => by simp only [fixDropping, fix, fixDroppingList_false gs]
    | .point .. | .line .. | .ring .. | .polygon .. | .multiPoint _ | .multiLine _ | .multiPolygon .. => by simp only [fixDropping]
  theorem fixDroppingList_false : ∀ gs : List Shape, fixDroppingList gs = fixList false gs
    | [] => by simp only [fixDroppingList, fixList]
    | g :: gs => by simp only [fixDroppingList, fixList, fixDropping_false g, fixDroppingList_false gs]
end

theorem fixDropping_atomic (keep : Bool) (s : Shape) (h : s.ty ≠ .collection) : fixDropping keep s = fix keep s := by
  cases s with
  | collection gs => exact absurd rfl h
  | _ => rfl

/-- `fixDropping` drops a collapsed line inside a collection although keep-collapsed is on; `fix` keeps it -/
theorem collection_dropped_keep_collapsed :
    fixDropping true (.collection [.line false 1]) = .coll [.atom .lineString true]
    ∧ fix true (.collection [.line false 1]) = .coll [.atom .point false]
    ∧ fix true (.line false 1) = .atom .point false := ⟨rfl, rfl, rfl⟩

/-! ## the dimension of the result type; the keep-collapsed table -/

/-- the table never raises the dimension -/
theorem allowed_dim_le (keep : Bool) (ty t : Ty) (hc : ty ≠ .collection) (h : t ∈ allowed keep ty) : t.dim ≤ ty.dim := by
  have row : (allowed keep ty).all (fun t => t.dim ≤ ty.dim) = true := by revert hc; cases keep <;> cases ty <;> decide
  exact of_decide_eq_true (List.all_eq_true.1 row t h)

/-- without keep-collapsed the table only contains types of the input's dimension -/
theorem allowed_false_dim_eq (ty t : Ty) (hc : ty ≠ .collection) (h : t ∈ allowed false ty) : t.dim = ty.dim := by
  have row : (allowed false ty).all (fun t => t.dim = ty.dim) = true := by revert hc; cases ty <;> decide
  exact of_decide_eq_true (List.all_eq_true.1 row t h)

/-- the dimension of the result's type never exceeds the dimension of the input's type -/
theorem fix_dim_le (keep : Bool) (s : Shape) (h : UnionAreal s) (hc : s.ty ≠ .collection) :
    (fix keep s).ty.dim ≤ s.ty.dim :=
  allowed_dim_le keep s.ty _ hc (fix_dispatch_total keep s h)

/-- **collapses are not kept unless requested**: with keep-collapsed off the result type has the input's dimension -/
theorem fix_no_collapse (s : Shape) (h : UnionAreal s) (hc : s.ty ≠ .collection) :
    (fix false s).ty.dim = s.ty.dim :=
  allowed_false_dim_eq s.ty _ hc (fix_dispatch_total false s h)

/-- **collapses are kept exactly when requested** (the decision table): a non-empty line whose cleaned coordinates
are a single point, and a polygon whose shell has no area but `c ≥ 1` clean coordinates -/
theorem collapse_kept_iff (keep : Bool) :
    fix keep (.line false 1) = (if keep then .atom .point false else .atom .lineString true) ∧
    (∀ c n w, 2 ≤ c → fix keep (.polygon false .empty c n w) = (if keep then .atom .lineString false else .atom .polygon true)) ∧
    (∀ n w, fix keep (.polygon false .empty 1 n w) = (if keep then .atom .point false else .atom .polygon true)) ∧
    fix keep (.ring false 1 false) = (if keep then .atom .point false else .atom .linearRing true) ∧
    fix keep (.ring false 3 false) = (if keep then .atom .lineString false else .atom .linearRing true) := by
  cases keep
  · exact ⟨rfl, fun _ _ _ _ => rfl, fun _ _ => rfl, rfl, rfl⟩
  · refine ⟨rfl, fun c n w hc => ?_, fun _ _ => rfl, rfl, rfl⟩
    obtain ⟨k, rfl⟩ := Nat.exists_eq_add_of_le' hc
    rfl

/-- empty atomic inputs come back as the EMPTY of their own type, with or without keep-collapsed -/
theorem fix_empty_atomic (keep : Bool) (v : Bool) (c n : Nat) (a w : Area) :
    fix keep (.point true v) = .atom .point true ∧ fix keep (.line true c) = .atom .lineString true ∧
    fix keep (.ring true c v) = .atom .linearRing true ∧ fix keep (.polygon true .empty c n w) = .atom .polygon true := by
  refine ⟨?_, ?_, ?_, ?_⟩ <;> cases keep <;> simp [fix, fixPointElement, fixLineString, fixLineStringElement, fixLinearRingElement, fixPolygonElement]

/-- **idempotence of the type dispatch on what the fixer itself returns for polygons** (finding F4; the model follows
/repo commit 1fc4024a4): an empty polygon stays `POLYGON EMPTY` with keep-collapsed on or off -/
theorem fix_empty_polygon_stable (keep : Bool) : fix keep (.polygon true .empty 0 0 .empty) = .atom .polygon true :=
  (fix_empty_atomic keep false 0 0 .empty .empty).2.2.2

/-! non-vacuity -/
example : fix true (.multiLine [.line false 1, .line false 3]) = .coll [.atom .point false, .atom .lineString false] := rfl
example : fix false (.multiLine [.line false 1, .line false 3]) = .atom .lineString false := rfl
example : fix true (.collection [.line false 1]) = .coll [.atom .point false] := rfl
example : fix false (.multiPolygon [.polygon false .polygon 5 0 .polygon, .polygon false .empty 3 0 .empty] .polygon) = .atom .polygon false := rfl

/-! ## internal consistency of the contract's predicates -/

/-- envelope containment is reflexive and monotone in the tolerance -/
theorem envWithin_refl (e : Option (Int × Int × Int × Int)) : envWithin 0 e e = true := by
  cases e with
  | none => rfl
  | some v => simp [envWithin]

theorem envWithin_mono (t t' : Int) (h : t ≤ t') (a b : Option (Int × Int × Int × Int)) :
    envWithin t a b = true → envWithin t' a b = true := by
  cases a with
  | none => intro; rfl
  | some i =>
    cases b with
    | none => simp [envWithin]
    | some o =>
      simp only [envWithin, Bool.and_eq_true, decide_eq_true_eq]
      omega

/-- a vertex of the output is covered by the output: an endpoint of a segment is within any tolerance of it -/
theorem nearSeg_endpoint (tol : Int) (h : 0 ≤ tol) (a b : Pt) : nearSeg tol a b a = true := by
  unfold nearSeg
  have h0 : sqDist a a = 0 := by unfold sqDist; simp
  have hd : dot a b a = 0 := by unfold dot; simp
  have ht : 0 ≤ tol * tol := Int.mul_nonneg h h
  by_cases hl : (sqDist a b == 0) = true
  · simp [hl, h0, ht]
  · simp [hl, hd, h0, ht]

/-- the dimension of a flattened geometry is −1 exactly when it has no component -/
theorem parts_dim_neg (p : Parts) : p.dim = -1 ↔ (p.polys = [] ∧ p.lines = [] ∧ p.pts = []) := by
  unfold Parts.dim
  cases hp : p.polys <;> cases hl : p.lines <;> cases hq : p.pts <;> simp

end GeosModel.C17
