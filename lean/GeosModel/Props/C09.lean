import GeosModel.Proofs.WKB.Top
import GeosModel.Model.WKB.Cxx
/-!
# C09 — WKB and HEX writing followed by reading is the identity, bit for bit

Model: `GeosModel.WKB.write` / `read` (`Model/WKB/Write.lean`, `Read.lean`), a function-by-function
transcription of `WKBWriter.cpp` / `WKBReader.cpp` / `ByteOrderValues.cpp` over the shared geometry
value `GeosModel.G` (ordinates are 64-bit patterns, so "bit-identical" is equality).  The model is tied
to the library built from the current tree by the byte-exact streams of `harness/c09.cpp`
(`checks/C09.py`).

Every `theorem` below is an obligation of the check.  Quantification is over *all* trees (arbitrary
nesting and sizes; proofs are by mutual structural induction on `G` / `List G`) and *all* writer
configurations.  Hypotheses:

* `WFG arc` — the invariants the thirteen geometry constructors enforce (what every `Geometry` object
            satisfies); `arc` is the oracle for the one check that is floating-point arithmetic (the
            circular-string envelope computation) and every theorem holds for every oracle,
* `Fits`  — element counts fit the 32-bit count word,
* `sridFits` — the SRID is a C `int`.

Main results
* `read_write_canon`   what `read (write c g)` is, for every `c` — the value `canon c g`;
* `read_write_id`      the instance for four output dimensions;
* `read_write_lowdim`  lower output dimension = exactly the excess ordinates dropped from that value;
* `roundtrip_plain`    on "plain" inputs `canon` coincides with the property's own promise `docSpec`
                       (only the documented exceptions), i.e. the property's sentence verbatim;
                       `roundtrip_plain_dim4` spells it out for four dimensions;
* `C09_full_false`     the property's sentence for *all* well-formed inputs is false of the code
                       (polygon with XYZ shell and XY hole) — hence `roundtrip_plain` is the `_partial`
                       form and `read_write_canon` the exact description of the deviation;
* `write_order_agree`, `hex_roundtrip`, `readHex_writeHex`, `rewrite_fixpoint`
  (+ `rewrite_fixpoint_needs_hyp`: re-writing does not reproduce the bytes of a NaN/NaN point that carries
  other bits than the canonical NaN);
* `compound_empty_section_roundtrip`  COMPOUNDCURVE(EMPTY) round-trips (the model follows /repo 1dd07a8f8);
* `writeG_header`, `readCoordSeq_guard`, `readBody_guard`  the pieces the translator regenerates (`Props/C09Gen.lean`) are
  the ones `write` / `read` are made of (last section).
-/
namespace GeosModel.C09
open GeosModel GeosModel.WKB

/-- the hypotheses of the round-trip theorems -/
def Valid (arc : ArcOracle) (g : Geom) : Prop := WFG arc g.g = true ∧ Fits g.g = true ∧ sridFits g.srid = true

instance (arc : ArcOracle) (g : Geom) : Decidable (Valid arc g) := by unfold Valid; infer_instance

/-- Everything below holds for *every* arc oracle (see `ArcOracle`: which coordinate values make the
`CircularString` constructor's envelope computation throw is floating-point arithmetic of the library; the
theorems only use that it is a function of the X/Y bit patterns, which the round trip preserves). -/
example : ArcOracle := fun _ => false

/-! ## positive results -/

/-- **Round trip, every configuration.**  Reading the bytes written for a well-formed geometry
succeeds and returns `canon c g`: SRID kept iff extended flavour with `includeSRID`; every
linear-ring object is a line string; a point with NaN X and Y is the empty point; every sequence
carries the Z/M flags of the unit it was written in (its own, or — for polygon rings and
compound-curve sections — the union over its parent), cut down to the output dimension. -/
theorem read_write_canon (arc : ArcOracle) (c : Cfg) (g : Geom) (h : Valid arc g) :
    read arc (write c g) = .ok (canon c g) :=
  read_write c g h.1 h.2.1 h.2.2

/-- **Four output dimensions**, both byte orders, both flavours, SRID on/off. -/
theorem read_write_id (arc : ArcOracle) (o : Order) (f : Flavor) (s : Bool) (g : Geom) (h : Valid arc g) :
    read arc (write ⟨4, o, f, s⟩ g) = .ok (canon ⟨4, o, f, s⟩ g) :=
  read_write_canon arc _ g h

/-- **Lower output dimension** = the four-dimensional result with exactly the excess ordinates of every
sequence dropped (M first, then Z), for *every* `d` (the writer admits 2, 3, 4). -/
theorem read_write_lowdim (arc : ArcOracle) (d : Nat) (o : Order) (f : Flavor) (s : Bool) (g : Geom)
    (h : Valid arc g) :
    read arc (write ⟨d, o, f, s⟩ g) = .ok (dropDims d (canon ⟨4, o, f, s⟩ g)) := by
  rw [read_write_canon arc _ g h]
  simp only [canon, dropDims, sridOut, dropDims_canonG4 d g.g h.1]

/-- the property's sentence, for every configuration -/
def C09_full : Prop :=
  ∀ (arc : ArcOracle) (c : Cfg) (g : Geom), Valid arc g → read arc (write c g) = .ok (docSpec c g)

/-- **The property's sentence on plain inputs** (`_partial` form of `C09_full`): if the rings of every
polygon / sections of every compound curve share their Z/M flags, empty (curve) polygons are the
factory's, and sequences are canonical, the round trip returns the input with only the documented
exceptions applied and exactly the excess ordinates dropped. -/
theorem roundtrip_plain (arc : ArcOracle) (c : Cfg) (g : Geom) (h : Valid arc g) (hp : Plain g.g = true) :
    read arc (write c g) = .ok (docSpec c g) := by
  rw [read_write_canon arc c g h]
  simp only [canon, docSpec, dropDims, canonG_plain c.dims g.g hp h.1]

/-- … and with four output dimensions nothing at all is dropped: type tree, Z/M flags and every ordinate
bit pattern are those of the input (modulo NaN/NaN point = empty point, ring object = line string). -/
theorem roundtrip_plain_dim4 (arc : ArcOracle) (o : Order) (f : Flavor) (s : Bool) (g : Geom) (h : Valid arc g)
    (hp : Plain g.g = true) :
    read arc (write ⟨4, o, f, s⟩ g) = .ok ⟨sridOut ⟨4, o, f, s⟩ g.srid, docG g.g⟩ := by
  rw [roundtrip_plain arc _ g h hp]
  simp only [docSpec, dropDims, dropDims4_docG g.g hp]

/-- **The two byte orders encode the same value.** -/
theorem write_order_agree (arc : ArcOracle) (d : Nat) (f : Flavor) (s : Bool) (g : Geom) (h : Valid arc g) :
    read arc (write ⟨d, .le, f, s⟩ g) = read arc (write ⟨d, .be, f, s⟩ g) := by
  rw [read_write_canon arc _ g h, read_write_canon arc _ g h]
  rfl

/-- **HEX** decoding inverts HEX encoding (for every byte string) … -/
theorem hex_roundtrip (bs : List UInt8) : hexDecode (hexEncode bs) = some bs :=
  hexDecode_hexEncode bs

/-- … hence HEX and binary encode the same value (no hypothesis on the geometry). -/
theorem readHex_writeHex (arc : ArcOracle) (c : Cfg) (g : Geom) :
    readHex arc (writeHex c g) = read arc (write c g) := by
  simp [readHex, writeHex, hexDecode_hexEncode]

/-- **Re-writing a re-read geometry reproduces the same bytes**, provided every point with NaN X and Y
is the canonical all-NaN coordinate (what the writer itself emits for POINT EMPTY). -/
theorem rewrite_fixpoint (arc : ArcOracle) (c : Cfg) (g g' : Geom) (h : Valid arc g) (hn : NanPtCanon g.g = true)
    (hr : read arc (write c g) = .ok g') : write c g' = write c g := by
  rw [read_write_canon arc c g h] at hr
  cases hr
  exact write_canon c g h.1 hn

/-! ## negative results (each witness is replayed on the implementation by `checks/C09.py`) -/

/-- polygon with an XYZ shell and an XY hole -/
def mixedPolygon : Geom :=
  ⟨0, .polygon ⟨true, false, [⟨0, 0, 0x4014000000000000, nanBits⟩, ⟨0x3ff0000000000000, 0, 0x4014000000000000, nanBits⟩,
        ⟨0, 0x3ff0000000000000, 0x4014000000000000, nanBits⟩, ⟨0, 0, 0x4014000000000000, nanBits⟩]⟩
      [⟨false, false, [⟨0, 0, nanBits, nanBits⟩, ⟨0x3fe0000000000000, 0, nanBits, nanBits⟩,
        ⟨0, 0x3fe0000000000000, nanBits, nanBits⟩, ⟨0, 0, nanBits, nanBits⟩]⟩]⟩

/-- first hole's Z flag (an observable that separates `canon` from `docSpec`) -/
def firstHoleHasZ (g : Geom) : Bool :=
  match g.g with
  | .polygon _ (h :: _) => h.hasZ
  | _ => false

theorem mixedPolygon_valid (arc : ArcOracle) : Valid arc mixedPolygon := ⟨by rfl, by rfl, by rfl⟩

/-- **The property's sentence is false of the code**: the XY hole of `mixedPolygon` comes back as XYZ
(with NaN Z), with four output dimensions, in every flavour / byte order. -/
theorem C09_full_false : ¬ C09_full := by
  intro h
  have h1 := h (fun _ => false) ⟨4, .le, .ext, false⟩ mixedPolygon (mixedPolygon_valid _)
  rw [read_write_canon _ _ _ (mixedPolygon_valid _)] at h1
  have h2 : firstHoleHasZ (canon ⟨4, .le, .ext, false⟩ mixedPolygon)
      = firstHoleHasZ (docSpec ⟨4, .le, .ext, false⟩ mixedPolygon) := by
    injection h1 with h1; rw [h1]
  revert h2
  decide

/-- POINT Z (NaN NaN 5) -/
def nanPoint : Geom := ⟨0, .point ⟨true, false, [⟨nanBits, nanBits, 0x4014000000000000, nanBits⟩]⟩⟩

/-- **`rewrite_fixpoint` needs its hypothesis**: the NaN/NaN point is read back as POINT Z EMPTY, and
re-writing that gives `NaN NaN NaN`, not `NaN NaN 5`. -/
theorem rewrite_fixpoint_needs_hyp (arc : ArcOracle) :
    ∃ (c : Cfg) (g g' : Geom), Valid arc g ∧ read arc (write c g) = .ok g' ∧ write c g' ≠ write c g := by
  have hv : Valid arc nanPoint := ⟨by rfl, by rfl, by rfl⟩
  exact ⟨⟨4, .le, .ext, false⟩, nanPoint, canon ⟨4, .le, .ext, false⟩ nanPoint, hv,
    read_write_canon arc _ _ hv, by decide⟩

/-- COMPOUNDCURVE (EMPTY): a compound curve whose only section is an empty line string (accepted by
the constructor), written in 18 bytes.  `minMemSize` asks 9 bytes per section (the model follows /repo 1dd07a8f8; with 16 per
section, an empty section's 9 bytes would be rejected), so this is an ordinary instance of `read_write_canon`. -/
def emptySectionCurve : Geom := ⟨0, .compoundCurve [.lineString ⟨false, false, []⟩]⟩

theorem compound_empty_section_roundtrip (arc : ArcOracle) (o : Order) (f : Flavor) (s : Bool) :
    read arc (write ⟨4, o, f, s⟩ emptySectionCurve) = .ok emptySectionCurve := by
  have hv : Valid arc emptySectionCurve := ⟨by rfl, by rfl, by rfl⟩
  rw [read_write_canon arc _ _ hv]
  cases f <;> cases s <;> rfl

/-! ## non-vacuity -/

set_option maxRecDepth 8000 in
/-- a nested collection with a point (−0, +Inf, Z = a signalling-NaN pattern), an empty point, a line
string with a denormal, a polygon with a hole, a multi-curve holding a compound curve and a circular
string, a curve polygon with a linear-ring shell, and an inner collection -/
def sample : Geom :=
  ⟨4326, .collection [
    .point ⟨true, false, [⟨0x8000000000000000, 0x7ff0000000000000, 0x7ff0000000000001, nanBits⟩]⟩,
    .point ⟨true, false, []⟩,
    .lineString ⟨true, false, [⟨0x0000000000000001, 0, 0x3ff0000000000000, nanBits⟩, ⟨0x3ff0000000000000, 0xfff0000000000000, 0, nanBits⟩]⟩,
    .polygon ⟨true, false, [⟨0, 0, 0, nanBits⟩, ⟨0x4010000000000000, 0, 0, nanBits⟩, ⟨0, 0x4010000000000000, 0, nanBits⟩, ⟨0x8000000000000000, 0, 0, nanBits⟩]⟩
      [⟨true, false, [⟨0x3ff0000000000000, 0x3ff0000000000000, 0, nanBits⟩, ⟨0x4000000000000000, 0x3ff0000000000000, 0, nanBits⟩,
        ⟨0x3ff0000000000000, 0x4000000000000000, 0, nanBits⟩, ⟨0x3ff0000000000000, 0x3ff0000000000000, 0, nanBits⟩]⟩],
    .multiCurve [
      .compoundCurve [.lineString ⟨true, false, [⟨0, 0, 0, nanBits⟩, ⟨0x3ff0000000000000, 0, 0, nanBits⟩]⟩,
        .circularString ⟨true, false, [⟨0x3ff0000000000000, 0x8000000000000000, 0, nanBits⟩, ⟨0x4000000000000000, 0x3ff0000000000000, 0, nanBits⟩, ⟨0x4008000000000000, 0, 0, nanBits⟩]⟩],
      .circularString ⟨true, false, []⟩],
    .multiSurface [.curvePolygon [.linearRing ⟨true, false, [⟨0, 0, 0, nanBits⟩, ⟨0x3ff0000000000000, 0, 0, nanBits⟩, ⟨0, 0x3ff0000000000000, 0, nanBits⟩, ⟨0, 0, 0, nanBits⟩]⟩]],
    .collection [.multiPoint [.point ⟨true, false, [⟨nanBits, nanBits, nanBits, nanBits⟩]⟩], .multiLineString [], .multiPolygon []]]⟩

/-- the oracle under which no arc envelope computation throws -/
def arc0 : ArcOracle := fun _ => false

example : Valid arc0 sample := by decide
example : Plain sample.g = true := by decide
example : NanPtCanon sample.g = true := by decide
/-- the hypotheses are satisfiable together and the conclusions are not trivial: the encoding has 690
bytes, the little- and big-endian encodings differ from the first count word on (they share the SRID-flagged
type word's position only), yet both read back to the same value by `write_order_agree` -/
example : (write ⟨4, .le, .ext, true⟩ sample).length = 690 := by decide +kernel
example : (write ⟨4, .le, .ext, true⟩ sample).take 9 = [1, 7, 0, 0, 0xa0, 0xe6, 0x10, 0, 0] := by decide +kernel
example : (write ⟨4, .be, .ext, true⟩ sample).take 9 = [0, 0xa0, 0, 0, 7, 0, 0, 0x10, 0xe6] := by decide +kernel
example : read arc0 (write ⟨4, .be, .iso, true⟩ sample) = .ok (docSpec ⟨4, .be, .iso, true⟩ sample) :=
  roundtrip_plain arc0 _ _ (by decide) (by decide)
/-- the mixed-dimension polygon satisfies the hypotheses of `read_write_id` but is not plain -/
example : Valid arc0 mixedPolygon ∧ Plain mixedPolygon.g = false := by decide

/-! ## the pieces the translator regenerates (`Props/C09Gen.lean`) are the ones `write` / `read` are made of

`Model/WKB/Cxx.lean` names what `writeG` / `readBody` have inlined: the WKB code of a type id (`wkbCode ∘ typeIdOf`), the
per-type unit of the reader's size guard (`minUnit ∘ guardType`).  The bridge theorems prove the regenerated
`getWkbType`, `writeGeometryType`, `writeSRID`, `getOutputOrdinates`, `minMemSize`, the decoding of the type word and
the dispatch of `readGeometry` equal to `wkbCode`, `typeWord` / `header`, `outOrd`, `minUnit`, `decodeType`,
`kindOfCode`; the theorems here say that these are what the model the round-trip theorems are about uses. -/

/-- every geometry's bytes begin with the header built from `getWkbType`'s code for its type id and the ordinate set
`getOutputOrdinates` gives for its own `hasZ()/hasM()` -/
theorem writeG_header (c : Cfg) (e : Int) (g : G) :
    ∃ rest, writeG c e g = header c (outOrd c.dims (gHasZ g) (gHasM g)).1 (outOrd c.dims (gHasZ g) (gHasM g)).2
      (wkbCode (typeIdOf g)) e ++ rest := by
  cases g <;> simp only [writeG, collHeader, typeIdOf, wkbCode, gHasZ, gHasM, anySeq, List.append_assoc] <;> exact ⟨_, rfl⟩

/-- `readCoordinateSequence(n)`: `minMemSize(GEOS_LINESTRING, n)` is the model's guard -/
theorem readCoordSeq_guard (o : Order) (z m : Bool) (n : Nat) (bs : List UInt8)
    (h : bs.length < n * minUnit .lineString) : readCoordSeq o z m n bs = .error .tooSmall := by
  simp only [minUnit] at h
  simp [readCoordSeq, h]

/-- every reader function that reads a count `n` rejects the input when fewer than `n × minUnit` bytes are left, with the
unit of the type id it passes to `minMemSize` -/
theorem readBody_guard (arc : ArcOracle) (rd : Order → List UInt8 → GRes) (h : Hdr) (bs bs' : List UInt8) (n : Nat)
    (hk : h.kind ≠ .point) (hn : readU32 h.order bs = .ok (n, bs'))
    (hlt : bs'.length < n * minUnit (guardType h.kind)) : readBody arc rd h bs = .error .tooSmall := by
  cases hkd : h.kind <;> simp only [hkd, guardType, minUnit] at hlt hk
  case point => exact absurd rfl hk
  -- every other kind reads its count first and compares it with the unit of the type it hands to `minMemSize`
  all_goals simp [readBody, readSizedSeq, readColl, hkd, hn, hlt]

/-- non-vacuity: a multipoint announcing 2 elements with 41 bytes left is rejected, with 42 it is not rejected by the guard -/
example : readBody arc0 (fun _ _ => .error .eof) ⟨.multiPoint, false, false, 0, .le⟩ ([2, 0, 0, 0] ++ List.replicate 41 0)
    = .error .tooSmall := readBody_guard _ _ _ _ (List.replicate 41 0) 2 (by decide) rfl (by decide)
example : readBody arc0 (fun _ _ => .error .eof) ⟨.multiPoint, false, false, 0, .le⟩ ([2, 0, 0, 0] ++ List.replicate 42 0)
    = .error .eof := by rfl

end GeosModel.C09
