import GeosModel.Proofs.Norm.Order
import GeosModel.Generated.NormCompare
/-!
# C20 — the regenerated comparison functions are the ones normalisation is modelled with

`Generated/NormCompare.lean` is rewritten from the current C++ (`include/geos/geom/Coordinate.h`, `src/geom/Geometry.cpp`) by
`translate/cxx2lean.py` (spec `norm_compare`) on every run.  The C++ compares `double`s; the regenerated
`CoordinateXY::compareTo` / `equals2D` are generic over an ordered carrier and are instantiated here with the integer keys
`Cfg.key` of the model (Model/Norm/Normalize.lean: the value order of non-NaN doubles) and proved equal to `cmpPt` / `cmpXY` /
`eqXY`, the leaves of every comparison in `cmpK`, `scroll`, `minCoord`, `normOpenPts`.  `Geometry::compareTo` is proved equal
to `cmpHead` (sort index, emptiness rule, `compareToSameClass`) and — with the connecting hypotheses on the virtual calls —
to `cmpK`, the order `sort_is_sorted_permutation` / `sort_canonical` / `compareTo_total_preorder` of `Props/C20.lean` are about.
The numbering of `GeometrySortIndex` is checked against `Geometry.h` by the translator.

The bridges of `SimpleCurve` (spec `norm_curve`) are in `Props/C20GenCurve.lean`.
-/
namespace GeosModel.C20Gen
open GeosModel GeosModel.Norm GeosModel.Generated

/-- `CoordinateXY::compareTo` on keyed ordinates (`Cfg.key`: the order of doubles as integers) is `cmpPt` -/
theorem gen_compareToXY_eq (a b : KP) : NormCompare.compareToXY (R := Int) a.1 a.2 ⟨b.1, b.2⟩ = cmpPt a b := by
  rw [cmpPt, lex_cmpInt, cmpInt]
  simp only [NormCompare.compareToXY, Cxx.gt, Cxx.int_lt, decide_eq_true_eq, Id.run, pure]

theorem gen_equals2D_eq (a b : KP) : NormCompare.equals2D (R := Int) a.1 a.2 ⟨b.1, b.2⟩ = decide (a = b) := by
  simp only [NormCompare.equals2D, Cxx.ne, Cxx.int_eq, Id.run, pure]
  by_cases h1 : a.1 = b.1 <;> by_cases h2 : a.2 = b.2 <;> simp [Prod.ext_iff, h1, h2]

theorem gen_cmpXY_eq (c : Cfg) (a b : Coord) :
    NormCompare.compareToXY (R := Int) (c.key a.x) (c.key a.y) ⟨c.key b.x, c.key b.y⟩ = cmpXY c a b :=
  gen_compareToXY_eq (kp c a) (kp c b)

theorem gen_eqXY_eq (c : Cfg) (a b : Coord) :
    NormCompare.equals2D (R := Int) (c.key a.x) (c.key a.y) ⟨c.key b.x, c.key b.y⟩ = eqXY c a b :=
  gen_equals2D_eq (kp c a) (kp c b)

variable {G : Type}

/-- `(diff > 0) - (diff < 0)`, the sign of the difference of the sort indices -/
theorem sign_sub (x y : Int) :
    ((if decide (x - y > 0) = true then 1 else 0) - if decide (x - y < 0) = true then 1 else 0 : Int) = cmpInt x y := by
  simp only [decide_eq_true_eq]
  rcases Int.lt_trichotomy x y with h | rfl | h
  · rw [cmpInt_of_lt h, if_neg (by omega), if_pos (by omega)]; rfl
  · rw [cmpInt_self, if_neg (by omega), if_neg (by omega)]; rfl
  · rw [cmpInt_of_gt h, if_pos (by omega), if_neg (by omega)]; rfl

theorem gen_compareTo_eq (same : G → G → Bool) (idx : G → Int) (emp : G → Bool) (sc : G → G → Int) (a b : G)
    (ra rb : Nat) (hlt : idx a < idx b ↔ ra < rb) (hgt : idx b < idx a ↔ rb < ra) (hne : same a b = false) :
    NormCompare.compareTo same idx emp sc a b = cmpHead ra rb (emp a) (emp b) (sc a b) := by
  have hc : cmpInt (idx a) (idx b) = cmpInt ra rb := by
    unfold cmpInt; simp only [hlt, hgt, Int.ofNat_lt]
  rw [cmpHead_eq, ← hc]
  simp only [NormCompare.compareTo, hne, Id.run, pure, sign_sub]
  by_cases h : idx a = idx b
  · rw [h, cmpInt_self, lex_zero]; simp
  · rw [lex_of_ne (mt cmpInt_eq_zero.1 h)]; simp [h]

/-- comparing a geometry with itself (`this == geom`) gives 0 -/
theorem gen_compareTo_self (same : G → G → Bool) (idx : G → Int) (emp : G → Bool) (sc : G → G → Int) (a b : G)
    (h : same a b = true) : NormCompare.compareTo same idx emp sc a b = 0 := by
  simp [NormCompare.compareTo, h]

/-- `Geometry::compareTo`, regenerated, is the model's `cmpK` on the comparison trees: for every interpretation of the
virtual calls such that the sort indices are ordered like the model's ranks, `isEmpty` is `K.isEmpty` and
`compareToSameClass` is the class-specific part of `cmpK` -/
theorem gen_compareTo_cmpK (same : K → K → Bool) (idx : K → Int) (sc : K → K → Int) (a b : K)
    (hlt : idx a < idx b ↔ a.rank < b.rank) (hgt : idx b < idx a ↔ b.rank < a.rank) (hne : same a b = false)
    (hsc : sc a b = sameClassBody a b) :
    NormCompare.compareTo same idx K.isEmpty sc a b = cmpK a b := by
  rw [cmpK_eq_head, gen_compareTo_eq same idx K.isEmpty sc a b a.rank b.rank hlt hgt hne, hsc]

/-! non-vacuity: the hypotheses are satisfiable (rank = 3·index on leaves) and the regenerated code computes -/
example : NormCompare.compareTo (fun _ _ => false) (fun k => match k with | .leaf i _ => i | _ => 5) K.isEmpty sameClassBody
    (.leaf 0 [(1, 2)]) (.leaf 2 [(0, 0), (1, 1)]) = cmpK (.leaf 0 [(1, 2)]) (.leaf 2 [(0, 0), (1, 1)]) := by decide +kernel
example : NormCompare.compareToXY (R := Int) 1 5 ⟨1, 7⟩ = -1 ∧ NormCompare.equals2D (R := Int) 1 5 ⟨1, 5⟩ = true := by decide +kernel

end GeosModel.C20Gen
