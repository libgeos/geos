import GeosModel.Proofs.Valid.GenBridge
import GeosModel.Proofs.Valid.PairRule
import GeosModel.Generated.ValidPairRule
/-!
# C05 — the regenerated per-pair decision of `PolygonIntersectionAnalyzer` is the model the CORE theorems are about

`Generated/ValidPairRule.lean` is rewritten from `src/operation/valid/PolygonIntersectionAnalyzer.cpp` (and `CoordinateXY::equals2D`
from `Coordinate.h`) by `translate/cxx2lean.py` (spec `valid_pair_rule`) on every run: `processIntersections`,
`findInvalidIntersection`, `isAdjacentInRing`, `prevCoordinateInRing`.  The error codes are read from
`TopologyValidationError.h`.  Abstract in the regenerated code, and what the theorems assume about them:
* segment strings: instantiated with `Valid.RingStr` (identity + points) — ALL ring strings and segment indices;
* the `LineIntersector` member: any type whose observers report the exact classification `Kernel.segRel`
  (`ValidGen.LIExact`; satisfiable: `ValidGen.LIv.exact`; exactness of the real intersector on the grid is C02's subject);
* `PolygonNodeTopology::isCrossing`: instantiated with the model `Valid.isCrossing` (its own regeneration: `Props/C05Gen.lean`);
* the touch bookkeeping (`addSelfTouch`, `addDoubleTouch`, the state behind the `PolygonRing` pointers): universally
  quantified — the returned code does not depend on it.
The model returns `none` when a non-proper single intersection has not exactly one candidate end point (never the case for
real segments); the bridge carries that as the hypothesis `hone`.
-/
namespace GeosModel.C05GenPair
open GeosModel GeosModel.Kernel GeosModel.Valid GeosModel.Generated GeosModel.ValidGen

theorem gen_equals2D_eq (a b : Pt) : ValidPairRule.equals2D a.x a.y (xy b) = (a == b) := by
  unfold ValidPairRule.equals2D
  apply Bool.eq_iff_iff.mpr
  rw [Pt.beq_iff]
  cases a; cases b
  simp [Cxx.ne]

theorem gen_isAdjacentInRing_eq (r : RingStr) (i0 i1 : Nat) :
    ValidPairRule.isAdjacentInRing (fun s : RingStr => s.pts.length) r i0 i1 = Valid.isAdjacentInRing (r.pts.length - 1) i0 i1 := by
  unfold ValidPairRule.isAdjacentInRing Valid.isAdjacentInRing
  simp


theorem gen_prevCoordinateInRing_eq (r : RingStr) (k : Nat) :
    ValidPairRule.prevCoordinateInRing (fun s : RingStr => s.pts.length) (fun s k => xy (s.pts.getD k default)) r k = xy (r.seg k).prev := by
  unfold ValidPairRule.prevCoordinateInRing RingStr.seg
  cases k <;> rfl

theorem gen_findInvalidIntersection_eq {LI W : Type}
    (liCompute : LI → Cxx.XY Int → Cxx.XY Int → Cxx.XY Int → Cxx.XY Int → LI) (liHas liProper : LI → Bool) (liNum : LI → Nat)
    (liGet : LI → Nat → Cxx.XY Int) (hli : LIExact liCompute liHas liProper liNum liGet)
    (addSelfTouch : W → RingStr → Cxx.XY Int → Cxx.XY Int → Cxx.XY Int → Cxx.XY Int → Cxx.XY Int → W)
    (addDoubleTouch : W → RingStr → RingStr → Cxx.XY Int → Bool × W)
    (flag : Bool) (li0 : LI) (w0 : W) (dt0 : Bool) (dl0 : Cxx.XY Int) (A B : RingStr) (i j : Nat)
    (hone : segRel (A.seg i).p (A.seg i).q (B.seg j).p (B.seg j).q = .point false → ∃ x, meetPts (A.seg i) (B.seg j) = [x]) :
    (ValidPairRule.findInvalidIntersection (fun a b : RingStr => a.rid == b.rid) (fun s => s.pts.length)
        (fun s k => xy (s.pts.getD k default)) liCompute liHas liProper liNum liGet
        (fun n a0 a1 b0 b1 => Valid.isCrossing (pt n) (pt a0) (pt a1) (pt b0) (pt b1)) addSelfTouch addDoubleTouch
        flag li0 w0 dt0 dl0 A i B j).1
      = codeInt (Valid.findInvalidIntersection flag (A.seg i) (B.seg j)) := by
  unfold ValidPairRule.findInvalidIntersection Valid.findInvalidIntersection
  simp only [gen_isAdjacentInRing_eq, gen_prevCoordinateInRing_eq]
  have hp : (A.seg i).p = A.pts.getD i default := rfl
  have hq : (A.seg i).q = A.pts.getD (i + 1) default := rfl
  have hp' : (B.seg j).p = B.pts.getD j default := rfl
  have hq' : (B.seg j).q = B.pts.getD (j + 1) default := rfl
  simp only [← hp, ← hq, ← hp', ← hq']
  generalize hs : A.seg i = s at *
  generalize ht : B.seg j = t at *
  have hrid : (A.rid == B.rid) = (s.rid == t.rid) := by subst hs ht; rfl
  have hm : s.m = A.pts.length - 1 := by subst hs; rfl
  have hk0 : s.k = i := by subst hs; rfl
  have hk1 : t.k = j := by subst ht; rfl
  simp only [hrid, ← hm, ← hk0, ← hk1]
  cases hrel : segRel s.p s.q t.p t.q with
  | disjoint => simp [hli.has, hrel, codeInt]
  | overlap => simp [hli.has, hli.proper, hli.num, hrel, codeInt, eSelfIntersection]
  | point proper =>
    cases proper with
    | true => simp [hli.has, hli.proper, hli.num, hrel, codeInt, eSelfIntersection]
    | false =>
      obtain ⟨x, hx⟩ := hone hrel
      -- once the observers of the intersector are rewritten by `hli`, both sides are the same chain of tests on the touch point `x`;
      -- the C++ branches on `x = p00`, `x = p10` to choose the incoming edges, the model chooses them inside the call of `isCrossing`
      simp [hli.has, hli.proper, hli.num, hrel, hx, hli.get _ _ _ _ _ x hrel (by rw [← meetPts_eq]; exact hx), gen_equals2D_eq]
      simp only [apply_ite Prod.fst, ite_self, apply_ite codeInt]
      refine ite_congr rfl (fun _ => rfl) fun _ => ite_congr rfl (fun _ => rfl) fun _ => ite_congr rfl (fun _ => rfl) fun _ => ?_
      by_cases h1 : x = s.p <;> by_cases h2 : x = t.p
      · simp only [if_pos h1, if_pos h2]; rfl
      · simp only [if_pos h1, if_neg h2]; rfl
      · simp only [if_neg h1, if_pos h2]; rfl
      · simp only [if_neg h1, if_neg h2]; rfl

/-- **the regenerated per-pair decision IS the reference's intersection rule** (`Valid.findInvalidIntersection_eq_pairRule`
transported along the bridge): for segments of rings without repeated points the code generated from the current
`PolygonIntersectionAnalyzer.cpp` returns −1 / 5 / 6 exactly as `Valid.pairRule` says -/
theorem gen_findInvalidIntersection_eq_pairRule {LI W : Type}
    (liCompute : LI → Cxx.XY Int → Cxx.XY Int → Cxx.XY Int → Cxx.XY Int → LI) (liHas liProper : LI → Bool) (liNum : LI → Nat)
    (liGet : LI → Nat → Cxx.XY Int) (hli : LIExact liCompute liHas liProper liNum liGet)
    (addSelfTouch : W → RingStr → Cxx.XY Int → Cxx.XY Int → Cxx.XY Int → Cxx.XY Int → Cxx.XY Int → W)
    (addDoubleTouch : W → RingStr → RingStr → Cxx.XY Int → Bool × W)
    (flag : Bool) (li0 : LI) (w0 : W) (dt0 : Bool) (dl0 : Cxx.XY Int) (A B : RingStr) (i j : Nat)
    (hone : segRel (A.seg i).p (A.seg i).q (B.seg j).p (B.seg j).q = .point false → ∃ x, meetPts (A.seg i) (B.seg j) = [x])
    (hs1 : (A.seg i).prev ≠ (A.seg i).p) (hs2 : (A.seg i).p ≠ (A.seg i).q)
    (ht1 : (B.seg j).prev ≠ (B.seg j).p) (ht2 : (B.seg j).p ≠ (B.seg j).q) :
    (ValidPairRule.findInvalidIntersection (fun a b : RingStr => a.rid == b.rid) (fun s => s.pts.length)
        (fun s k => xy (s.pts.getD k default)) liCompute liHas liProper liNum liGet
        (fun n a0 a1 b0 b1 => Valid.isCrossing (pt n) (pt a0) (pt a1) (pt b0) (pt b1)) addSelfTouch addDoubleTouch
        flag li0 w0 dt0 dl0 A i B j).1
      = codeInt ((pairRule flag (A.seg i) (B.seg j)).map (·.1)) := by
  rw [gen_findInvalidIntersection_eq liCompute liHas liProper liNum liGet hli addSelfTouch addDoubleTouch flag li0 w0 dt0 dl0 A B i j hone,
    Valid.findInvalidIntersection_eq_pairRule flag _ _ hs1 hs2 ht1 ht2]

/-- `processIntersections`: the member `invalidCode` after the call is the model's (`Valid.processIntersections`): unchanged for a
segment paired with itself and for a valid pair, overwritten by the code of an invalid pair -/
theorem gen_processIntersections_eq {LI W : Type}
    (liCompute : LI → Cxx.XY Int → Cxx.XY Int → Cxx.XY Int → Cxx.XY Int → LI) (liHas liProper : LI → Bool) (liNum : LI → Nat)
    (liGet : LI → Nat → Cxx.XY Int) (hli : LIExact liCompute liHas liProper liNum liGet)
    (addSelfTouch : W → RingStr → Cxx.XY Int → Cxx.XY Int → Cxx.XY Int → Cxx.XY Int → Cxx.XY Int → W)
    (addDoubleTouch : W → RingStr → RingStr → Cxx.XY Int → Bool × W)
    (flag : Bool) (li0 : LI) (w0 : W) (dt0 : Bool) (dl0 : Cxx.XY Int) (code0 : Option Nat) (loc0 : Cxx.XY Int) (A B : RingStr) (i j : Nat)
    (hone : segRel (A.seg i).p (A.seg i).q (B.seg j).p (B.seg j).q = .point false → ∃ x, meetPts (A.seg i) (B.seg j) = [x]) :
    (ValidPairRule.processIntersections (fun a b : RingStr => a.rid == b.rid) (fun s => s.pts.length)
        (fun s k => xy (s.pts.getD k default)) liCompute liHas liProper liNum liGet
        (fun n a0 a1 b0 b1 => Valid.isCrossing (pt n) (pt a0) (pt a1) (pt b0) (pt b1)) addSelfTouch addDoubleTouch
        flag li0 w0 dt0 dl0 (codeInt code0) loc0 A i B j).2.2.2.2.1
      = codeInt (Valid.processIntersections flag code0 (A.seg i) (B.seg j)) := by
  have h := gen_findInvalidIntersection_eq liCompute liHas liProper liNum liGet hli addSelfTouch addDoubleTouch flag li0 w0 dt0 dl0 A B i j hone
  unfold ValidPairRule.processIntersections Valid.processIntersections
  have hk : ((A.seg i).rid == (B.seg j).rid && (A.seg i).k == (B.seg j).k) = (A.rid == B.rid && i == j) := rfl
  rw [hk]
  -- `simp` below writes `l.getD k d` as `l[k]?.getD d`; the bridge of `findInvalidIntersection` is brought to that form to be used by it
  have h' := h
  simp only [List.getD_eq_getElem?_getD] at h'
  by_cases hsame : (A.rid == B.rid && i == j) = true
  · simp [hsame]
  · simp [hsame, apply_ite, h']
    cases hc : Valid.findInvalidIntersection flag (A.seg i) (B.seg j) <;> simp [codeInt]

/-! non-vacuity: the regenerated code run with the exact intersector `LIv` on two squares' segments (a proper crossing: 5), on a
ring touching itself (6 in OGC mode, −1 with the flag) -/
def runPair (flag : Bool) (A B : RingStr) (i j : Nat) : Int :=
  (ValidPairRule.findInvalidIntersection (W := Unit) (fun a b : RingStr => a.rid == b.rid) (fun s => s.pts.length)
      (fun s k => xy (s.pts.getD k default)) LIv.compute (fun l => l.rel != .disjoint) (fun l => l.rel == .point true) LIv.num LIv.get
      (fun n a0 a1 b0 b1 => Valid.isCrossing (pt n) (pt a0) (pt a1) (pt b0) (pt b1)) (fun w _ _ _ _ _ _ => w) (fun w _ _ _ => (false, w))
      flag {} () false ⟨0, 0⟩ A i B j).1
example : runPair false ⟨0, [⟨0, 0⟩, ⟨10, 10⟩, ⟨0, 10⟩, ⟨0, 0⟩]⟩ ⟨1, [⟨10, 0⟩, ⟨0, 10⟩, ⟨10, 10⟩, ⟨10, 0⟩]⟩ 0 0 = 5 := by decide
example : runPair false ⟨0, [⟨10, 0⟩, ⟨5, 5⟩, ⟨10, 10⟩, ⟨0, 10⟩, ⟨5, 5⟩, ⟨0, 0⟩, ⟨10, 0⟩]⟩ ⟨0, [⟨10, 0⟩, ⟨5, 5⟩, ⟨10, 10⟩, ⟨0, 10⟩, ⟨5, 5⟩, ⟨0, 0⟩, ⟨10, 0⟩]⟩ 1 4 = 6 := by decide
example : runPair true ⟨0, [⟨10, 0⟩, ⟨5, 5⟩, ⟨10, 10⟩, ⟨0, 10⟩, ⟨5, 5⟩, ⟨0, 0⟩, ⟨10, 0⟩]⟩ ⟨0, [⟨10, 0⟩, ⟨5, 5⟩, ⟨10, 10⟩, ⟨0, 10⟩, ⟨5, 5⟩, ⟨0, 0⟩, ⟨10, 0⟩]⟩ 1 4 = -1 := by decide

end GeosModel.C05GenPair
