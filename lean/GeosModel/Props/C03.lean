import GeosModel.Model.Overlay.Core
import GeosModel.Model.Overlay.Spec
import GeosModel.Proofs.EnvLemmas
/-!
# C03 — overlay results are valid and equal the Boolean combination of the inputs

PARTIAL by design (CORE + SPEC+C), see DESIGN.md section 3, C03.

**CORE** (faithful models of the decision functions of OverlayNG, `Model/Overlay/Core.lean`):
`isResultOfOp_eq_boolop`, `isResultOfOpCode_unknown`, `resultDim_rule`, `resultDim_symdiff_as_union_of_diffs`,
`isEmptyResult_sound`, `envDisjoint_no_common_point`, `isEmptyResult_sound_env`, `overlayDims_handled`.

**Set algebra of the membership specification** `member op a b = boolop op a b` used by the check
(A op A, A op EMPTY, argument swapping): `member_*`.

**SPEC** (`Model/Overlay/Spec.lean`, the exact arrangement oracle the driver runs):
* the specified result is `closure (boolop op A B)` evaluated cell-wise; for union and intersection the closure adds
  nothing (`expected_union`, `expected_inter`), the closure is closed downwards (`expected_of_faceL/R`,
  `node_expected_of_incident`);
* the cell-wise specification obeys the set algebra (`expected_swap`, `expected_self`, `expected_emptyA`, `expected_emptyB`);
* the checker is sound: `acceptsExact_sound` (accept ⇒ every face, 1-cell and node of the arrangement of all
  segments of A, B and R has exactly the specified membership), `acceptsTol_sound` / `overlay_check_sound` (accept ⇒
  every cell has the specified membership or is excused inside the 1e-9·magnitude band; with `T.exact` no excuse
  exists), `faceExcused_sound` (what an excused face means: every sample point of that side is within the band of the
  inputs or has the right membership), `withinTol_spec` (the band test is the exact rational comparison).

NOT proved: that membership is constant on the cells of the arrangement (so that "every cell" is "every location") —
the one geometric fact in the trusted base; and nothing about OverlayNG's noding / labelling / ring building, which is
tied to this specification by the correspondence streams only.
-/
namespace GeosModel.Overlay
open GeosModel.Relate

/-! ## CORE -/

/-- `OverlayNG::isResultOfOp` (with its BOUNDARY → INTERIOR folding) is the Boolean combination of "in the closure",
for all 4 ops × 3 × 3 locations -/
theorem isResultOfOp_eq_boolop (op : Op) (l0 l1 : Loc3) :
    isResultOfOp op l0 l1 = boolop op (inClosure l0) (inClosure l1) := by
  cases op <;> cases l0 <;> cases l1 <;> decide

theorem Op.ofCode_none {c : Int} (h : Op.ofCode c = none) : c ≠ 1 ∧ c ≠ 2 ∧ c ≠ 3 ∧ c ≠ 4 := by
  refine ⟨?_, ?_, ?_, ?_⟩ <;> (rintro rfl; cases h)

/-- an op code outside 1..4 selects nothing (the trailing `return false`) -/
theorem isResultOfOpCode_unknown (c : Int) (l0 l1 : Loc3) (h : Op.ofCode c = none) :
    isResultOfOpCode c l0 l1 = false := by
  have hc := Op.ofCode_none h
  simp [isResultOfOpCode, hc.1, hc.2.1, hc.2.2.1, hc.2.2.2]

example : isResultOfOp .diff .I .B = false ∧ isResultOfOp .diff .B .E = true ∧ isResultOfOp .symdiff .B .B = false := by decide

theorem ofCode_code (op : Op) : Op.ofCode op.code = some op := by cases op <;> decide

/-- `OverlayUtil::resultDimension`: intersection = min, union = max, difference = dimension of A, symmetric
difference = max -/
theorem resultDim_rule (a b : Int) :
    resultDimension .inter a b = min a b ∧ resultDimension .union a b = max a b ∧
    resultDimension .diff a b = a ∧ resultDimension .symdiff a b = max a b := ⟨rfl, rfl, rfl, rfl⟩

/-- the justification given in the source: SymDiff = Union(Diff(A,B), Diff(B,A)) -/
theorem resultDim_symdiff_as_union_of_diffs (a b : Int) :
    resultDimension .symdiff a b = resultDimension .union (resultDimension .diff a b) (resultDimension .diff b a) := rfl

theorem resultDim_bounds (a b : Int) :
    resultDimension .inter a b ≤ a ∧ resultDimension .inter a b ≤ b ∧
    a ≤ resultDimension .union a b ∧ b ≤ resultDimension .union a b := by
  simp only [resultDimension]; omega

/-- membership of a point in the Boolean combination of two point sets -/
def memberP : Op → Prop → Prop → Prop
  | .inter, a, b => a ∧ b
  | .union, a, b => a ∨ b
  | .diff, a, b => a ∧ ¬ b
  | .symdiff, a, b => (a ∧ ¬ b) ∨ (¬ a ∧ b)

theorem memberP_iff_boolop (op : Op) (a b : Bool) : memberP op (a = true) (b = true) ↔ boolop op a b = true := by
  cases op <;> cases a <;> cases b <;> simp [memberP, boolop]

/-- **isEmptyResult is sound**: whenever it returns true, the Boolean combination of the two point sets is empty.
The three facts it reads are tied to the point sets by explicit hypotheses. -/
theorem isEmptyResult_sound {P : Type} (SA SB : P → Prop) (op : Op) (eA eB dj : Bool)
    (hA : eA = true → ∀ p, ¬ SA p) (hB : eB = true → ∀ p, ¬ SB p)
    (hd : dj = true → ∀ p, ¬ (SA p ∧ SB p))
    (h : isEmptyResult op eA eB dj = true) : ∀ p, ¬ memberP op (SA p) (SB p) := by
  intro p
  cases op with
  | inter =>
    simp only [isEmptyResult, isEnvDisjoint] at h
    intro ⟨ha, hb⟩
    by_cases he : (eA || eB) = true
    · rcases Bool.or_eq_true _ _ |>.mp he with h1 | h1
      · exact hA h1 p ha
      · exact hB h1 p hb
    · simp [he] at h
      exact hd h p ⟨ha, hb⟩
  | diff =>
    simp only [isEmptyResult] at h
    intro ⟨ha, _⟩
    exact hA h p ha
  | union =>
    simp only [isEmptyResult, Bool.and_eq_true] at h
    intro hab
    rcases hab with ha | hb
    · exact hA h.1 p ha
    · exact hB h.2 p hb
  | symdiff =>
    simp only [isEmptyResult, Bool.and_eq_true] at h
    intro hab
    rcases hab with ⟨ha, _⟩ | ⟨_, hb⟩
    · exact hA h.1 p ha
    · exact hB h.2 p hb

/-- "envelopes disjoint ⇒ no common point": point sets covered by their envelopes, and `Envelope::disjoint` true, cannot
share a point — a common point lies in both boxes, so the boxes intersect -/
theorem envDisjoint_no_common_point (ea eb : Box) (SA SB : Int → Int → Prop)
    (ca : ∀ x y, SA x y → Env.containsPt (some ea) x y = true)
    (cb : ∀ x y, SB x y → Env.containsPt (some eb) x y = true)
    (h : envDisjoint (some ea) (some eb) = true) : ∀ x y, ¬ (SA x y ∧ SB x y) := by
  intro x y ⟨ha, hb⟩
  have ha := ca x y ha
  have hb := cb x y hb
  simp only [Env.containsPt, Bool.and_eq_true, decide_eq_true_eq] at ha hb
  have hi : Env.inter (some ea) (some eb) = true := by
    simp only [Env.inter, Bool.and_eq_true, decide_eq_true_eq]; omega
  simp [envDisjoint, hi] at h

/-- `isEmptyResult` with the envelope test spelled out: inputs given as point sets on the integer lattice of the
scaled doubles, each covered by its envelope -/
theorem isEmptyResult_sound_env (ea eb : Box) (SA SB : Int → Int → Prop) (op : Op) (eA eB : Bool)
    (wa : ea.minx ≤ ea.maxx ∧ ea.miny ≤ ea.maxy) (wb : eb.minx ≤ eb.maxx ∧ eb.miny ≤ eb.maxy)
    (ca : ∀ x y, SA x y → Env.containsPt (some ea) x y = true)
    (cb : ∀ x y, SB x y → Env.containsPt (some eb) x y = true)
    (hA : eA = true → ∀ x y, ¬ SA x y) (hB : eB = true → ∀ x y, ¬ SB x y)
    (h : isEmptyResult op eA eB (envDisjoint (some ea) (some eb)) = true) :
    ∀ x y, ¬ memberP op (SA x y) (SB x y) := by
  intro x y
  have := isEmptyResult_sound (P := Int × Int) (fun p => SA p.1 p.2) (fun p => SB p.1 p.2) op eA eB
    (envDisjoint (some ea) (some eb)) (fun he p => hA he p.1 p.2) (fun he p => hB he p.1 p.2)
    (fun hd p => envDisjoint_no_common_point ea eb SA SB ca cb hd p.1 p.2) h (x, y)
  exact (fun _ _ => this) wa wb

example : isEmptyResult .inter false false (envDisjoint (some ⟨0, 1, 0, 1⟩) (some ⟨2, 3, 0, 1⟩)) = true := by decide
example : isEmptyResult .inter false false (envDisjoint (some ⟨0, 1, 0, 1⟩) (some ⟨1, 3, 0, 1⟩)) = false := by decide

/-- when both inputs are handled by OverlayNG the dimensions that reach `resultDimension` are `getDimension()` -/
theorem overlayDims_handled (a b : Shape) (ha : a.handledByOverlayNG = true) (hb : b.handledByOverlayNG = true) :
    overlayDims a b = (a.dim, b.dim) := by simp [overlayDims, ha, hb]

/-! ## set algebra of the membership specification -/

/-- every operation but the difference is commutative -/
theorem boolop_comm (op : Op) (hop : op ≠ .diff) (a b : Bool) : boolop op a b = boolop op b a := by
  cases op <;> first | exact absurd rfl hop | (cases a <;> cases b <;> rfl)

theorem member_union_self (a : Bool) : member .union a a = a := by cases a <;> rfl
theorem member_inter_self (a : Bool) : member .inter a a = a := by cases a <;> rfl
theorem member_diff_self (a : Bool) : member .diff a a = false := by cases a <;> rfl
theorem member_symdiff_self (a : Bool) : member .symdiff a a = false := by cases a <;> rfl
theorem member_union_empty (a : Bool) : member .union a false = a ∧ member .union false a = a := by cases a <;> exact ⟨rfl, rfl⟩
theorem member_inter_empty (a : Bool) : member .inter a false = false ∧ member .inter false a = false := by cases a <;> exact ⟨rfl, rfl⟩
theorem member_diff_empty (a : Bool) : member .diff a false = a ∧ member .diff false a = false := by cases a <;> exact ⟨rfl, rfl⟩
theorem member_symdiff_empty (a : Bool) : member .symdiff a false = a ∧ member .symdiff false a = a := by cases a <;> exact ⟨rfl, rfl⟩
theorem member_union_comm (a b : Bool) : member .union a b = member .union b a := boolop_comm .union (by decide) a b
theorem member_inter_comm (a b : Bool) : member .inter a b = member .inter b a := boolop_comm .inter (by decide) a b
theorem member_symdiff_comm (a b : Bool) : member .symdiff a b = member .symdiff b a := boolop_comm .symdiff (by decide) a b
/-- inclusion–exclusion at one point: counting memberships, |A| + |B| = |A ∪ B| + |A ∩ B| -/
theorem member_incl_excl (a b : Bool) :
    a.toNat + b.toNat = (member .union a b).toNat + (member .inter a b).toNat := by cases a <;> cases b <;> rfl
theorem member_symdiff_as_diffs (a b : Bool) :
    member .symdiff a b = member .union (member .diff a b) (member .diff b a) := by cases a <;> cases b <;> rfl

/-! ## SPEC: the cell-wise specification -/

/-- for union the closure adds nothing: a 1-cell is specified iff it lies in the closure of A or of B -/
theorem expected_union (c : Cell) : c.expected .union = (c.inA || c.inB) := by
  simp only [Cell.expected, Cell.sMem, Cell.faceL, Cell.faceR, Cell.inA, Cell.inB, boolop]
  cases c.lA <;> cases c.rA <;> cases c.lB <;> cases c.rB <;> simp

/-- for intersection the closure adds nothing either -/
theorem expected_inter (c : Cell) : c.expected .inter = (c.inA && c.inB) := by
  simp only [Cell.expected, Cell.sMem, Cell.faceL, Cell.faceR, Cell.inA, Cell.inB, boolop]
  cases c.lA <;> cases c.rA <;> cases c.lB <;> cases c.rB <;> simp

/-- the specified set is closed: the border of a specified face is specified -/
theorem expected_of_faceL (op : Op) (c : Cell) (h : c.faceL op = true) : c.expected op = true := by
  simp [Cell.expected, h]
theorem expected_of_faceR (op : Op) (c : Cell) (h : c.faceR op = true) : c.expected op = true := by
  simp [Cell.expected, h]

/-- … and the end points of a specified 1-cell are specified -/
theorem node_expected_of_incident (op : Op) (A B R : Flat) (cs : List Cell) (v : HPt) (c : Cell)
    (hc : c ∈ cs) (hv : (c.a == v || c.b == v) = true) (he : c.expected op = true) :
    (mkNode op A B R cs v).expected = true := by
  have hmem : c ∈ cs.filter (fun c => c.a == v || c.b == v) := List.mem_filter.mpr ⟨hc, hv⟩
  have : (cs.filter (fun c => c.a == v || c.b == v)).any (·.expected op) = true :=
    List.any_eq_true.mpr ⟨c, hmem, he⟩
  simp [mkNode, this]

/-- non-vacuity / the closure matters for difference: a 1-cell of a line of B strictly inside the area A is not in
`A ∖ B` pointwise, but it is in the closure (area − line = area), while for a line A inside an area B nothing remains -/
example : let c : Cell := { a := ⟨0,0,1⟩, b := ⟨2,0,1⟩, m := ⟨1,0,1⟩, s := ⟨⟨0,0⟩,⟨2,0⟩⟩, lm := ⟨1,2⟩, lA := true, rA := true,
                            lB := false, rB := false, lR := true, rR := true, onA := false, onB := true, onR := false }
    c.sMem .diff = false ∧ c.expected .diff = true ∧ c.ok .diff = true ∧ c.ok .inter = false := by decide

/-- exchanging the roles of A and B -/
def Cell.swap (c : Cell) : Cell :=
  { c with lA := c.lB, rA := c.rB, lB := c.lA, rB := c.rA, onA := c.onB, onB := c.onA }

/-- argument swapping: ∪, ∩, △ specify the same cells -/
theorem expected_swap (op : Op) (hop : op ≠ .diff) (c : Cell) : c.swap.expected op = c.expected op := by
  simp only [Cell.expected, Cell.sMem, Cell.faceL, Cell.faceR, Cell.inA, Cell.inB, Cell.swap,
    boolop_comm op hop (c.lB || c.rB || c.onB), boolop_comm op hop c.lB, boolop_comm op hop c.rB]

/-- a cell of the arrangement of (A, A): B's memberships are A's -/
def Cell.selfPair (c : Cell) : Prop := c.lB = c.lA ∧ c.rB = c.rA ∧ c.onB = c.onA
/-- a cell of the arrangement of (A, EMPTY) -/
def Cell.emptyB (c : Cell) : Prop := c.lB = false ∧ c.rB = false ∧ c.onB = false
def Cell.emptyA (c : Cell) : Prop := c.lA = false ∧ c.rA = false ∧ c.onA = false

/-- A ∪ A = A, A ∩ A = A, A ∖ A = ∅, A △ A = ∅ on every cell -/
theorem expected_self (c : Cell) (h : c.selfPair) :
    c.expected .union = c.inA ∧ c.expected .inter = c.inA ∧ c.expected .diff = false ∧ c.expected .symdiff = false := by
  cases c with
  | mk a b m s lm lA rA lB rB lR rR onA onB onR =>
    obtain ⟨h1, h2, h3⟩ := h
    simp only at h1 h2 h3
    subst h1 h2 h3
    cases lB <;> cases rB <;> cases onB <;> exact ⟨rfl, rfl, rfl, rfl⟩

/-- A ∪ ∅ = A, A ∩ ∅ = ∅, A ∖ ∅ = A, A △ ∅ = A on every cell -/
theorem expected_emptyB (c : Cell) (h : c.emptyB) :
    c.expected .union = c.inA ∧ c.expected .inter = false ∧ c.expected .diff = c.inA ∧ c.expected .symdiff = c.inA := by
  cases c with
  | mk a b m s lm lA rA lB rB lR rR onA onB onR =>
    obtain ⟨h1, h2, h3⟩ := h
    simp only at h1 h2 h3
    subst h1 h2 h3
    cases lA <;> cases rA <;> cases onA <;> exact ⟨rfl, rfl, rfl, rfl⟩

/-- ∅ ∪ B = B, ∅ ∩ B = ∅, ∅ ∖ B = ∅, ∅ △ B = B on every cell -/
theorem expected_emptyA (c : Cell) (h : c.emptyA) :
    c.expected .union = c.inB ∧ c.expected .inter = false ∧ c.expected .diff = false ∧ c.expected .symdiff = c.inB := by
  cases c with
  | mk a b m s lm lA rA lB rB lR rR onA onB onR =>
    obtain ⟨h1, h2, h3⟩ := h
    simp only at h1 h2 h3
    subst h1 h2 h3
    cases lB <;> cases rB <;> cases onB <;> exact ⟨rfl, rfl, rfl, rfl⟩

/-! ## SPEC: soundness of the executable checker -/

/-- **exact checker**: acceptance means every face (both sides of every 1-cell), every 1-cell and every node of the
arrangement of all segments of A, B and R has exactly the membership `closure (boolop op A B)` assigns -/
theorem acceptsExact_sound (op : Op) (A B R : Flat) (h : acceptsExact op A B R = true) :
    (∀ c ∈ cells A B R, c.lR = c.faceL op ∧ c.rR = c.faceR op ∧ c.inR = c.expected op) ∧
    (∀ n ∈ nodes op A B R (cells A B R), n.inR = n.expected) := by
  simp only [acceptsExact, Bool.and_eq_true, List.all_eq_true] at h
  refine ⟨fun c hc => ?_, fun n hn => ?_⟩
  · have := h.1 c hc
    simp only [Cell.ok, Bool.and_eq_true, beq_iff_eq] at this
    exact ⟨this.1.1, this.1.2, this.2⟩
  · have := h.2 n hn
    simpa [Node.ok] using this

/-- what an excused face means: every sample point on that side of the 1-cell is inside the tolerance band of the inputs,
or its closure membership in R equals the Boolean combination of its memberships in (the areas of) A and B -/
theorem faceExcused_sound (T : Tol) (op : Op) (A B R : Flat) (c : Cell) (left : Bool)
    (h : faceExcused T op A B R c left = true) :
    ∀ p ∈ faceSamples T c left, nearInputs T A B p = true ∨
      inClPt R p = boolop op (A.polys.any (inPolyH p)) (B.polys.any (inPolyH p)) := by
  intro p hp
  simp only [faceExcused, List.all_eq_true] at h
  have := h p hp
  simp only [sampleOK, Bool.or_eq_true, beq_iff_eq] at this
  exact this

/-- the band test is the exact comparison `dist² · 10^18 ≤ mag²` on the rational squared distance -/
theorem withinTol_spec (T : Tol) (p : HPt) (s : Seg) :
    withinTol T p s = true ↔ (sqDistSeg p s).1 * 1000000000000000000 ≤ T.mag * T.mag * (sqDistSeg p s).2 := by
  simp [withinTol]

/-- **tolerant checker**: acceptance means every face / 1-cell / node has the specified membership or is excused
inside the band -/
theorem acceptsTol_sound (T : Tol) (op : Op) (A B R : Flat) (h : acceptsTol T op A B R = true) :
    let cs := cells A B R
    let ns := nodes op A B R cs
    let E := expectedLocus op cs ns
    (∀ c ∈ cs, (c.lR = c.faceL op ∨ faceExcused T op A B R c true = true) ∧
               (c.rR = c.faceR op ∨ faceExcused T op A B R c false = true) ∧
               (c.inR = c.expected op ∨ lowerExcused T op A B R E c.m c.inA c.inB c.inR = true)) ∧
    (∀ n ∈ ns, n.inR = n.expected ∨ lowerExcused T op A B R E n.v n.inA n.inB n.inR = true) := by
  simp only [acceptsTol, Bool.and_eq_true, List.all_eq_true] at h
  refine ⟨fun c hc => ?_, fun n hn => ?_⟩
  · have := h.1 c hc
    simp only [Cell.okTol, Bool.and_eq_true, Bool.or_eq_true, beq_iff_eq] at this
    exact ⟨this.1.1, this.1.2, this.2⟩
  · have := h.2 n hn
    simpa [Node.okTol, Node.ok] using this

/-- **the checker the driver runs**: with `T.exact` (every intersection point of the inputs is representable) no cell is
excused; otherwise a mismatching cell must be excused inside the band -/
theorem overlay_check_sound (T : Tol) (op : Op) (A B R : Flat) (h : accepts T op A B R = true) :
    let cs := cells A B R
    let ns := nodes op A B R cs
    let E := expectedLocus op cs ns
    (∀ c ∈ cs, (c.lR = c.faceL op ∨ (T.exact = false ∧ faceExcused T op A B R c true = true)) ∧
               (c.rR = c.faceR op ∨ (T.exact = false ∧ faceExcused T op A B R c false = true)) ∧
               (c.inR = c.expected op ∨ (T.exact = false ∧ lowerExcused T op A B R E c.m c.inA c.inB c.inR = true))) ∧
    (∀ n ∈ ns, n.inR = n.expected ∨ (T.exact = false ∧ lowerExcused T op A B R E n.v n.inA n.inB n.inR = true)) := by
  unfold accepts at h
  by_cases he : T.exact = true
  · rw [if_pos he] at h
    have := acceptsExact_sound op A B R h
    exact ⟨fun c hc => ⟨Or.inl (this.1 c hc).1, Or.inl (this.1 c hc).2.1, Or.inl (this.1 c hc).2.2⟩,
           fun n hn => Or.inl (this.2 n hn)⟩
  · rw [if_neg he] at h
    have hf : T.exact = false := by simpa using he
    have := acceptsTol_sound T op A B R h
    refine ⟨fun c hc => ?_, fun n hn => ?_⟩
    · obtain ⟨h1, h2, h3⟩ := this.1 c hc
      exact ⟨h1.imp id (fun x => ⟨hf, x⟩), h2.imp id (fun x => ⟨hf, x⟩), h3.imp id (fun x => ⟨hf, x⟩)⟩
    · exact (this.2 n hn).imp id (fun x => ⟨hf, x⟩)

/-- non-vacuity: the checker accepts the empty overlay and rejects a non-empty result for empty inputs -/
example : accepts ⟨1, true⟩ .union Flat.empty Flat.empty Flat.empty = true := by decide
example : acceptsExact .union Flat.empty Flat.empty ⟨[⟨0, 0⟩], [], []⟩ = false := by decide

end GeosModel.Overlay
