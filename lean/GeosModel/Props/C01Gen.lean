import GeosModel.Base.IM
import GeosModel.Generated.IMPreds
/-!
# C01 — the regenerated `geom::IntersectionMatrix` predicates are the model the theorems are about

`Generated/IMPreds.lean` is rewritten from `src/geom/IntersectionMatrix.cpp` by `translate/im_preds.py` on every run
(statement by statement; the translator refuses anything outside its small fragment).  The theorems below prove each
regenerated function equal to the hand-written definition of `Base/IM` — the object of `named_*_eq_pattern`,
`consistent_of_true_matrix` (C02) and of the `immatrix` correspondence stream — for **every** matrix (arbitrary integer
entries), every pair of dimension arguments and every pattern symbol.  A semantic change of the C++ therefore breaks one
of these proofs; the check then enumerates the finite domain for an argument on which the two differ.
-/
namespace GeosModel.C01Gen
open GeosModel GeosModel.Generated

/-! Apart from `isTouches` each regenerated function unfolds to the model's definition (`IM.get` of a constant location is the
field). -/

theorem gen_matches_eq (v : Int) (c : Char) : IMPreds.matchesDim v c = IM.matchesSym v c := rfl

theorem gen_T_eq (v : Int) : IMPreds.matchesDim v 'T' = IM.T v := rfl

theorem gen_isDisjoint_eq (m : IM) : IMPreds.isDisjoint m = m.isDisjoint := rfl

theorem gen_isIntersects_eq (m : IM) : IMPreds.isIntersects m = m.isIntersects := rfl

theorem gen_isWithin_eq (m : IM) : IMPreds.isWithin m = m.isWithin := rfl

theorem gen_isContains_eq (m : IM) : IMPreds.isContains m = m.isContains := rfl

theorem gen_isCovers_eq (m : IM) : IMPreds.isCovers m = m.isCovers := rfl

theorem gen_isCoveredBy_eq (m : IM) : IMPreds.isCoveredBy m = m.isCoveredBy := rfl

theorem gen_isEquals_eq (m : IM) (a b : Int) : IMPreds.isEquals m a b = m.isEquals a b := rfl

theorem gen_isCrosses_eq (m : IM) (a b : Int) : IMPreds.isCrosses m a b = m.isCrosses a b := rfl

theorem gen_isOverlaps_eq (m : IM) (a b : Int) : IMPreds.isOverlaps m a b = m.isOverlaps a b := rfl

/-- the C++ swaps the dimensions by calling itself; the model takes the ordered pair first -/
theorem gen_isTouches_eq (m : IM) (a b : Int) : IMPreds.isTouches m a b = m.isTouches a b := by
  unfold IMPreds.isTouches IMPreds.isTouchesBody IM.isTouches
  simp only [gen_T_eq]
  cases m
  by_cases h : a > b
  · have h' : ¬ b > a := by omega
    simp [IM.get, h, h']
  · simp [IM.get, h]

end GeosModel.C01Gen
