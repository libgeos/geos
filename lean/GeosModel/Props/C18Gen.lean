import GeosModel.Model.Simplify.Dist
import GeosModel.Generated.DPSimplify
import GeosModel.Proofs.CxxLoop
import GeosModel.Proofs.Simplify.DP
/-!
# C18 — the regenerated Douglas–Peucker section test and distance are the model the C18 theorems are about

`Generated/DPSimplify.lean` is rewritten from the current C++ (`src/simplify/DouglasPeuckerLineSimplifier.cpp`,
`src/algorithm/Distance.cpp`, `include/geos/geom/LineSegment.h`, `Coordinate.h`) by `translate/cxx2lean.py` (spec
`dp_simplify`) on every run.  The bridge theorems hold for **every** carrier `R` of the arithmetic interface `Cxx.Math` — in
particular for `Float`, the instance `drv_c18 dp` runs against `GEOSSimplify_r` bit for bit — and use no algebraic law:

* `gen_pointToSegment_eq`, `gen_ptDistance_eq`, `gen_equals2D_eq`, `gen_lsDistance_eq`: `LineSegment::distance(p)` as the
  C++ computes it is `DP.cxxOps.dist` (Model/Simplify/Dist.lean), the `dist` of the `Ops` instance all DP theorems of
  `Props/C18.lean` are instantiated with;
* `gen_simplifySection_eq`: the body of `simplifySection(i, j)` — farthest-vertex scan, tolerance test, clearing of `usePt`,
  split at the farthest vertex — is `DP.farthest` + `le` of Model/Simplify/DP.lean, the two recursive calls being an arbitrary
  function `recur` (the translator does not follow recursion);
* `gen_simplifySection_fix`, `gen_simplifySection_unique`, `gen_simplify_mask`: the model's recursion `DP.sectionMask`, read as
  a function on index pairs and `usePt` masks (`modelRec`), satisfies the regenerated equation, and *every* function that
  satisfies it (as the C++ function does whenever it terminates) equals it on all sections the C++ reaches, for every tolerance
  with `-1.0 <= tolerance`; so the mask `simplify()` collects from is the one `DP.simplifyLineMask` applies.  What stays
  correspondence-only: termination, the collecting loop and the ring post-step of `simplify()`.
-/
namespace GeosModel.C18Gen
open GeosModel GeosModel.DP GeosModel.Generated GeosModel.CxxLoop

variable {R : Type} [Cxx.Math R]

theorem gen_equals2D_eq (a b : Cxx.XY R) : DPSimplify.equals2D a.x a.y b = eq2D a b := by
  simp only [DPSimplify.equals2D, eq2D, Cxx.ne, Id.run, pure]
  by_cases h1 : Cxx.Ord.eq a.x b.x = true <;> by_cases h2 : Cxx.Ord.eq a.y b.y = true <;> simp [h1, h2]

theorem gen_ptDistance_eq (a b : Cxx.XY R) : DPSimplify.ptDistance a.x a.y b = ptDist a b := rfl

theorem gen_pointToSegment_eq (p A B : Cxx.XY R) : DPSimplify.pointToSegment p A B = pointToSegment p A B := by
  unfold DPSimplify.pointToSegment DP.pointToSegment
  simp only [gen_equals2D_eq, gen_ptDistance_eq, Cxx.ge, Id.run, pure]
  rfl

theorem gen_lsDistance_eq (a b p : Cxx.XY R) : DPSimplify.lsDistance a b p = cxxOps.dist a b p :=
  gen_pointToSegment_eq p a b

/-- the value `pts[k]` reads outside the sequence (never happens for `i < j < pts.size()`) -/
def zeroXY : Cxx.XY R := ⟨Cxx.Ring.ofInt 0, Cxx.Ring.ofInt 0⟩

/-- `maxIndex` of the code against the model's relative index (`none` = still `i`) -/
def idxOf (i : Nat) : Option Nat → Nat
  | none => i
  | some k => i + 1 + k

/-- `for (k = lo; k < hi; k++) usePt[k] = false;` -/
def clearRange (use : List Bool) (lo hi : Nat) : List Bool :=
  (List.range' lo (hi - lo)).foldl (fun u k => u.set k false) use

/-- the farthest-vertex loop over the indices `lo .. lo + n - 1` is the model's `scan` over those vertices; the code's
`maxIndex` is `idxOf i` of the model's relative index -/
theorem scan_range (a b : Cxx.XY R) (pts : List (Cxx.XY R)) (i : Nat) (n : Nat) :
    ∀ (lo : Nat) (d : R) (o : Option Nat), lo + n ≤ pts.length → i + 1 ≤ lo →
      (List.range' lo n).foldl (fun (s : R × Nat) k =>
          if (cxxOps (R := R)).gt (cxxOps.dist a b (pts.getD k zeroXY)) s.1 then (cxxOps.dist a b (pts.getD k zeroXY), k) else s)
        (d, idxOf i o) =
      ((scan cxxOps a b ((pts.drop lo).take n) (lo - (i + 1)) (d, o)).1,
        idxOf i (scan cxxOps a b ((pts.drop lo).take n) (lo - (i + 1)) (d, o)).2) := by
  induction n with
  | zero => intro lo d o _ _; rfl
  | succ n ih =>
    intro lo d o hlen hlo
    have hlt : lo < pts.length := by omega
    have hget : pts.getD lo zeroXY = pts[lo] := by rw [List.getD_eq_getElem?_getD, List.getElem?_eq_getElem hlt]; rfl
    rw [List.range'_succ, List.foldl_cons, List.drop_eq_getElem_cons hlt, List.take_succ_cons, scan, hget,
      show lo - (i + 1) + 1 = lo + 1 - (i + 1) by omega]
    by_cases hc : (cxxOps (R := R)).gt (cxxOps.dist a b pts[lo]) d = true
    · have h := ih (lo + 1) (cxxOps.dist a b pts[lo]) (some (lo - (i + 1))) (by omega) (by omega)
      rw [show idxOf i (some (lo - (i + 1))) = lo by simp only [idxOf]; omega] at h
      rw [if_pos hc, if_pos hc]
      exact h
    · rw [if_neg hc, if_neg hc]
      exact ih (lo + 1) d o (by omega) (by omega)

/-- **the per-section decision** of `DouglasPeuckerLineSimplifier::simplifySection(i, j)`, regenerated from the C++, is the
model's: nothing for an empty interior; otherwise `farthest` (Model/Simplify/DP.lean) of the section `pts[i], pts[i+1..j-1],
pts[j]` with the code's own distance, `maxDistance <= distanceTolerance` clears `usePt[i+1..j-1]`, else the section is split
at the farthest vertex and both halves are handed to the recursive call (`recur`, arbitrary). -/
theorem gen_simplifySection_eq (recur : Nat → Nat → List Bool → List Bool) (pts : List (Cxx.XY R)) (tol : R) (use : List Bool)
    (i j : Nat) (hij : i < j) (hj : j < pts.length) :
    DPSimplify.simplifySection recur pts tol use i j =
      if i + 1 = j then use
      else
        let r := farthest cxxOps (pts.getD i zeroXY) (pts.getD j zeroXY) ((pts.drop (i + 1)).take (j - (i + 1)))
        if (cxxOps (R := R)).le r.1 tol then clearRange use (i + 1) j
        else recur (idxOf i r.2) j (recur i (idxOf i r.2) use) := by
  unfold DPSimplify.simplifySection
  simp only [Id.run, bind, pure, Std.Legacy.Range.forIn_eq_forIn_range', Std.Legacy.Range.size, Nat.add_one_sub_one, Nat.div_one,
    beq_iff_eq, gen_lsDistance_eq]
  by_cases h1 : i + 1 = j
  · rw [if_pos h1, if_pos h1]
  rw [if_neg h1, if_neg h1,
    forIn_yield _ (fun k (s : R × Nat) =>
      if (cxxOps (R := R)).gt (cxxOps.dist (pts.getD i zeroXY) (pts.getD j zeroXY) (pts.getD k zeroXY)) s.1
      then (cxxOps.dist (pts.getD i zeroXY) (pts.getD j zeroXY) (pts.getD k zeroXY), k) else s)
      (by exact fun k s => (apply_ite ForInStep.yield _ _ _).symm),
    forIn_yield _ (fun k (u : List Bool) => u.set k false) (by exact fun _ _ => rfl)]
  have hs := scan_range (pts.getD i zeroXY) (pts.getD j zeroXY) pts i (j - (i + 1)) (i + 1) cxxOps.init none (by omega) (Nat.le_refl _)
  rw [Nat.sub_self] at hs
  show (if (cxxOps (R := R)).le (List.foldl _ (cxxOps.init, idxOf i none) _).1 tol = true then clearRange use (i + 1) j
    else recur (List.foldl _ (cxxOps.init, idxOf i none) _).2 j (recur i (List.foldl _ (cxxOps.init, idxOf i none) _).2 use)) = _
  rw [hs]
  rfl

/-- what `clearRange` does to the mask: positions `lo ≤ k < hi` become `false`, the others are untouched -/
theorem clearRange_getElem? (use : List Bool) (lo hi k : Nat) :
    (clearRange use lo hi)[k]? = if lo ≤ k ∧ k < hi then (use[k]?).map (fun _ => false) else use[k]? := by
  unfold clearRange
  generalize hn : hi - lo = n
  induction n generalizing use lo hi with
  | zero =>
    have : ¬ (lo ≤ k ∧ k < hi) := by omega
    simp [this]
  | succ n ih =>
    simp only [List.range'_succ, List.foldl_cons]
    rw [ih (use.set lo false) (lo + 1) hi (by omega)]
    by_cases h1 : lo = k
    · subst h1
      have h2 : lo ≤ lo ∧ lo < hi := by omega
      simp only [h2, and_self, if_true, List.getElem?_set_self']
      cases use[lo]? <;> simp
    · have h3 : (lo + 1 ≤ k ∧ k < hi) ↔ (lo ≤ k ∧ k < hi) := by omega
      simp only [h3, List.getElem?_set_ne h1]

/-! ### the recursion as a whole: the model's `sectionMask` is *the* solution of the regenerated equation -/

/-- overwrite `use[lo .. lo + m.length - 1]` by `m` -/
def splice (use : List Bool) (lo : Nat) (m : List Bool) : List Bool := use.take lo ++ m ++ use.drop (lo + m.length)

theorem splice_getElem? (use : List Bool) (lo : Nat) (m : List Bool) (k : Nat) (h : lo + m.length ≤ use.length) :
    (splice use lo m)[k]? = if k < lo then use[k]? else if k < lo + m.length then m[k - lo]? else use[k]? := by
  unfold splice
  have hl : (use.take lo).length = lo := by simp; omega
  by_cases h1 : k < lo
  · simp only [h1, if_true, List.append_assoc]
    rw [List.getElem?_append_left (by omega)]
    simp [h1]
  · by_cases h2 : k < lo + m.length
    · simp only [h1, h2, if_false, if_true, List.append_assoc]
      rw [List.getElem?_append_right (by omega), hl, List.getElem?_append_left (by omega)]
    · simp only [h1, h2, if_false, List.append_assoc]
      rw [List.getElem?_append_right (by omega), hl, List.getElem?_append_right (by omega), List.getElem?_drop]
      congr 1; omega

theorem splice_length (use : List Bool) (lo : Nat) (m : List Bool) (h : lo + m.length ≤ use.length) :
    (splice use lo m).length = use.length := by
  unfold splice; simp; omega

theorem splice_nil (use : List Bool) (lo : Nat) : splice use lo [] = use := by simp [splice]

/-- two neighbouring pieces written one after the other, the position between them being `true` already -/
theorem splice_splice (use X Y : List Bool) (lo : Nat) (h : lo + X.length + 1 + Y.length ≤ use.length)
    (ht : use[lo + X.length]? = some true) :
    splice (splice use lo X) (lo + X.length + 1) Y = splice use lo (X ++ true :: Y) := by
  have hd : use.drop (lo + X.length) = true :: use.drop (lo + X.length + 1) := by
    rw [List.drop_eq_getElem_cons (by omega)]
    congr 1
    rw [List.getElem?_eq_getElem (by omega)] at ht
    exact Option.some.inj ht
  have hA : (use.take lo ++ X).length = lo + X.length := by rw [List.length_append, List.length_take]; omega
  unfold splice
  rw [hd, List.length_append, List.length_cons, ← List.append_assoc (use.take lo) X, ← Nat.add_assoc, ← Nat.add_assoc, ← hA]
  generalize use.take lo ++ X = A
  rw [List.take_length_add_append, Nat.add_assoc, List.drop_length_add_append, Nat.add_comm 1, List.drop_succ_cons,
    List.drop_drop, Nat.add_assoc, Nat.add_assoc, Nat.add_comm 1]
  simp

theorem clearRange_eq_splice (use : List Bool) (lo hi : Nat) (hlo : lo ≤ hi) (h : hi ≤ use.length) :
    clearRange use lo hi = splice use lo (List.replicate (hi - lo) false) := by
  apply List.ext_getElem?
  intro k
  rw [clearRange_getElem?, splice_getElem? _ _ _ _ (by rw [List.length_replicate]; omega), List.length_replicate,
    List.getElem?_replicate]
  by_cases h1 : k < lo
  · rw [if_neg (by omega), if_pos h1]
  · by_cases h2 : k < hi
    · rw [if_pos ⟨by omega, h2⟩, if_neg h1, if_pos (by omega), if_pos (by omega), List.getElem?_eq_getElem (by omega)]
      rfl
    · rw [if_neg (by omega), if_neg h1, if_neg (by omega)]

/-- the interior `pts[i+1 .. j-1]` of the section `(i, j)` -/
def midOf (pts : List (Cxx.XY R)) (i j : Nat) : List (Cxx.XY R) := (pts.drop (i + 1)).take (j - (i + 1))

theorem midOf_length (pts : List (Cxx.XY R)) (i j : Nat) (hj : j < pts.length) : (midOf pts i j).length = j - (i + 1) := by
  simp [midOf]; omega

/-- the split of the section `(i, j)` at interior position `k`: left interior, split vertex, right interior -/
theorem midOf_take (pts : List (Cxx.XY R)) (i j k : Nat) (hk : i + 1 + k < j) :
    (midOf pts i j).take k = midOf pts i (i + 1 + k) := by
  unfold midOf
  rw [List.take_take, Nat.add_sub_cancel_left, Nat.min_eq_left (by omega)]

theorem midOf_drop (pts : List (Cxx.XY R)) (i j k : Nat) (hk : i + 1 + k < j) (hj : j < pts.length) :
    (midOf pts i j).drop k = pts.getD (i + 1 + k) zeroXY :: midOf pts (i + 1 + k) j := by
  unfold midOf
  have hg : pts.getD (i + 1 + k) zeroXY = pts[i + 1 + k]'(by omega) := by
    rw [List.getD_eq_getElem?_getD, List.getElem?_eq_getElem (by omega)]; rfl
  rw [List.drop_take, List.drop_drop, List.drop_eq_getElem_cons (by omega), hg,
    show j - (i + 1) - k = (j - (i + 1 + k + 1)) + 1 by omega, List.take_succ_cons]

/-- the model's recursion `DP.sectionMask` as a function on index pairs and `usePt` masks: the mask of the interior of the
section `(i, j)` is written over `usePt[i+1 .. j-1]` -/
def modelRec (pts : List (Cxx.XY R)) (tol : R) (fuel : Nat) (i j : Nat) (use : List Bool) : List Bool :=
  splice use (i + 1) (sectionMask cxxOps tol fuel (pts.getD i zeroXY) (midOf pts i j) (pts.getD j zeroXY))

theorem modelRec_length (pts : List (Cxx.XY R)) (tol : R) (n i j : Nat) (use : List Bool) (hij : i < j) (hj : j < pts.length)
    (hlen : use.length = pts.length) : (modelRec pts tol n i j use).length = use.length :=
  splice_length _ _ _ (by rw [sectionMask_length, midOf_length pts i j hj]; omega)

/-- the recursion on the section `(i, j)` writes only inside it -/
theorem modelRec_getElem?_of_le (pts : List (Cxx.XY R)) (tol : R) (n i j : Nat) (use : List Bool) (hij : i < j)
    (hj : j < pts.length) (hlen : use.length = pts.length) (q : Nat) (hq : j ≤ q) : (modelRec pts tol n i j use)[q]? = use[q]? := by
  unfold modelRec
  rw [splice_getElem? _ _ _ _ (by rw [sectionMask_length, midOf_length pts i j hj]; omega), sectionMask_length,
    midOf_length pts i j hj, if_neg (by omega), if_neg (by omega)]

/-- **the case tree of `simplifySection(i, j)`**, whatever the recursive call `recur` is: an empty interior is left alone; else,
with `r` the farthest-vertex result on the interior, the interior is cleared, or (no vertex beyond `-1.0`) the code recurses on
`(i, i)` and `(i, j)`, or it recurses on the two halves at the farthest vertex `i + 1 + k` -/
theorem simplifySection_cases (pts : List (Cxx.XY R)) (tol : R) (i j : Nat) (hij : i < j) (hj : j < pts.length)
    (r : R × Option Nat) (hr : farthest cxxOps (pts.getD i zeroXY) (pts.getD j zeroXY) (midOf pts i j) = r) :
    (i + 1 = j ∧ ∀ recur use, DPSimplify.simplifySection recur pts tol use i j = use) ∨
    (i + 1 < j ∧ (cxxOps (R := R)).le r.1 tol = true ∧
      ∀ recur use, DPSimplify.simplifySection recur pts tol use i j = clearRange use (i + 1) j) ∨
    (i + 1 < j ∧ ¬ (cxxOps (R := R)).le r.1 tol = true ∧ r.2 = none ∧
      ∀ recur use, DPSimplify.simplifySection recur pts tol use i j = recur i j (recur i i use)) ∨
    ∃ k, i + 1 + k < j ∧ ¬ (cxxOps (R := R)).le r.1 tol = true ∧ r.2 = some k ∧
      ∀ recur use, DPSimplify.simplifySection recur pts tol use i j = recur (i + 1 + k) j (recur i (i + 1 + k) use) := by
  have hS := fun recur use => gen_simplifySection_eq recur pts tol use i j hij hj
  simp only [show (pts.drop (i + 1)).take (j - (i + 1)) = midOf pts i j from rfl, hr] at hS
  by_cases h1 : i + 1 = j
  · exact Or.inl ⟨h1, fun recur use => by rw [hS, if_pos h1]⟩
  have h1' : i + 1 < j := by omega
  by_cases hle : (cxxOps (R := R)).le r.1 tol = true
  · exact Or.inr (Or.inl ⟨h1', hle, fun recur use => by rw [hS, if_neg h1, if_pos hle]⟩)
  cases hs : r.2 with
  | none => exact Or.inr (Or.inr (Or.inl ⟨h1', hle, rfl, fun recur use => by rw [hS, if_neg h1, if_neg hle, hs]; rfl⟩))
  | some k =>
    have hk := farthest_idx _ _ _ _ k (hr ▸ hs)
    rw [midOf_length pts i j hj] at hk
    exact Or.inr (Or.inr (Or.inr ⟨k, by omega, hle, rfl, fun recur use => by rw [hS, if_neg h1, if_neg hle, hs]; rfl⟩))

theorem gen_simplifySection_fix (pts : List (Cxx.XY R)) (tol : R) (fuel : Nat) (use : List Bool) (i j : Nat)
    (hij : i < j) (hj : j < pts.length) (hlen : use.length = pts.length)
    (htrue : ∀ k, i < k → k < j → use[k]? = some true) :
    DPSimplify.simplifySection (modelRec pts tol fuel) pts tol use i j = modelRec pts tol (fuel + 1) i j use := by
  have hml := midOf_length pts i j hj
  unfold modelRec
  rcases simplifySection_cases pts tol i j hij hj _ rfl with ⟨h1, h⟩ | ⟨h1, hle, h⟩ | ⟨h1, hle, hs, h⟩ | ⟨k, hk, hle, hs, h⟩
  · rw [h, List.eq_nil_of_length_eq_zero (hml.trans (by omega)), sectionMask_nil, splice_nil]
  · rw [h, sectionMask_drop _ _ _ _ _ _ hle, List.map_const', hml]
    exact clearRange_eq_splice use (i + 1) j (by omega) (by omega)
  · -- the C++ recurses on (i, i) and (i, j)
    rw [h, show midOf pts i i = [] by simp [midOf], sectionMask_nil, splice_nil,
      sectionMask_of_none _ _ _ _ _ hle hs, sectionMask_of_none _ _ _ _ _ hle hs]
  · have hX := sectionMask_length (cxxOps (R := R)) tol fuel (pts.getD i zeroXY) (midOf pts i (i + 1 + k)) (pts.getD (i + 1 + k) zeroXY)
    rw [midOf_length pts i _ (by omega)] at hX
    rw [h, sectionMask_split _ _ _ _ _ _ k _ _ hle hs (midOf_drop pts i j k hk hj), midOf_take pts i j k hk,
      show i + 1 + k + 1 = i + 1 + (sectionMask (cxxOps (R := R)) tol fuel (pts.getD i zeroXY) (midOf pts i (i + 1 + k))
        (pts.getD (i + 1 + k) zeroXY)).length + 1 by rw [hX]; omega]
    apply splice_splice
    · rw [hX, sectionMask_length, midOf_length pts _ j hj]; omega
    · rw [hX]; exact htrue _ (by omega) (by omega)

/-- **the recursion as a whole.**  Any function `f` that satisfies the regenerated defining equation of
`DouglasPeuckerLineSimplifier::simplifySection` — which the C++ function does, being defined by that body, whenever it
terminates — computes the model's `DP.sectionMask` on every section `i < j < pts.size()` whose interior flags are still all
`true` (the state in which the C++ reaches every section), provided `-1.0 <= distanceTolerance` (any tolerance ≥ 0). -/
theorem gen_simplifySection_unique (pts : List (Cxx.XY R)) (tol : R)
    (hinit : (cxxOps (R := R)).le cxxOps.init tol = true)
    (f : Nat → Nat → List Bool → List Bool)
    (hf : ∀ i j use, i < j → j < pts.length → f i j use = DPSimplify.simplifySection f pts tol use i j) :
    ∀ (n i j : Nat) (use : List Bool), j - i ≤ n → i < j → j < pts.length → use.length = pts.length →
      (∀ k, i < k → k < j → use[k]? = some true) → f i j use = modelRec pts tol n i j use
  | 0, i, j, use, h, hij, _, _, _ => by omega
  | n + 1, i, j, use, hn, hij, hj, hlen, htrue => by
    rw [← gen_simplifySection_fix pts tol n use i j hij hj hlen htrue, hf i j use hij hj]
    rcases simplifySection_cases pts tol i j hij hj _ rfl with ⟨_, h⟩ | ⟨_, _, h⟩ | ⟨_, hle, hs, _⟩ | ⟨k, hk, _, _, h⟩
    · rw [h, h]
    · rw [h, h]
    · -- then `maxDistance` still is `-1.0`, which is `<= distanceTolerance`
      exact absurd (farthest_none (cxxOps (R := R)) _ _ _ hs ▸ hinit) hle
    · have hik : i < i + 1 + k := by omega
      have hkl : i + 1 + k < pts.length := Nat.lt_trans hk hj
      rw [h, h, gen_simplifySection_unique pts tol hinit f hf n i (i + 1 + k) use (by omega) hik hkl hlen
        (fun q h1 h2 => htrue q h1 (Nat.lt_trans h2 hk))]
      refine gen_simplifySection_unique pts tol hinit f hf n (i + 1 + k) j _ (by omega) hk hj
        ((modelRec_length pts tol n i _ use hik hkl hlen).trans hlen) ?_
      intro q hq1 hq2
      rw [modelRec_getElem?_of_le pts tol n i _ use hik hkl hlen q (Nat.le_of_lt hq1)]
      exact htrue q (Nat.lt_trans hik hq1) hq2

/-- … hence the `usePt` mask after `simplifySection(0, n-1)` on the all-`true` mask — the state `simplify()` collects the
result from — is the mask `DP.simplifyLineMask` applies (Model/Simplify/DP.lean; equal to the list form all DP theorems of
`Props/C18.lean` are about by `dp_mask_eq`) -/
theorem gen_simplify_mask (a : Cxx.XY R) (rest : List (Cxx.XY R)) (b : Cxx.XY R) (hb : rest.getLast? = some b) (tol : R)
    (hinit : (cxxOps (R := R)).le cxxOps.init tol = true)
    (f : Nat → Nat → List Bool → List Bool)
    (hf : ∀ i j use, i < j → j < (a :: rest).length → f i j use = DPSimplify.simplifySection f (a :: rest) tol use i j) :
    f 0 rest.length (List.replicate (rest.length + 1) true) =
      true :: (sectionMask cxxOps tol rest.length a rest.dropLast b ++ [true]) := by
  have hpos : 0 < rest.length := List.length_pos_iff.mpr (by intro h; simp [h] at hb)
  rw [gen_simplifySection_unique (a :: rest) tol hinit f hf rest.length 0 rest.length _ (by omega) hpos (by simp)
    (by simp) (by intro k h1 h2; simp [List.getElem?_replicate]; omega)]
  have hmid : midOf (a :: rest) 0 rest.length = rest.dropLast := by
    simp [midOf, List.dropLast_eq_take]
  have hlast : (a :: rest).getD rest.length zeroXY = b := by
    rw [List.getLast?_eq_getElem?] at hb
    obtain ⟨m, hm⟩ : ∃ m, rest.length = m + 1 := ⟨rest.length - 1, by omega⟩
    rw [hm, List.getD_cons_succ, List.getD_eq_getElem?_getD, ← Nat.add_sub_cancel (n := m) (m := 1), ← hm, hb]; rfl
  unfold modelRec splice
  rw [hmid, hlast, sectionMask_length, List.length_dropLast, List.take_replicate, List.drop_replicate,
    show min (0 + 1) (rest.length + 1) = 1 by omega, show rest.length + 1 - (0 + 1 + (rest.length - 1)) = 1 by omega]
  rfl

/-! non-vacuity: the regenerated section test computes on the exact carrier `Int`-free instance… the hypotheses `i < j <
pts.length` are satisfiable and both branches of the decision occur (carrier `Float` is not evaluable in the kernel; the
theorem is used at `Float` by the driver) -/
example : clearRange [true, true, true, true, true] 1 4 = [true, false, false, false, true] := by decide
example : idxOf 3 none = 3 ∧ idxOf 3 (some 2) = 6 := by decide

end GeosModel.C18Gen
