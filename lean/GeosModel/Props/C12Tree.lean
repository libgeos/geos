import GeosModel.Model.Api.Precond
/-!
# C12, section D — the documented life cycle of an STRtree ("no more items may be added" once built)

Theorems about `Model/Api/Precond.lean` (`TreeLife`), the part of legality that is not ownership.  They say that the
filter applied by the driver accepts exactly the sequences that never insert into a tree after a building call on it.
-/
namespace GeosModel.Api.TreeLife

/-- what one call does: an insertion into a built tree is refused; a building call records its tree; everything else leaves
the state alone -/
theorem step_cases (built : List Nat) (fn : String) (t : Option Nat) :
    (step built fn t = none ∧ fn = inserter ∧ ∃ u, t = some u ∧ u ∈ built) ∨ step built fn t = some built ∨
      ∃ u, t = some u ∧ builders.contains fn = true ∧ step built fn t = some (u :: built) := by
  unfold step
  cases t with
  | none => exact .inr (.inl rfl)
  | some u =>
    dsimp only
    by_cases hf : (fn == inserter) = true
    · rw [if_pos hf]
      by_cases hc : built.contains u = true
      · exact .inl ⟨if_pos hc, beq_iff_eq.mp hf, u, rfl, List.contains_iff_mem.mp hc⟩
      · exact .inr (.inl (if_neg hc))
    · rw [if_neg hf]
      by_cases hb : builders.contains fn = true
      · exact .inr (.inr ⟨u, rfl, hb, if_pos hb⟩)
      · exact .inr (.inl (if_neg hb))

/-- the trees built so far only grow -/
theorem step_mono (built : List Nat) (fn : String) (t : Option Nat) (b : List Nat) (h : step built fn t = some b) :
    ∀ x ∈ built, x ∈ b := by
  rcases step_cases built fn t with ⟨h', -⟩ | h' | ⟨u, -, -, h'⟩ <;> cases h'.symm.trans h
  · exact fun _ hx => hx
  · exact fun _ hx => List.mem_cons_of_mem _ hx

/-- a building call records its tree -/
theorem step_builder (built : List Nat) (fn : String) (t : Nat) (hb : builders.contains fn = true) :
    step built fn (some t) = some (t :: built) := by
  have hne : (fn == inserter) = false := by
    have : builders.contains inserter = false := by decide +kernel
    cases hf : fn == inserter
    · rfl
    · rw [beq_iff_eq.mp hf, this] at hb; cases hb
  unfold step
  dsimp only
  rw [hne, if_neg Bool.false_ne_true, if_pos hb]

/-- **an insertion is refused exactly when its tree was built before** -/
theorem step_insert (built : List Nat) (t : Nat) :
    step built inserter (some t) = if built.contains t then none else some built := by
  simp [step]

theorem run_mono : ∀ (cs : List (String × Option Nat)) (built b : List Nat), run built cs = some b → ∀ x ∈ built, x ∈ b
  | [], built, b, h => by cases h; exact fun _ hx => hx
  | (fn, t) :: rest, built, b, h => by
    rw [run] at h
    cases hs : step built fn t with
    | none => rw [hs] at h; cases h
    | some b1 =>
      rw [hs] at h
      exact fun x hx => run_mono rest b1 b h x (step_mono built fn t b1 hs x hx)

/-- **soundness of the filter**: a sequence is refused whenever it contains a building call on a tree followed, anywhere
later, by an insertion into the same tree -/
theorem run_refuses_insert_after_build (pre mid post : List (String × Option Nat)) (fn : String) (t : Nat) (built : List Nat)
    (hb : builders.contains fn = true) :
    run built (pre ++ (fn, some t) :: mid ++ (inserter, some t) :: post) = none := by
  induction pre generalizing built with
  | cons c pre ih =>
    obtain ⟨f, a⟩ := c
    simp only [List.cons_append, run]
    cases step built f a with
    | none => rfl
    | some b1 => exact ih b1
  | nil =>
    simp only [List.nil_append, List.cons_append, run, step_builder built fn t hb]
    -- from here on `t` is in the state
    have key : ∀ (mid : List (String × Option Nat)) (b : List Nat), t ∈ b → run b (mid ++ (inserter, some t) :: post) = none := by
      intro mid
      induction mid with
      | nil =>
        intro b hb'
        simp only [List.nil_append, run, step_insert]
        simp [hb']
      | cons c mid ih2 =>
        intro b hb'
        obtain ⟨f, a⟩ := c
        simp only [List.cons_append, run]
        cases hs : step b f a with
        | none => rfl
        | some b1 => exact ih2 b1 (step_mono b f a b1 hs t hb')
    exact key mid (t :: built) (by simp)

/-- **completeness**: a sequence in which no insertion into a tree comes after a building call on that tree (and none of the
trees was built at the start) is accepted -/
theorem run_accepts (cs : List (String × Option Nat)) (built : List Nat)
    (h : ∀ pre t post, cs = pre ++ (inserter, some t) :: post →
      t ∉ built ∧ ∀ fn, builders.contains fn = true → (fn, some t) ∉ pre) :
    (run built cs).isSome = true := by
  induction cs generalizing built with
  | nil => rfl
  | cons c rest ih =>
    obtain ⟨f, a⟩ := c
    rw [run]
    cases hs : step built f a with
    | none =>
      rcases step_cases built f a with ⟨-, rfl, u, rfl, hu⟩ | h' | ⟨_, -, -, h'⟩
      · exact absurd hu (h [] u rest rfl).1
      · cases h'.symm.trans hs
      · cases h'.symm.trans hs
    | some b1 =>
      refine ih b1 fun pre t post hcs => ?_
      have h0 := h ((f, a) :: pre) t post (by rw [hcs]; rfl)
      refine ⟨fun hmem => ?_, fun fn hfn hmem => h0.2 fn hfn (List.mem_cons_of_mem _ hmem)⟩
      -- `t ∉ b1`: the state grew only by the tree of a building call, and `(f, a)` is no building call on `t`
      rcases step_cases built f a with ⟨h', -⟩ | h' | ⟨u, rfl, hb, h'⟩ <;> cases h'.symm.trans hs
      · exact h0.1 hmem
      · rcases List.mem_cons.mp hmem with rfl | hm
        · exact h0.2 f hb (List.mem_cons_self ..)
        · exact h0.1 hm

/-! non-vacuity: insert, insert, query, iterate is fine; an insert after the query is refused; iterate does not build -/
example : (run [] [("GEOSSTRtree_insert_r", some 0), ("GEOSSTRtree_insert_r", some 0), ("GEOSSTRtree_query_r", some 0),
    ("GEOSSTRtree_iterate_r", some 0)]) = some [0] := by decide +kernel
example : (run [] [("GEOSSTRtree_insert_r", some 0), ("GEOSSTRtree_query_r", some 0), ("GEOSSTRtree_insert_r", some 0)]) = none := by decide +kernel
example : (run [] [("GEOSSTRtree_insert_r", some 0), ("GEOSSTRtree_iterate_r", some 0), ("GEOSSTRtree_insert_r", some 0)]) = some [] := by decide +kernel
example : (run [] [("GEOSSTRtree_query_r", some 0), ("GEOSSTRtree_insert_r", some 1)]) = some [0] := by decide +kernel

end GeosModel.Api.TreeLife
