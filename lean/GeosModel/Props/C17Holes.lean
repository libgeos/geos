import GeosModel.Model.Fix.Holes
import GeosModel.Model.Fix.Spec
/-!
# C17 — the hole phase of `GeometryFixer::fixPolygonElement` (Model/Fix/Holes.lean)

For every fixed shell, every list of fixed holes and every answer function of the one decision
(`shellPrep->intersects(hole)`), the point set the control flow builds is

    (shell \ ⋃ {holes the oracle says meet the shell})  ∪  ⋃ {holes it says do not}

(`withHoles_mem`); with a *sound* oracle (a hole it calls disjoint has no point in the shell) that is the documented
"union of the shells minus the holes, holes outside the shell become polygons" (`withHoles_documented`); it does not depend on the
order of the holes (`withHoles_perm`); it never leaves the union of the ring regions (`withHoles_subset`).  An oracle that wrongly
answers "disjoint" for a hole turns every point of that hole into area, shell points included
(`misclassified_hole_is_added` — the effect of looking at the first component of a multi-part shell only).
`expectedInPrep_eq_withHoles` ties the model to the expectation the driver's area clause evaluates (Model/Fix/Spec.lean); the
stream `hole-class` ties the decision itself to the real `classifyHoles`.
-/
namespace GeosModel.Fix.Holes
open GeosModel.Kernel GeosModel.Relate GeosModel.Fix

variable {α β : Type}

theorem classifyLoop_aux (meets : β → Bool) (l a b : List β) :
    l.foldl (fun acc h => if meets h then (acc.1 ++ [h], acc.2) else (acc.1, acc.2 ++ [h])) (a, b)
      = (a ++ l.filter meets, b ++ l.filter (fun h => !meets h)) := by
  induction l generalizing a b with
  | nil => simp
  | cons h t ih =>
    simp only [List.foldl_cons]
    cases hm : meets h <;> simp [hm, ih]

/-- the loop of `classifyHoles` splits the fixed holes by the oracle, keeping their order -/
theorem classifyLoop_eq_filter (meets : β → Bool) (l : List β) :
    classifyLoop meets l = (l.filter meets, l.filter (fun h => !meets h)) := by
  simp [classifyLoop, classifyLoop_aux]

/-- every fixed hole lands in exactly one of the two lists -/
theorem classifyLoop_partition (meets : β → Bool) (l : List β) (h : β) :
    (h ∈ (classifyLoop meets l).1 ↔ h ∈ l ∧ meets h = true) ∧ (h ∈ (classifyLoop meets l).2 ↔ h ∈ l ∧ meets h = false) := by
  simp [classifyLoop_eq_filter, List.mem_filter]

theorem unionGeometry_mem (ps : List (α → Bool)) (x : α) : unionGeometry ps x = ps.any (· x) := by
  match ps with
  | [] => rfl
  | [p] => simp [unionGeometry]
  | _ :: _ :: _ => rfl

theorem difference_mem (shell : α → Bool) (hs : List (α → Bool)) (x : α) :
    difference shell hs x = (shell x && !hs.any (· x)) := by
  match hs with
  | [] => simp [difference]
  | [h] => simp [difference]
  | _ :: _ :: _ => simp [difference, unionGeometry]

/-- the point set built by the hole phase, for ANY answers of the intersects test -/
theorem withHoles_mem (mem : β → α → Bool) (meets : β → Bool) (shell : α → Bool) (hs : List β) (x : α) :
    withHoles mem meets shell hs x =
      ((shell x && !(hs.filter meets).any (mem · x)) || (hs.filter (fun h => !meets h)).any (mem · x)) := by
  unfold withHoles
  cases he : hs.isEmpty
  · simp only [Bool.false_eq_true, if_false, classifyLoop_eq_filter]
    cases h2 : (hs.filter fun h => !meets h).isEmpty
    · simp [unionGeometry_mem, difference_mem, List.any_append, List.any_map, Function.comp_def, Bool.or_comm]
    · simp [List.isEmpty_iff.1 h2, difference_mem, List.any_map, Function.comp_def]
  · simp [List.isEmpty_iff.1 he]

/-- the same as a statement about points: in the shell and in no subtracted hole, or in an added hole -/
theorem withHoles_iff (mem : β → α → Bool) (meets : β → Bool) (shell : α → Bool) (hs : List β) (x : α) :
    withHoles mem meets shell hs x = true ↔
      (shell x = true ∧ ∀ h ∈ hs, meets h = true → mem h x = false) ∨ ∃ h ∈ hs, meets h = false ∧ mem h x = true := by
  simp [withHoles_mem]

/-- with a sound oracle the result is the documented one: the shell minus ALL holes, plus the holes found disjoint -/
theorem withHoles_documented (mem : β → α → Bool) (meets : β → Bool) (shell : α → Bool) (hs : List β)
    (sound : ∀ h ∈ hs, meets h = false → ∀ x, shell x = true → mem h x = false) (x : α) :
    withHoles mem meets shell hs x =
      ((shell x && !hs.any (mem · x)) || (hs.filter (fun h => !meets h)).any (mem · x)) := by
  rw [Bool.eq_iff_iff, withHoles_iff]
  simp only [Bool.or_eq_true, Bool.and_eq_true, Bool.not_eq_true', List.any_eq_false, List.any_eq_true, List.mem_filter, and_assoc]
  -- in the shell a hole found disjoint has no point, so "no subtracted hole" is "no hole"
  refine or_congr_left (and_congr_right fun hx => forall₂_congr fun h hin => ?_)
  cases hm : meets h
  · simp [sound h hin hm x hx]
  · simp

/-- a hole the oracle calls disjoint becomes area with all its points — also those inside the shell -/
theorem misclassified_hole_is_added (mem : β → α → Bool) (meets : β → Bool) (shell : α → Bool) (hs : List β)
    (h : β) (hin : h ∈ hs) (hm : meets h = false) (x : α) (hx : mem h x = true) :
    withHoles mem meets shell hs x = true := by
  exact (withHoles_iff ..).2 (.inr ⟨h, hin, hm, hx⟩)

/-- a hole the oracle says meets the shell removes its points, unless an added hole covers them -/
theorem subtracted_hole_removes (mem : β → α → Bool) (meets : β → Bool) (shell : α → Bool) (hs : List β)
    (h : β) (hin : h ∈ hs) (hm : meets h = true) (x : α) (hx : mem h x = true)
    (hadd : ∀ k ∈ hs, meets k = false → mem k x = false) :
    withHoles mem meets shell hs x = false := by
  refine Bool.eq_false_iff.2 fun hw => ?_
  rcases (withHoles_iff ..).1 hw with ⟨-, hall⟩ | ⟨k, hk, hkm, hkx⟩
  · exact Bool.false_ne_true ((hall h hin hm).symm.trans hx)
  · exact Bool.false_ne_true ((hadd k hk hkm).symm.trans hkx)

/-- the result stays inside the union of the fixed ring regions -/
theorem withHoles_subset (mem : β → α → Bool) (meets : β → Bool) (shell : α → Bool) (hs : List β) (x : α)
    (hx : withHoles mem meets shell hs x = true) : shell x = true ∨ ∃ h ∈ hs, mem h x = true := by
  rcases (withHoles_iff ..).1 hx with ⟨hs', -⟩ | ⟨h, hin, -, hm⟩
  · exact .inl hs'
  · exact .inr ⟨h, hin, hm⟩

/-- without holes, and when every hole is subtracted -/
theorem withHoles_nil (mem : β → α → Bool) (meets : β → Bool) (shell : α → Bool) : withHoles mem meets shell [] = shell := by
  simp [withHoles]

theorem withHoles_all_meet (mem : β → α → Bool) (meets : β → Bool) (shell : α → Bool) (hs : List β)
    (hall : ∀ h ∈ hs, meets h = true) (x : α) : withHoles mem meets shell hs x = (shell x && !hs.any (mem · x)) := by
  rw [Bool.eq_iff_iff, withHoles_iff]
  simp +contextual [hall]

/-- the order of the interior rings does not matter -/
theorem withHoles_perm (mem : β → α → Bool) (meets : β → Bool) (shell : α → Bool) {l1 l2 : List β} (hp : l1.Perm l2) (x : α) :
    withHoles mem meets shell l1 x = withHoles mem meets shell l2 x := by
  rw [withHoles_mem, withHoles_mem, (hp.filter meets).any_eq, (hp.filter fun h => !meets h).any_eq]

/-- the expectation of the driver's area clause (Model/Fix/Spec.lean) is this model with the ring regions as point sets and
`holeMeetsShell` as the oracle -/
theorem expectedInPrep_eq_withHoles (x : HPt) (shell : List Pt) (holes : List (List Pt)) :
    expectedInPrep x (prepPolygon (shell :: holes)) =
      (ringHasArea shell && withHoles (fun r y => inNZ y r) (holeMeetsShell shell) (fun y => inNZ y shell) holes x) := by
  rw [withHoles_mem]
  unfold prepPolygon expectedInPrep
  cases h : ringHasArea shell <;> simp [h]

/-! non-vacuity, and why soundness of the oracle is needed: points are numbers, the shell has the two parts {0} and {1}, the hole
{1, 2} swallows the second part.  The true oracle subtracts it; an oracle that looks at the first part only (point 0) calls the
hole disjoint and the result gains the points 1 and 2. -/
example : (List.range 4).map (withHoles (fun (h : List Nat) x => h.contains x) (fun h => h.any fun x => x == 0 || x == 1)
    (fun x => x == 0 || x == 1) [[1, 2]]) = [true, false, false, false] := by decide
example : (List.range 4).map (withHoles (fun (h : List Nat) x => h.contains x) (fun h => h.contains 0)
    (fun x => x == 0 || x == 1) [[1, 2]]) = [true, true, true, false] := by decide
example : classifyLoop (fun n : Nat => n % 2 == 0) [1, 2, 3, 4] = ([2, 4], [1, 3]) := by decide

end GeosModel.Fix.Holes
