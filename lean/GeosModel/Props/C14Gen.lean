import Lean.Elab.Tactic
import GeosModel.Model.Interrupt.Proto
import GeosModel.Generated.Interrupt
/-!
# C14 — the regenerated `geos::util::Interrupt` functions are the protocol model the theorems are about

`Generated/Interrupt.lean` is rewritten from `src/util/Interrupt.cpp` and `capi/geos_c.cpp` by `translate/cxx2lean.py`
(spec `interrupt`, parser extension `translate/specs/t4ext.py`) on every run, statement by statement.  The two
file-static variables are the state: a function that assigns `requested` / `callback` takes the old value and returns
the new one; `Interrupt::interrupt` and `Interrupt::process`, which throw, return `(thrown, requested)`.  The translator
also checks (and refuses otherwise) that the two variables are the *only* file-level state, that they start as
`false` / `nullptr` (`State.init0`), that `GEOS_CHECK_FOR_INTERRUPTS()` expands to exactly `Interrupt::process()`, and that
`GEOS_init_r` is `new context; Interrupt::cancel(); return` (`geosInit`).

The theorems below prove every regenerated function equal to the hand-written function of `Model/Interrupt/Proto.lean`
— the object of all theorems of `Props/C14.lean` — for **every** interrupt state, every callback behaviour `cb : Cb`
and every poll index `i`.  The single connecting interpretation: the call `(*cb)()` through the registered pointer is
the abstract parameter `invoke` of the regenerated `process`; it is instantiated with `invokeCb i` ("the callback's
action at poll `i` applied to the flag", `applyAct (cb i)`), which is exactly how the model lets a callback act.
-/
set_option linter.unusedSimpArgs false
namespace GeosModel.C14Gen
open GeosModel GeosModel.Interrupt

open Lean Elab Tactic Meta in
/-- `unfold_gen_c14`: δ-expand, in the goal, every definition of the namespace `GeosModel.Generated.Interrupt` — the
functions named by the spec *and* whatever helper functions the C++ has today (the translator wires the helpers it finds
next to the two variables automatically, e.g. a `takeRequest()`); the proofs below therefore do not depend on how the
C++ splits the work between functions. -/
elab "unfold_gen_c14" : tactic =>
  liftMetaTactic fun g => do
    let e ← instantiateMVars (← g.getType)
    let e' ← Meta.deltaExpand e (fun n => (`GeosModel.Generated.Interrupt).isPrefixOf n)
    return [← g.replaceTargetDefEq e']

/-- `Interrupt::request()` -/
theorem gen_request_eq (s : State) :
    request s = ⟨Generated.Interrupt.request s.requested, s.callback⟩ := by
  unfold_gen_c14; simp [request]

/-- `Interrupt::cancel()` -/
theorem gen_cancel_eq (s : State) :
    cancel s = ⟨Generated.Interrupt.cancel s.requested, s.callback⟩ := by
  unfold_gen_c14; simp [cancel]

/-- `Interrupt::check()` -/
theorem gen_check_eq (s : State) : Generated.Interrupt.check s.requested = check s := by
  unfold_gen_c14; simp [check]

/-- `Interrupt::registerCallback(cb)`: returns the previous pointer, installs the new one, leaves the flag alone -/
theorem gen_registerCallback_eq (s : State) (cb : Option Cb) :
    registerCallback s cb =
      (⟨s.requested, (Generated.Interrupt.registerCallback s.callback cb).2⟩,
       (Generated.Interrupt.registerCallback s.callback cb).1) := by
  unfold_gen_c14; simp [registerCallback]

/-- `Interrupt::interrupt()`: clears the flag and throws, whatever the flag was -/
theorem gen_interrupt_eq (q : Bool) : Generated.Interrupt.interrupt q = (true, false) := by
  unfold_gen_c14; simp

/-- `Interrupt::process()` as the `i`-th poll: same new state, same "threw `InterruptedException`" as the model, for every
state (callback registered or not, request pending or not) and every callback behaviour -/
theorem gen_process_eq (s : State) (i : Nat) :
    process s i =
      (⟨(Generated.Interrupt.process (invokeCb i) s.callback s.requested).2, s.callback⟩,
       (Generated.Interrupt.process (invokeCb i) s.callback s.requested).1) := by
  obtain ⟨q, c⟩ := s
  cases c with
  | none => cases q <;> unfold_gen_c14 <;> simp [process, invokeCb]
  | some cb =>
    cases h : cb i <;> cases q <;> unfold_gen_c14 <;>
      simp [process, invokeCb, applyAct, request, cancel, h]

/-- `GEOS_interruptRequest()` / `GEOS_interruptCancel()` / `GEOS_interruptRegisterCallback(cb)` of the C API are the
three functions above -/
theorem gen_capiRequest_eq (s : State) :
    request s = ⟨Generated.Interrupt.capiRequest s.requested, s.callback⟩ := by
  unfold_gen_c14; simp [request]

theorem gen_capiCancel_eq (s : State) :
    cancel s = ⟨Generated.Interrupt.capiCancel s.requested, s.callback⟩ := by
  unfold_gen_c14; simp [cancel]

theorem gen_capiRegisterCallback_eq (s : State) (cb : Option Cb) :
    registerCallback s cb =
      (⟨s.requested, (Generated.Interrupt.capiRegisterCallback s.callback cb).2⟩,
       (Generated.Interrupt.capiRegisterCallback s.callback cb).1) := by
  unfold_gen_c14; simp [registerCallback]

/-- one poll of `runFrom` (Model/Interrupt/Proto.lean), written with the regenerated `process` -/
theorem gen_poll_eq {ρ : Type} (r : ρ) (rem i : Nat) (s : State) :
    runFrom r (rem + 1) i s =
      (let p := Generated.Interrupt.process (invokeCb i) s.callback s.requested
       if p.1 then (⟨p.2, s.callback⟩, .interrupted i) else runFrom r rem (i + 1) ⟨p.2, s.callback⟩) := by
  rw [runFrom, gen_process_eq]
  generalize Generated.Interrupt.process (invokeCb i) s.callback s.requested = p
  obtain ⟨t, q⟩ := p
  cases t <;> simp

/-! ### the regenerated `process` meets the property's demand directly — for an ARBITRARY callback

Here `invoke` is any function at all (the callback may compute the new flag from the old one in any way, not only by
the three actions `Act` of the model), and `C` any type. -/

/-- `process()` throws exactly when a request is pending after the callback (if one is registered) has run -/
theorem gen_process_throws_iff {C : Type} (invoke : Option C → Bool → Bool) (c : Option C) (q : Bool) :
    (Generated.Interrupt.process invoke c q).1 = (if c.isSome then invoke c q else q) := by
  -- with `q'` the flag after the callback: the branch `if q'` clears the flag and throws, the other leaves `false` and returns
  cases c <;> unfold_gen_c14 <;> simp <;> split <;> simp_all

/-- whether it throws or not, no request is pending when `process()` is left: "… and clears the request" -/
theorem gen_process_clears {C : Type} (invoke : Option C → Bool → Bool) (c : Option C) (q : Bool) :
    (Generated.Interrupt.process invoke c q).2 = false := by
  -- the throwing branch assigns `false` before it throws; the other branch is taken only when the flag is `false`
  cases c <;> unfold_gen_c14 <;> simp <;> split <;> simp_all

/-- a null callback pointer is never called -/
theorem gen_process_null_not_called {C : Type} (invoke invoke' : Option C → Bool → Bool) (q : Bool) :
    Generated.Interrupt.process invoke none q = Generated.Interrupt.process invoke' none q := by
  unfold_gen_c14; simp

/-! non-vacuity: the regenerated `process` run on concrete states -/
example : Generated.Interrupt.process (invokeCb 3) (some (requestAt 3)) false = (true, false) := by decide
example : Generated.Interrupt.process (invokeCb 2) (some (requestAt 3)) false = (false, false) := by decide
example : Generated.Interrupt.process (invokeCb 1) (some (cancelAt 1)) true = (false, false) := by decide
example : Generated.Interrupt.process (invokeCb 1) (none : Option Cb) true = (true, false) := by decide

end GeosModel.C14Gen
