import GeosModel.Base.IM
import GeosModel.Generated.IMMatrix
import GeosModel.Props.C01Gen
import GeosModel.Proofs.Relate.IMLemmas
/-!
# C02 — the regenerated matrix operations of `geom::IntersectionMatrix` are the model the agreement algebra is about

`Generated/IMMatrix.lean` is rewritten from `include/geos/geom/IntersectionMatrix.h` (`get`) and
`src/geom/IntersectionMatrix.cpp` (`set`, `setAtLeast`, `transpose`, `matches(const std::string&)`) by
`translate/cxx2lean.py` (spec `im_matrix`) on every run, statement by statement; the member
`std::array<std::array<int,3>,3> matrix` is the nine fields of `IM` in row-major order.  The theorems below prove each
regenerated function equal to the hand-written definition of `Base/IM` — `IM.get`, `IM.set`, `IM.raise`, `IM.transpose`,
`IM.matchesPat`: the objects of the transposition laws, of `matchesPat_transpose` and of the test `consistent` in
`Props/C02.lean` — for **every** matrix (arbitrary integer entries), location pair, value and pattern string (also the strings of
a length other than 9, for which the C++ throws).  The static `matches(int, char)` that `matches(pattern)` calls and the ten
named predicates are the regenerated ones of `Generated/IMPreds` (translate/im_preds.py, bridge `Props/C01Gen.lean`), which
the check of C02 regenerates and proves as well.
-/
namespace GeosModel.C02Gen
open GeosModel GeosModel.Generated

theorem gen_get_eq (m : IM) (a b : Loc3) : IMMatrix.get m a b = m.get a b := by
  cases a <;> cases b <;> rfl

theorem gen_set_eq (m : IM) (a b : Loc3) (v : Int) : IMMatrix.set m a b v = m.set a b v := by
  cases a <;> cases b <;> rfl

/-- `setAtLeast`: entries only grow — the `raise` of the relate engines' event folding -/
theorem gen_setAtLeast_eq (m : IM) (a b : Loc3) (v : Int) : IMMatrix.setAtLeast m a b v = m.raise a b v := by
  have skel : ∀ (c : Bool) (x y : IM), (Id.run do
      let mut matrix : IM := x
      if c then
        matrix := y
      return matrix) = if c then y else x := by intro c x y; cases c <;> rfl
  refine (skel _ _ _).trans ?_
  simp only [IM.raise, gen_get_eq, gen_set_eq, decide_eq_true_eq, gt_iff_lt]

theorem gen_transpose_eq (m : IM) : IMMatrix.transpose m = m.transpose := by
  cases m; rfl

/-- the two nested loops of `matches(pattern)` with their early `return false`, over an arbitrary cell test -/
def cellLoop (t : Nat → Nat → Bool) : Except String Bool := do
  for ai in [0:(3 : Nat)] do
    for bi in [0:(3 : Nat)] do
      if (!(t ai bi)) then
        return false
  return true

/-- the loops return `false` at the first cell that fails: nine tests, ten outcomes -/
theorem cellLoop_eq (t : Nat → Nat → Bool) :
    cellLoop t = .ok ([t 0 0, t 0 1, t 0 2, t 1 0, t 1 1, t 1 2, t 2 0, t 2 1, t 2 2].all id) := by
  have hr : List.range' 0 3 = [0, 1, 2] := rfl
  simp [cellLoop, hr]
  generalize t 0 0 = x1; generalize t 0 1 = x2; generalize t 0 2 = x3
  generalize t 1 0 = x4; generalize t 1 1 = x5; generalize t 1 2 = x6
  generalize t 2 0 = x7; generalize t 2 1 = x8; generalize t 2 2 = x9
  rcases x1 with _ | _
  · rfl
  rcases x2 with _ | _
  · rfl
  rcases x3 with _ | _
  · rfl
  rcases x4 with _ | _
  · rfl
  rcases x5 with _ | _
  · rfl
  rcases x6 with _ | _
  · rfl
  rcases x7 with _ | _
  · rfl
  rcases x8 with _ | _
  · rfl
  cases x9 <;> rfl

/-- `matches(pattern)`: throws `IllegalArgumentException` unless the pattern has nine symbols, else `IM.matchesPat` -/
theorem gen_matchesPattern_eq (m : IM) (pat : List Char) :
    IMMatrix.matchesPattern m pat = if pat.length = 9 then .ok (m.matchesPat pat) else .error "IllegalArgumentException" := by
  by_cases h : pat.length = 9
  · obtain ⟨a, b, c, d, e, f, g, h', i, rfl⟩ := Relate.eq_nine_of_length pat h
    -- behind the length test the function is `cellLoop` of the cell test; the nine cells and symbols evaluate to the
    -- entries of `IM.matchesPat`
    exact cellLoop_eq fun ai bi => IMPreds.matchesDim (IMMatrix.arr m ai bi) ([a, b, c, d, e, f, g, h', i][3 * ai + bi]!)
  · simp [IMMatrix.matchesPattern, h, throw, throwThe, MonadExceptOf.throw, bind, Except.bind]

/-- the nine-symbol case, as the driver of stream `im-algebra` uses it -/
theorem gen_matchesPattern_nine (m : IM) (pat : List Char) (h : pat.length = 9) :
    IMMatrix.matchesPattern m pat = .ok (m.matchesPat pat) := by
  rw [gen_matchesPattern_eq, if_pos h]

example : IMMatrix.matchesPattern ⟨2, 1, 2, 1, 0, 1, 2, 1, 2⟩ "T*T***T**".toList = .ok true :=
  (gen_matchesPattern_nine _ _ (by decide)).trans (congrArg Except.ok (by decide))
example : IMMatrix.matchesPattern ⟨2, 1, 2, 1, 0, 1, 2, 1, 2⟩ "T*T".toList = .error "IllegalArgumentException" := by
  rw [gen_matchesPattern_eq]; rfl
example : IMMatrix.transpose ⟨0, 1, 2, 3, 4, 5, 6, 7, 8⟩ = ⟨0, 3, 6, 1, 4, 7, 2, 5, 8⟩ := by decide

end GeosModel.C02Gen
