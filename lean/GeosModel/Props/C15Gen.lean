import Lean.Elab.Tactic
import GeosModel.Base.Env
import GeosModel.Model.Index.STR
import GeosModel.Model.Index.Rep
import GeosModel.Generated.STRtree
/-!
# C15 — the regenerated node-level code of `TemplateSTRtree` and the `geom::Envelope` predicates are the model

`Generated/STRtree.lean` is rewritten from `include/geos/geom/Envelope.h`, `src/geom/Envelope.cpp`,
`include/geos/index/strtree/TemplateSTRNode.h` and `TemplateSTRtree.h` by `translate/cxx2lean.py` (spec `strtree`, parser
extension `translate/specs/t4ext.py`) on every run, statement by statement; the class templates are read at the
instantiation the C API uses (`BoundsTraits = EnvelopeTraits`, checked by the translator).

The model speaks of `Env = Option Box` over integer keys and of `Node = leaf | branch`; the C++ of four `double`s with
NaN and of a `children` pointer.  `Model/Index/Rep.lean` defines the representation (`rep`, `childrenOf`), and
every theorem below has the form *regenerated function applied to the representation = model function*, for **all** envelopes
(null or not), all points, all nodes, all capacities and counts:

* envelope predicates: `Env.isNull`, `Env.inter` (the pruning test of query / remove and hypothesis `env_law` of
  `Props/C15.lean`), `Env.union` (`expandToInclude`, the bounds of parent nodes), `Env.covers`, `Env.containsPt`;
* node flags: `isLeaf`, `isDeleted`, `isComposite`, `removeItem` against `Node.isLeaf`, `Entry.deleted`;
* `insert`: a null envelope is not inserted (`Tree.insert`);
* `sliceCount`, `sliceCapacity`: equal to the exact integer ceilings of the model **under the explicit hypothesis**
  `ExactCeil R` that the `double` operations `ceil(a/b)` and `ceil(sqrt(m))` are exact on integers (true of real
  arithmetic — instance `Sym`; for IEEE doubles it is what the correspondence stream `strslices` samples).

What is not here (outside the translator's fragment — templates over the visitor, pointer iteration, recursion, `while`):
the loops of `query` / `remove` / `build` / `treeSize` themselves; they are tied by the correspondence streams only.
-/
namespace GeosModel.C15Gen
open GeosModel GeosModel.STR GeosModel.STR.Rep GeosModel.Generated

open Lean Elab Tactic Meta in
/-- `unfold_gen_c15`: δ-expand, in the goal, every definition of the namespace `GeosModel.Generated.STRtree`, so that the
proofs do not depend on how the C++ distributes the work over (possibly new) helper functions -/
elab "unfold_gen_c15" : tactic =>
  liftMetaTactic fun g => do
    let e ← instantiateMVars (← g.getType)
    let e' ← Meta.deltaExpand e (fun n => (`GeosModel.Generated.STRtree).isPrefixOf n)
    return [← g.replaceTargetDefEq e']

/-- a regenerated member function of `Envelope` (its first four arguments are the data members) applied to the object `rep a` -/
def onRep {α : Type} (f : NK → NK → NK → NK → α) (a : Env) : α :=
  f (rep a).minx (rep a).maxx (rep a).miny (rep a).maxy

/-! ### `geom::Envelope` -/

/-- `Envelope::isNull()` -/
theorem gen_isNull_eq (a : Env) : STRtree.isNull isnan (rep a).maxx = Env.isNull a := by
  cases a <;> unfold_gen_c15 <;> simp [rep, Env.isNull]

/-- `Envelope::intersects(const Envelope*)` -/
theorem gen_intersectsPtr_eq (a o : Env) : onRep STRtree.intersectsPtr a (rep o) = Env.inter a o := by
  cases a <;> cases o <;> unfold_gen_c15 <;> simp [onRep, rep, Env.inter, Cxx.ge]

/-- `Envelope::intersects(const Envelope&)` -/
theorem gen_intersectsRef_eq (a o : Env) : onRep STRtree.intersectsRef a (rep o) = Env.inter a o :=
  gen_intersectsPtr_eq a o

/-- `Envelope::disjoint(const Envelope&)` -/
theorem gen_disjointRef_eq (a o : Env) : onRep STRtree.disjointRef a (rep o) = !Env.inter a o :=
  congrArg (!·) (gen_intersectsPtr_eq a o)

/-- `Envelope::covers(const Envelope&)` (Envelope.cpp) -/
theorem gen_coversRef_eq (a o : Env) : onRep STRtree.coversRef a (rep o) = Env.covers a o := by
  cases a <;> cases o <;> unfold_gen_c15 <;> simp [onRep, rep, Env.covers, Cxx.ge]

/-- `Envelope::contains(const Envelope&)` -/
theorem gen_containsRef_eq (a o : Env) : onRep STRtree.containsRef a (rep o) = Env.covers a o :=
  gen_coversRef_eq a o

/-- `Envelope::covers(double, double)` -/
theorem gen_coversXY_eq (a : Env) (x y : Int) :
    onRep STRtree.coversXY a (NK.ofKey x) (NK.ofKey y) = Env.containsPt a x y := by
  cases a <;> unfold_gen_c15 <;> simp [onRep, rep, Env.containsPt, Cxx.ge]

/-- `Envelope::contains(double, double)` -/
theorem gen_containsXY_eq (a : Env) (x y : Int) :
    onRep STRtree.containsXY a (NK.ofKey x) (NK.ofKey y) = Env.containsPt a x y :=
  gen_coversXY_eq a x y

/-- `Envelope::intersects(double, double)`: the four comparisons of `covers(double, double)` in another order -/
theorem gen_intersectsXY_eq (a : Env) (x y : Int) :
    onRep STRtree.intersectsXY a (NK.ofKey x) (NK.ofKey y) = Env.containsPt a x y := by
  have h {R : Type} [Cxx.Ord R] (a b c d x y : R) : STRtree.intersectsXY a b c d x y = STRtree.coversXY a b c d x y := by
    unfold_gen_c15
    rw [Bool.and_right_comm, Bool.and_comm (Cxx.ge x a)]
  exact (h ..).trans (gen_coversXY_eq a x y)

/-- `Envelope::intersects(const CoordinateXY&)` -/
theorem gen_intersectsPt_eq (a : Env) (x y : Int) :
    onRep STRtree.intersectsPt a ⟨NK.ofKey x, NK.ofKey y⟩ = Env.containsPt a x y :=
  gen_intersectsXY_eq a x y

/-- a NaN ordinate is in no envelope (what makes a null query envelope match nothing) -/
theorem gen_coversXY_nan (a : Env) (y : NK) : onRep STRtree.coversXY a NK.nan y = false := by
  cases a <;> unfold_gen_c15 <;> simp [onRep, rep, Cxx.ge]

/-- `Envelope::expandToInclude(const Envelope*)`: the four members afterwards are those of `rep (a ∪ o)` -/
theorem gen_expandToIncludePtr_eq (a o : Env) :
    onRep (STRtree.expandToIncludePtr isnan) a (rep o) = (rep (Env.union a o)).tuple := by
  -- the four conditional assignments are independent: each member is updated on its own
  have h {R : Type} [Cxx.Ord R] (isnan : R → Bool) (a b c d : R) (o : CEnv R) :
      STRtree.expandToIncludePtr isnan a b c d o =
        if isnan b then o.tuple else
          (if Cxx.Ord.lt o.minx a then o.minx else a, if Cxx.gt o.maxx b then o.maxx else b,
           if Cxx.Ord.lt o.miny c then o.miny else c, if Cxx.gt o.maxy d then o.maxy else d) := by
    unfold_gen_c15
    dsimp only [Id.run, pure]
    generalize isnan b = n, Cxx.Ord.lt o.minx a = c1, Cxx.gt o.maxx b = c2, Cxx.Ord.lt o.miny c = c3, Cxx.gt o.maxy d = c4
    cases n
    · cases c1 <;> cases c2 <;> cases c3 <;> cases c4 <;> rfl
    · rfl
  rw [onRep, h]
  cases a <;> cases o <;> simp [rep, Env.union, CEnv.tuple, Cxx.gt, apply_ite NK.ofKey]

/-- `Envelope::expandToInclude(const Envelope&)` -/
theorem gen_expandToIncludeRef_eq (a o : Env) :
    onRep (STRtree.expandToIncludeRef isnan) a (rep o) = (rep (Env.union a o)).tuple :=
  gen_expandToIncludePtr_eq a o

/-! ### `EnvelopeTraits`, `TemplateSTRNode` -/

/-- `EnvelopeTraits::intersects(a, b)` -/
theorem gen_traitsIntersects_eq (a o : Env) : STRtree.traitsIntersects (rep a) (rep o) = Env.inter a o :=
  gen_intersectsPtr_eq a o

/-- `EnvelopeTraits::isNull(a)` -/
theorem gen_traitsIsNull_eq (a : Env) : STRtree.traitsIsNull isnan (rep a) = Env.isNull a :=
  gen_isNull_eq a

/-- `TemplateSTRNode::boundsIntersect(queryBounds)` — **the pruning test** of `query` and `remove`: for a node whose
`bounds` member represents `b`, it is `ops.inter b q` of the model instantiated with the envelope operations -/
theorem gen_boundsIntersect_eq (b q : Env) : STRtree.boundsIntersect (rep b) (rep q) = Env.inter b q :=
  gen_intersectsPtr_eq b q

/-- the same, stated on a node of the model -/
theorem gen_boundsIntersect_node {ι : Type} (n : Node Env ι) (q : Env) :
    STRtree.boundsIntersect (rep n.bounds) (rep q) = Env.inter n.bounds q := gen_boundsIntersect_eq _ _

variable {β ι : Type}

/-- `TemplateSTRNode::isLeaf()`: `children == nullptr || children == this`.  The node lives in slot `self`; if it is
composite its first child lives in another slot (`first ≠ self` — children are created before their parent). -/
theorem gen_isLeaf_eq (self first : Nat) (h : first ≠ self) (n : Node β ι) :
    STRtree.isLeaf (childrenOf self first n) (some self) = n.isLeaf := by
  cases n with
  | leaf e => cases hd : e.deleted <;> unfold_gen_c15 <;> simp [childrenOf, Node.isLeaf, hd]
  | branch b ks => unfold_gen_c15; simp [childrenOf, Node.isLeaf, h]

/-- `TemplateSTRNode::isDeleted()`: `children == this` -/
theorem gen_isDeleted_eq (self first : Nat) (h : first ≠ self) (n : Node β ι) :
    STRtree.isDeleted (childrenOf self first n) (some self) = isDeletedLeaf n := by
  cases n with
  | leaf e => cases hd : e.deleted <;> unfold_gen_c15 <;> simp [childrenOf, isDeletedLeaf, hd]
  | branch b ks => unfold_gen_c15; simp [childrenOf, isDeletedLeaf, h]

/-- `TemplateSTRNode::isComposite()` -/
theorem gen_isComposite_eq (self first : Nat) (h : first ≠ self) (n : Node β ι) :
    STRtree.isComposite (childrenOf self first n) (some self) = !n.isLeaf := by
  cases n with
  | leaf e => cases hd : e.deleted <;> unfold_gen_c15 <;> simp [childrenOf, Node.isLeaf, hd]
  | branch b ks => unfold_gen_c15; simp [childrenOf, Node.isLeaf, h]

/-- `TemplateSTRNode::removeItem()`: `children = this` turns a leaf into a deleted leaf (and nothing else changes: the
function assigns no other member) -/
theorem gen_removeItem_eq (self first : Nat) (n : Node β ι) (hl : n.isLeaf = true) :
    STRtree.removeItem (some self) (childrenOf self first n) = childrenOf self first (markDeleted n) := by
  cases n with
  | leaf e => unfold_gen_c15; simp [childrenOf, markDeleted]
  | branch b ks => simp [Node.isLeaf] at hl

/-! ### `TemplateSTRtreeImpl::insert`, slice arithmetic -/

/-- `insert(itemEnv, item)` (both overloads): the leaf is appended unless the envelope is null; `push` is whatever
`createLeafNode` (= `nodes.emplace_back(item, env)`, checked by the translator) does to the node list -/
theorem gen_insert_eq {I NL : Type} (push : NL → I → CEnv NK → NL) (l : NL) (b : Env) (i : I) :
    STRtree.insertCopy isnan push l (rep b) i = (if Env.isNull b then l else push l i (rep b)) ∧
    STRtree.insertMove isnan push l (rep b) i = (if Env.isNull b then l else push l i (rep b)) := by
  cases b <;> unfold_gen_c15 <;> simp [rep, Env.isNull]

/-- … which is `Tree.insert` of the model for any configuration whose `isNull` is the envelope's -/
theorem gen_insert_model_eq (c : Cfg Env ι) (hc : c.isNull = Env.isNull) (t : Tree Env ι) (b : Env) (i : ι) :
    (t.insert c b i).pending
      = STRtree.insertMove isnan (fun l i _ => l ++ [(⟨b, i, false⟩ : Entry Env ι)]) t.pending (rep b) i := by
  rw [(gen_insert_eq _ _ _ _).2]
  simp only [Tree.insert, hc]
  cases Env.isNull b <;> simp

/-- `sliceCount(numNodes)` = `ceilSqrt (ceilDiv n cap)` when the `double` operations are exact on these integers -/
theorem gen_sliceCount_eq {R : Type} [Cxx.Math R] (hx : ExactCeil R) (cap n : Nat) (hc : 0 < cap) :
    STRtree.sliceCount (R := R) cap n = STR.sliceCount cap n := by
  have h1 := hx.ceil_div n cap hc
  have h2 := hx.ceil_sqrt (ceilDiv n cap)
  simp only [Int.ofNat_eq_natCast] at h1 h2
  unfold_gen_c15; simp [STR.sliceCount, h1, h2]

/-- `sliceCapacity(numNodes, numSlices)` = `ceilDiv n s` under the same hypothesis -/
theorem gen_sliceCapacity_eq {R : Type} [Cxx.Math R] (hx : ExactCeil R) (n s : Nat) (hs : 0 < s) :
    STRtree.sliceCapacity (R := R) n s = STR.sliceCapacity n s := by
  have h1 := hx.ceil_div n s hs
  have h2 := hx.to_int (ceilDiv n s)
  simp only [Int.ofNat_eq_natCast] at h1 h2
  unfold_gen_c15; simp [STR.sliceCapacity, h1, h2]

/-! ### non-vacuity -/
example : STRtree.sliceCount (R := Sym) 10 1000 = 10 ∧ STR.sliceCount 10 1000 = 10 := by decide
example : STRtree.sliceCount (R := Sym) 4 17 = STR.sliceCount 4 17 := gen_sliceCount_eq sym_exact 4 17 (by decide)
example : STRtree.sliceCapacity (R := Sym) 17 3 = 6 := by decide
example : onRep STRtree.intersectsPtr (some ⟨0, 1, 0, 1⟩) (rep (some ⟨1, 2, 1, 2⟩)) = true := by decide
example : onRep STRtree.intersectsPtr (some ⟨0, 1, 0, 1⟩) (rep none) = false := by decide
example : onRep (STRtree.expandToIncludePtr isnan) none (rep (some ⟨1, 2, 3, 4⟩)) = (rep (some ⟨1, 2, 3, 4⟩)).tuple := by decide
example : STRtree.isLeaf (childrenOf 5 2 (Node.leaf (⟨(), 7, true⟩ : Entry Unit Nat))) (some 5) = true := by decide
example : STRtree.isLeaf (childrenOf 5 2 (Node.branch () ([] : List (Node Unit Nat)))) (some 5) = false := by decide

end GeosModel.C15Gen
