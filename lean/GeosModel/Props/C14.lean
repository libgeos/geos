import GeosModel.Proofs.Interrupt.ProtoLemmas
/-!
# C14 — an interrupt at any checkpoint aborts cleanly and leaves the library usable

Theorems about the protocol model `Model/Interrupt/Proto.lean` (a literal transcription of
`Interrupt::{request,cancel,check,registerCallback,process}`, `GEOS_init_r`, and of `execute`'s
"exception → error value").  An operation is the pair (`polls` = N, `result` = r) *observed* on the
implementation; that the operation is deterministic (same N, same r when re-run on unchanged inputs
from the same interrupt state) is the explicit modelling hypothesis carried by `Op` being a value.
What the theorems say for all N, k, callbacks and states:

* `interrupt_at_k`            a request made by the callback at poll k (1 ≤ k ≤ N) stops the call at poll k
                              with the error outcome, and the request is cleared;
* `rerun_equals_clean`        the interrupt state left behind is the state before the call, so the repeated
                              call (any callback) is the same as if the interrupted call never happened; with a
                              benign callback it returns the uninterrupted result after exactly N polls;
* `benign_callback_noop`      a callback that never requests/cancels is indistinguishable from no callback;
* `pre_request`               a request pending before the call interrupts at poll 1 (N ≥ 1);
* `pre_request_zero_polls`    EDGE, outside the property's wording: with N = 0 the call completes and the
                              request SURVIVES (it will hit the next polling operation — `stale_request_hits_next`);
* `cancel_before_poll`        request then `GEOS_interruptCancel()` (or `GEOS_init_r`) before the call = clean call;
* `callback_cancel_before_test` the callback runs *before* the test: a pending request cancelled by the
                              callback at poll 1 never fires;
* `interrupted_iff`           complete characterisation: from a clear flag the call is interrupted at k iff k is
                              the first poll in 1..N at which the callback requests;
* `usable_afterwards`         any later sequence of operations behaves as from the initial state.

What is *not* here (runtime, see manifest): that unwinding from each of the poll sites frees
everything and leaves inputs unchanged — that is exception safety of the C++, observed per (op, k)
under LeakSanitizer by the correspondence harness.
-/
namespace GeosModel.Interrupt
variable {ρ : Type}

/-- **interrupt_at_k.**  No request pending, callback `cb` registered; `cb` requests at poll `k`
    (and not before), `1 ≤ k ≤ N`: the call is interrupted exactly at poll `k`, and afterwards the
    flag is clear (and the callback still registered). -/
theorem interrupt_at_k (N k : Nat) (r : ρ) (cb : Cb) (h1 : 1 ≤ k) (hN : k ≤ N)
    (hbefore : ∀ j, 1 ≤ j → j < k → cb j ≠ .request) (hk : cb k = .request) :
    run ⟨false, some cb⟩ ⟨N, r⟩ = (⟨false, some cb⟩, .interrupted k) := by
  unfold run
  exact runFrom_first_request r (some cb) k N 1 h1 (by omega)
    (fun j a b => by simpa [State.act] using hbefore j a b) (by simpa [State.act] using hk)

/-- the harness' callback: counts, requests at its k-th invocation -/
theorem interrupt_at_k_requestAt (N k : Nat) (r : ρ) (h1 : 1 ≤ k) (hN : k ≤ N) :
    run ⟨false, some (requestAt k)⟩ ⟨N, r⟩ = (⟨false, some (requestAt k)⟩, .interrupted k) :=
  interrupt_at_k N k r (requestAt k) h1 hN
    (fun j _ hj => by simp [requestAt]; omega) (by simp [requestAt])

/-- a request at a poll index the operation never reaches (k = 0 or k > N) has no effect -/
theorem request_beyond_polls (N k : Nat) (r : ρ) (h : k = 0 ∨ N < k) :
    run ⟨false, some (requestAt k)⟩ ⟨N, r⟩ = (⟨false, some (requestAt k)⟩, .done r) := by
  unfold run
  apply runFrom_quiet
  intro j h1 h2
  simp only at h2
  simp only [State.act, requestAt]
  split
  · omega
  · simp

/-- **benign_callback_noop.**  A callback that never touches the flag changes neither the outcome nor
    the flag, whatever the initial flag is (compare: no callback registered). -/
theorem benign_callback_noop (q : Bool) (cb : Cb) (op : Op ρ) (hb : ∀ i, cb i = .nothing) :
    (run ⟨q, some cb⟩ op).2 = (run ⟨q, none⟩ op).2 ∧
    (run ⟨q, some cb⟩ op).1.requested = (run ⟨q, none⟩ op).1.requested ∧
    (run ⟨q, some cb⟩ op).1.callback = some cb := by
  obtain ⟨N, r⟩ := op
  unfold run
  simp only
  suffices h : ∀ (rem i : Nat) (q : Bool),
      (runFrom r rem i ⟨q, some cb⟩).2 = (runFrom r rem i ⟨q, none⟩).2 ∧
      (runFrom r rem i ⟨q, some cb⟩).1.requested = (runFrom r rem i ⟨q, none⟩).1.requested ∧
      (runFrom r rem i ⟨q, some cb⟩).1.callback = some cb from h N 1 q
  intro rem
  induction rem with
  | zero => intro i q; simp [runFrom]
  | succ n ih =>
    intro i q
    rw [runFrom_succ, runFrom_succ]
    have hf : (State.mk q (some cb)).fires i = (State.mk q none).fires i := by
      simp [State.fires, State.act, hb]
    rw [hf]
    cases (State.mk q none).fires i with
    | true => simp
    | false => simpa using ih (i + 1) false

/-- with a benign callback and no pending request the call completes with its result after N polls -/
theorem clean_run (cb : Option Cb) (op : Op ρ) (hb : ∀ c, cb = some c → ∀ i, c i = .nothing) :
    run ⟨false, cb⟩ op = (⟨false, cb⟩, .done op.result) := by
  unfold run
  apply runFrom_quiet
  intro j _ _
  cases cb with
  | none => simp [State.act]
  | some c => simp [State.act, hb c rfl j]

/-- **rerun_equals_clean.**  After a call interrupted at poll k the interrupt state equals the state
    before the call.  Hence (i) re-running *any* operation with *any* newly registered callback from
    the state left behind equals running it from the initial state, and (ii) in particular the same
    operation re-run with a benign callback returns the uninterrupted result `r` after N polls. -/
theorem rerun_equals_clean (N k : Nat) (r : ρ) (cb : Cb) (h1 : 1 ≤ k) (hN : k ≤ N)
    (hbefore : ∀ j, 1 ≤ j → j < k → cb j ≠ .request) (hk : cb k = .request) :
    let s' := (run ⟨false, some cb⟩ ⟨N, r⟩).1
    s' = ⟨false, some cb⟩ ∧
    (∀ (cb2 : Option Cb) (op2 : Op ρ), run (registerCallback s' cb2).1 op2 = run ⟨false, cb2⟩ op2) ∧
    run (registerCallback s' (some never)).1 ⟨N, r⟩ = (⟨false, some never⟩, .done r) := by
  have h := interrupt_at_k N k r cb h1 hN hbefore hk
  simp only [h]
  refine ⟨trivial, fun _ _ => rfl, ?_⟩
  exact clean_run (some never) ⟨N, r⟩ (fun c hc i => by cases hc; rfl)

/-- **pre_request.**  A request is pending when the call starts (made directly with
    `GEOS_interruptRequest`), the callback (if any) does not cancel at poll 1, and the operation
    polls at least once: interrupted at the first poll, request cleared. -/
theorem pre_request (N : Nat) (r : ρ) (cb : Option Cb) (hN : 1 ≤ N)
    (hc : ∀ c, cb = some c → c 1 ≠ .cancel) :
    run ⟨true, cb⟩ ⟨N, r⟩ = (⟨false, cb⟩, .interrupted 1) := by
  obtain ⟨n, rfl⟩ := Nat.exists_eq_succ_of_ne_zero (Nat.ne_of_gt hN)
  have hf : (State.mk true cb).fires 1 = true := by
    unfold State.fires
    cases ha : (State.mk true cb).act 1 with
    | nothing => rfl
    | request => rfl
    | cancel =>
      cases cb with
      | none => cases ha
      | some c => exact absurd ha (hc c rfl)
  rw [run, runFrom_succ, hf, if_pos rfl]

/-- **pre_request_zero_polls** (edge outside the property's wording).  If the operation performs no
    poll at all, a pending request neither interrupts it nor is cleared: it *survives* the call. -/
theorem pre_request_zero_polls (r : ρ) (cb : Option Cb) :
    run ⟨true, cb⟩ ⟨0, r⟩ = (⟨true, cb⟩, .done r) ∧ check (run ⟨true, cb⟩ ⟨0, r⟩).1 = true := by
  simp [run, runFrom, check]

/-- consequence of the edge: the surviving request interrupts the *next* operation that polls,
    although nobody asked for that one to be interrupted -/
theorem stale_request_hits_next (r r2 : ρ) (N2 : Nat) (h : 1 ≤ N2) :
    run (run ⟨true, none⟩ ⟨0, r⟩).1 ⟨N2, r2⟩ = (⟨false, none⟩, .interrupted 1) := by
  rw [(pre_request_zero_polls r none).1]
  exact pre_request N2 r2 none h (fun c hc => by cases hc)

/-- **cancel_before_poll.**  `GEOS_interruptRequest(); GEOS_interruptCancel();` (or a `GEOS_init_r()`
    in between) before the call: the call runs exactly as from the clear state. -/
theorem cancel_before_poll (s : State) (op : Op ρ) (hs : s.requested = false) :
    run (cancel (request s)) op = run s op ∧ run (geosInit (request s)) op = run s op := by
  obtain ⟨q, c⟩ := s
  simp only at hs
  subst hs
  simp [cancel, request, geosInit]

/-- the callback is invoked *before* the flag is tested: a pending request that the callback cancels
    at poll 1 never fires (callback quiet afterwards) -/
theorem callback_cancel_before_test (N : Nat) (r : ρ) (cb : Cb) (h1 : cb 1 = .cancel)
    (hq : ∀ j, 2 ≤ j → cb j ≠ .request) (hN : 1 ≤ N) :
    run ⟨true, some cb⟩ ⟨N, r⟩ = (⟨false, some cb⟩, .done r) := by
  obtain ⟨n, rfl⟩ := Nat.exists_eq_succ_of_ne_zero (Nat.ne_of_gt hN)
  have hf : (State.mk true (some cb)).fires 1 = false := by
    unfold State.fires; rw [show (State.mk true (some cb)).act 1 = .cancel from h1]
  rw [run, runFrom_succ, hf, if_neg Bool.false_ne_true]
  exact runFrom_quiet r (some cb) n 2 fun j a _ => hq j a

/-- **complete characterisation** from a clear flag: interrupted at `k` iff `k` is the first poll in
    `1..N` at which the callback requests; otherwise the result is returned. -/
theorem interrupted_iff (N k : Nat) (r : ρ) (cb : Cb) :
    (run ⟨false, some cb⟩ ⟨N, r⟩).2 = .interrupted k ↔
      (1 ≤ k ∧ k ≤ N ∧ cb k = .request ∧ ∀ j, 1 ≤ j → j < k → cb j ≠ .request) := by
  refine ⟨fun h => ?_, fun ⟨h1, h2, h3, h4⟩ => by rw [interrupt_at_k N k r cb h1 h2 h4 h3]⟩
  obtain ⟨h1, h2, h3, h4⟩ := runFrom_interrupted r (some cb) k N 1 h
  exact ⟨h1, by omega, h3, h4⟩

/-- sequences of API calls of interruptible operations, each with its own callback registration -/
def runSeq (s : State) : List (Option Cb × Op ρ) → List (Outcome ρ)
  | [] => []
  | (cb, op) :: rest =>
    let (s', o) := run (registerCallback s cb).1 op
    o :: runSeq s' rest

/-- **usable_afterwards.**  After an interrupted call, every later sequence of operations (with
    whatever callbacks) gives exactly the outcomes it gives when the interrupted call never happened. -/
theorem usable_afterwards (N k : Nat) (r : ρ) (cb : Cb) (h1 : 1 ≤ k) (hN : k ≤ N)
    (hbefore : ∀ j, 1 ≤ j → j < k → cb j ≠ .request) (hk : cb k = .request)
    (later : List (Option Cb × Op ρ)) :
    runSeq (run ⟨false, some cb⟩ ⟨N, r⟩).1 later = runSeq ⟨false, some cb⟩ later := by
  rw [interrupt_at_k N k r cb h1 hN hbefore hk]

/-- whatever the callback does, after a call that polled at least once no request is left pending -/
theorem flag_clear_after_polling_call (s : State) (op : Op ρ) (h : 1 ≤ op.polls) :
    check (run s op).1 = false := by
  unfold run check
  rw [runFrom_clears op.result op.polls 1 s (by omega)]

/-! ### non-vacuity -/
example : run ⟨false, some (requestAt 3)⟩ (⟨5, "r"⟩ : Op String) = (⟨false, some (requestAt 3)⟩, .interrupted 3) :=
  interrupt_at_k_requestAt 5 3 "r" (by decide) (by decide)
example : (run ⟨false, some (requestAt 3)⟩ (⟨5, "r"⟩ : Op String)).2 = .interrupted 3 := by decide +kernel
example : (run ⟨false, some never⟩ (⟨5, "r"⟩ : Op String)).2 = .done "r" := by decide +kernel
example : (run ⟨true, none⟩ (⟨0, "r"⟩ : Op String)).2 = .done "r" := by decide +kernel
example : (run ⟨true, some (cancelAt 1)⟩ (⟨4, "r"⟩ : Op String)).2 = .done "r" := by decide +kernel
example : (run ⟨true, some (cancelAt 2)⟩ (⟨4, "r"⟩ : Op String)).2 = .interrupted 1 := by decide +kernel

end GeosModel.Interrupt
