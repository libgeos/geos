import GeosModel.Proofs.Buffer.GenLemmas
import GeosModel.Proofs.Buffer.Params
import GeosModel.Generated.BufferParams
import Mathlib.Tactic.Ring
import Mathlib.Tactic.Linarith
import Mathlib.Tactic.FieldSimp
/-!
# C06 — the regenerated buffer-parameter code and fillet quantisation are the models the CORE theorems are about

`Generated/BufferParams.lean` is rewritten on every run by `translate/cxx2lean.py` (spec `buffer_params`) from

* `BufferParameters.{h,cpp}` — the default constructor (as assignments of its member initialisers), the five setters, the getters;
* `OffsetSegmentGenerator.cpp` — the constructor (fillet angle quantum, closing-segment factor, call of `init`), `init`,
  `addDirectedFillet(p, startAngle, endAngle, direction, radius)` (the loop that emits the fillet vertices; the sequence of
  `segList.addPt` calls is the result);
* `OffsetCurve.h` — the constructor `OffsetCurve(geom, dist, bp)` (quadrant segments raised to `MIN_QUADRANT_SEGMENTS`);
* `capi/geos_ts_c.cpp` — the lambdas that `GEOSBufferParams_set*_r`, `GEOSBufferWithStyle_r`, `GEOSOffsetCurve_r`,
  `GEOSSingleSidedBuffer_r` pass to `execute` (a `throw` is the error return), up to the point where the configured
  `BufferParameters` object is handed to `BufferOp` / `OffsetCurve` / `BufferBuilder`.

Enumerator values, `DEFAULT_QUADRANT_SEGMENTS`, `DEFAULT_MITRE_LIMIT`, `MAX_CLOSING_SEG_LEN_FACTOR`,
`MIN_QUADRANT_SEGMENTS`, `Orientation::CLOCKWISE` are read from the headers each time.  C++ `double` is an abstract
carrier; the math library (`(int) x`, `cos`, `Angle::sinCosSnap`, `std::isfinite`) enters as function parameters.

The theorems prove the regenerated definitions equal to `Model/Buffer/Params.lean` (`Config.default`, `setEndCapStyle` …,
`Entry.config`, `Config.closingFactor`, `quantumQ`) and `Model/Buffer/Fillet.lean` (`nSegs`, `filletOffsets`) — the
objects of `params_total`, `reject_iff_*`, `setters_keep_legal`, `fillet_step_bound`, `fillet_vertices`,
`fillet_angle_bound` in `Props/C06.lean` — for **all** arguments.  Parameter objects are compared at the binary64 value
model (`ConfigR F64.Val`, the mitre limit being `F64.decode` of the stored bit pattern); angles at exact rationals.
-/
namespace GeosModel.C06Gen
open GeosModel GeosModel.Buffer GeosModel.Generated GeosModel.Precision
open GeosModel.F64 (Val)

/-- `Id.run` of a value (what is left of a regenerated setter called from `Except` code) -/
theorem idrun {α : Type} (a : α) : Id.run a = a := rfl

/-! ## `BufferParameters`: defaults, setters, getters -/

/-- the default constructor, whatever the members held before: `Config.default` (8 quadrant segments, CAP_ROUND, JOIN_ROUND,
mitre limit 5.0 as the bit pattern `0x4014000000000000`, not single-sided) -/
theorem gen_bpDefault_eq (q0 c0 j0 : Int) (m0 : Val) (s0 : Bool) :
    (ConfigR.ofTuple (BufferParams.bpDefault (R := Val) q0 c0 j0 m0 s0)).toConfig = Config.default := by
  simp [BufferParams.bpDefault, ConfigR.ofTuple, ConfigR.toConfig, Config.default]
  decide +kernel

/-- the default object as regenerated C API code builds it -/
def defaultObj : ConfigR Val := ConfigR.ofTuple (BufferParams.bpDefault (0 : Int) (0 : Int) (0 : Int) (Cxx.Ring.ofInt 0 : Val) false)

/-- it is the model's default configuration (stated on the term the regenerated entry points contain, which is
`defaultObj` unfolded) -/
theorem bpDefault_obj : ConfigR.ofTuple (BufferParams.bpDefault (0 : Int) (0 : Int) (0 : Int) (Cxx.Ring.ofInt 0 : Val) false)
    = ConfigR.ofConfig Config.default := by
  simp [BufferParams.bpDefault, ConfigR.ofTuple, ConfigR.ofConfig, Config.default]
  decide +kernel

/-- the C++ setters store their argument unchanged (no clamping, no validation — that is the C API's business), the getters
return the member -/
theorem gen_setters_store :
    (∀ q0 q : Int, BufferParams.setQuadrantSegments q0 q = q) ∧ (∀ c0 s : Int, BufferParams.setEndCapStyle c0 s = s) ∧
    (∀ j0 s : Int, BufferParams.setJoinStyle j0 s = s) ∧ (∀ m0 m : Val, BufferParams.setMitreLimit m0 m = m) ∧
    (∀ s0 s : Bool, BufferParams.setSingleSided s0 s = s) ∧
    (∀ q : Int, BufferParams.getQuadrantSegments q = q) ∧ (∀ c : Int, BufferParams.getEndCapStyle c = c) ∧
    (∀ j : Int, BufferParams.getJoinStyle j = j) ∧ (∀ m : Val, BufferParams.getMitreLimit m = m) ∧
    (∀ s : Bool, BufferParams.isSingleSided s = s) := by
  simp [BufferParams.setQuadrantSegments, BufferParams.setEndCapStyle, BufferParams.setJoinStyle, BufferParams.setMitreLimit,
    BufferParams.setSingleSided, BufferParams.getQuadrantSegments, BufferParams.getEndCapStyle, BufferParams.getJoinStyle,
    BufferParams.getMitreLimit, BufferParams.isSingleSided]

section capi
-- unfolded in every bridge of this section: `return` / `throw` of the regenerated lambdas through `Except`, the stores and
-- loads of `BufferParameters`, the model's setters and entry points
attribute [local simp] Except.toOption pure Except.pure throw throwThe MonadExceptOf.throw bind Except.bind idrun ConfigR.ofConfig
  BufferParams.setQuadrantSegments BufferParams.setEndCapStyle BufferParams.setJoinStyle BufferParams.setMitreLimit
  BufferParams.setSingleSided BufferParams.getQuadrantSegments BufferParams.getJoinStyle BufferParams.getMitreLimit
  Buffer.setQuadrantSegments Buffer.setEndCapStyle Buffer.setJoinStyle Buffer.setMitreLimit Buffer.setSingleSided
  Entry.config Config.default

/-! ## the `GEOSBufferParams_set*_r` functions = the model's setters (`Setter.apply`, the objects of `setters_keep_legal`) -/

/-- result of a regenerated C API lambda: `some` = it returned, `none` = it threw (the function returns its error value) -/
abbrev ran {α : Type} (e : Except String α) : Option α := e.toOption

theorem gen_capiSetQuadrantSegments_eq {H : Type} (h : H) (p0 : ConfigR Val) (c : Config) (q : Int) :
    ran (BufferParams.capiSetQuadrantSegments (R := Val) p0 h (.ofConfig c) q)
      = (Buffer.setQuadrantSegments c q).map fun c' => ((1 : Int), ConfigR.ofConfig c') := by
  simp [BufferParams.capiSetQuadrantSegments]

theorem gen_capiSetEndCapStyle_eq {H : Type} (h : H) (p0 : ConfigR Val) (c : Config) (s : Int) :
    ran (BufferParams.capiSetEndCapStyle (R := Val) p0 h (.ofConfig c) s)
      = (Buffer.setEndCapStyle c s).map fun c' => ((1 : Int), ConfigR.ofConfig c') := by
  by_cases hs : s < 1 ∨ s > 3 <;> simp [BufferParams.capiSetEndCapStyle, hs]

theorem gen_capiSetJoinStyle_eq {H : Type} (h : H) (p0 : ConfigR Val) (c : Config) (s : Int) :
    ran (BufferParams.capiSetJoinStyle (R := Val) p0 h (.ofConfig c) s)
      = (Buffer.setJoinStyle c s).map fun c' => ((1 : Int), ConfigR.ofConfig c') := by
  by_cases hs : s < 1 ∨ s > 3 <;> simp [BufferParams.capiSetJoinStyle, hs]

theorem gen_capiSetMitreLimit_eq {H : Type} (h : H) (p0 : ConfigR Val) (c : Config) (m : UInt64) :
    ran (BufferParams.capiSetMitreLimit (R := Val) p0 h (.ofConfig c) (F64.decode m))
      = (Buffer.setMitreLimit c m).map fun c' => ((1 : Int), ConfigR.ofConfig c') := by
  simp [BufferParams.capiSetMitreLimit]

theorem gen_capiSetSingleSided_eq {H : Type} (h : H) (p0 : ConfigR Val) (c : Config) (ss : Int) :
    ran (BufferParams.capiSetSingleSided (R := Val) p0 h (.ofConfig c) ss)
      = (Buffer.setSingleSided c ss).map fun c' => ((1 : Int), ConfigR.ofConfig c') := by
  simp [BufferParams.capiSetSingleSided]

/-! ## the entry points = `Entry.config` (the object of `params_total`, `reject_iff_*`) -/

/-- `GEOSBufferWithStyle_r`: the `BufferParameters` handed to `BufferOp`, or the rejection, is `Entry.withStyle … |>.config` — for
every `int` and every bit pattern of the mitre limit (geometry, width and handle play no role) -/
theorem gen_capiBufferWithStyle_eq {G H : Type} (h : H) (g : G) (w : Val) (q cap join : Int) (m : UInt64) :
    ran (BufferParams.capiBufferWithStyle (R := Val) h g w q cap join (F64.decode m))
      = (Entry.withStyle q cap join m).config.map ConfigR.ofConfig := by
  unfold BufferParams.capiBufferWithStyle
  rw [bpDefault_obj]
  by_cases hc : cap < 1 ∨ cap > 3 <;> by_cases hj : join < 1 ∨ join > 3 <;>
    simp [hc, hj]

/-- `GEOSOffsetCurve_r` followed by the constructor `OffsetCurve(geom, width, bp)` it calls (member `bufferParams` default
constructed, finite width): the parameters the offset curve is computed with are `Entry.offsetCurve … |>.config` (quadrant
segments raised to 8, cap ROUND) -/
theorem gen_capiOffsetCurve_eq {G H : Type} (h : H) (g : G) (w : Val) (isfin : Val → Bool) (hw : isfin w = true)
    (q join : Int) (m : UInt64) :
    ran (do let bp ← BufferParams.capiOffsetCurve (R := Val) h g w q join (F64.decode m)
            BufferParams.offsetCurveCtor isfin defaultObj g w bp)
      = (Entry.offsetCurve q join m).config.map ConfigR.ofConfig := by
  unfold BufferParams.capiOffsetCurve BufferParams.offsetCurveCtor
  rw [bpDefault_obj, show defaultObj = ConfigR.ofConfig Config.default from bpDefault_obj]
  by_cases hj : join < 1 ∨ join > 3 <;> by_cases q8 : q < 8 <;>
    simp [hw, hj, q8]

/-- a non-finite width makes the `OffsetCurve` constructor throw (the C API function returns NULL) -/
theorem gen_offsetCurveCtor_nonfinite {G : Type} (g : G) (w : Val) (isfin : Val → Bool) (hw : isfin w = false) (b0 bp : ConfigR Val) :
    ran (BufferParams.offsetCurveCtor isfin b0 g w bp) = none := by
  simp [BufferParams.offsetCurveCtor, hw]

/-- `GEOSSingleSidedBuffer_r`: the parameters handed to `BufferBuilder` are `Entry.singleSidedBuffer … |>.config` (cap FLAT) -/
theorem gen_capiSingleSidedBuffer_eq {G H : Type} (h : H) (g : G) (w : Val) (q join : Int) (m : UInt64) (left : Int) :
    ran (BufferParams.capiSingleSidedBuffer (R := Val) h g w q join (F64.decode m) left)
      = (Entry.singleSidedBuffer q join m left).config.map ConfigR.ofConfig := by
  unfold BufferParams.capiSingleSidedBuffer
  rw [bpDefault_obj]
  by_cases hj : join < 1 ∨ join > 3 <;>
    simp [hj]

end capi

/-! ## `OffsetSegmentGenerator`: what the generator does with a stored configuration -/

/-- a stored configuration as an object over the rationals (the mitre limit plays no role here) -/
def objQ (c : Config) (mitre : Rat) : ConfigR Rat := ⟨c.quadSegs, c.endCap, c.join, mitre, c.singleSided⟩

/-- the constructor, whatever the members held before: the fillet angle quantum is a quarter turn divided by `max(q, 1)`
(`quantumQ`, for ANY stored `int`), the closing-segment factor is `Config.closingFactor` (80 iff raw `q ≥ 8` and join ROUND),
`init` stores the distance and `maxCurveSegmentError = distance · (1 − cos(quantum / 2))` -/
theorem gen_osgCtor_eq {PM : Type} (cosf : Rat → Rat) (piOver2 fq0 : Rat) (cl0 : Int) (d0 e0 : Rat) (pm : PM) (c : Config)
    (mitre dist : Rat) :
    BufferParams.osgCtor (R := Rat) cosf piOver2 fq0 cl0 d0 e0 pm (objQ c mitre) dist
      = (piOver2 * quantumQ c.quadSegs, c.closingFactor, dist, dist * (1 - cosf (piOver2 * quantumQ c.quadSegs / 2))) := by
  unfold BufferParams.osgCtor BufferParams.osgInit Config.closingFactor quantumQ quadSegsEff
  -- the two tests of the constructor (`quadSegs < 1`, `quadSegs >= 8 && join == ROUND`) are the two tests of the model;
  -- in each of the four cases both sides are the same tuple up to `x / y = x * y⁻¹`
  by_cases h1 : c.quadSegs < 1 <;> by_cases h2 : c.quadSegs ≥ 8 ∧ c.join = 1 <;>
    simp [objQ, BufferParams.getQuadrantSegments, BufferParams.getJoinStyle, h1, h2, div_eq_mul_inv]

/-- the vertex `addDirectedFillet` emits for the angle `θ` (`Angle::sinCosSnap` = `sn`, `cs`) -/
def filletPt (sn cs : Rat → Rat) (p : Cxx.XY Rat) (r θ : Rat) : Cxx.XY Rat := ⟨p.x + r * cs θ, p.y + r * sn θ⟩
/-- `directionFactor` -/
def dirF (dir : Int) : Rat := if dir = -1 then -1 else 1

/-- `addDirectedFillet(p, startAngle, endAngle, direction, radius)` appends to the vertex list exactly one vertex per offset of
the model: `nSegs = (int)(totalAngle / quantum + 0.5)` of them (none if that is `< 1`), at the angles
`startAngle ± i · totalAngle / nSegs` — `filletOffsets` of the total angle in quanta, times the quantum.  For every quantum
`≠ 0`, every pair of angles, either direction, with `(int)` = truncation. -/
theorem gen_addDirectedFillet_eq (sn cs : Rat → Rat) (qm : Rat) (hq : qm ≠ 0) (seg0 : List (Cxx.XY Rat)) (p : Cxx.XY Rat)
    (a0 a1 : Rat) (dir : Int) (r : Rat) :
    BufferParams.addDirectedFillet (R := Rat) truncToInt sn cs qm seg0 p a0 a1 dir r
      = seg0 ++ (filletOffsets (absQ (a0 - a1) / qm)).map (fun o => filletPt sn cs p r (a0 + dirF dir * (o * qm))) := by
  have h := map_filletOffsets (absQ (a0 - a1)) qm hq (fun v => filletPt sn cs p r (a0 + dirF dir * v))
  beta_reduce at h
  rw [h]
  unfold BufferParams.addDirectedFillet
  -- `simp` turns the `for` loop over `[0:nSegs]` that appends one vertex per round into `seg0 ++` the flattened map of
  -- singletons over `List.range' 0 nSegs 1`, i.e. (`flatten_map_singleton`, `range'_zero_one`) a `map` over `List.range nSegs`
  simp [flatten_map_singleton, range'_zero_one, nSegs, half_eq, filletPt, dirF]
  split
  · rw [List.append_nil]
  · rfl

/-- with the quantum the constructor computes from the stored parameter `q` (any `int`) and a positive `π/2`: the number of
vertices the fillet emits is `nSegsOf q a` (`a` = total angle in quarter turns) — the object of `fillet_angle_bound` -/
theorem gen_fillet_count (sn cs : Rat → Rat) (piOver2 : Rat) (hpi : 0 < piOver2) (q : Int) (p : Cxx.XY Rat)
    (a0 a1 : Rat) (dir : Int) (r : Rat) :
    (BufferParams.addDirectedFillet (R := Rat) truncToInt sn cs (piOver2 * quantumQ q) [] p a0 a1 dir r).length
      = if nSegsOf q (absQ (a0 - a1) / piOver2) < 1 then 0 else (nSegsOf q (absQ (a0 - a1) / piOver2)).toNat := by
  have hqe : (0 : Rat) < (quadSegsEff q : Rat) := by
    have : (1 : Int) ≤ quadSegsEff q := by unfold quadSegsEff; split <;> omega
    have := one_le_cast this
    linarith
  have hq : piOver2 * quantumQ q ≠ 0 := by
    unfold quantumQ
    have : 0 < piOver2 * (1 / (quadSegsEff q : Rat)) := by positivity
    exact ne_of_gt this
  rw [gen_addDirectedFillet_eq sn cs _ hq]
  have e : absQ (a0 - a1) / (piOver2 * quantumQ q) = absQ (a0 - a1) / piOver2 / quantumQ q := by
    rw [div_div]
  simp only [List.nil_append, List.length_map, nSegsOf, e]
  unfold filletOffsets
  split
  · rename_i hlt; simp [hlt]
  · rename_i hge; simp [hge]

-- non-vacuity: a quarter turn (quantum = 1/8 of it, q = 8) clockwise from angle 1: 8 vertices, the first at the start angle
example : (BufferParams.addDirectedFillet (R := Rat) truncToInt id id (1 / 8) [] ⟨0, 0⟩ 1 0 (-1) 1).length = 8 := by
  rw [gen_addDirectedFillet_eq _ _ _ (by norm_num)]; decide +kernel
example : (Entry.withStyle 8 0 1 0).config = none ∧
    ran (BufferParams.capiBufferWithStyle (R := Val) () () zero 8 0 1 (F64.decode 0)) = none := by
  constructor
  · decide
  · rw [gen_capiBufferWithStyle_eq]; decide

end GeosModel.C06Gen
