import GeosModel.Proofs.Simplify.DP
import GeosModel.Proofs.Simplify.DPIdem
import GeosModel.Proofs.Simplify.Contracts
/-!
# C18 — simplifiers stay within tolerance and preserve the topology they promise

Part 1 (FULL): Douglas–Peucker.  Theorems about the model `GeosModel.DP` (Model/Simplify/DP.lean) of
`DouglasPeuckerLineSimplifier`, for **every** distance function `dist`, tolerance and input list.
The order hypotheses (`OrdLaws`) say that `>`/`<=` behave like a total preorder on the distance carrier —
true for IEEE doubles as long as no distance is NaN, for `Int`, for `Rat`.

Part 2 (SPEC+C): contracts of the topology-preserving, polygon-hull and coverage simplifiers
(`*_check_sound`: what a `true` verdict of the exact checker run by the driver means).
-/
namespace GeosModel.DP
variable {Pt D : Type}

/-- the distance test the code applies: "`p` is within `tol` of segment `(a, b)`, measured by the code's own `dist`" -/
def Near (o : Ops Pt D) (tol : D) (a b p : Pt) : Prop := o.le (o.dist a b p) tol = true

/-- the `usePt`-mask formulation (what the C++ and the driver execute) equals the list formulation (what the
theorems below talk about) -/
theorem dp_mask_eq (o : Ops Pt D) (tol : D) (pts : List Pt) :
    simplifyLineMask o tol pts = simplifyLine o tol pts := by
  rcases list_ends pts with rfl | ⟨a, rfl⟩ | ⟨a, mid, b, rfl⟩
  · rfl
  · rfl
  · rw [simplifyLine_ends, simplifyLineMask_ends]
    show a :: applyMask (mid ++ [b]) _ = _
    rw [applyMask_append _ _ _ _ (sectionMask_length o tol _ a mid b), applyMask_section]
    rfl

/-- for an open line (or a closed `LineString`: `preserveClosedEndpoint`) the result is `simplifyLine` -/
theorem dp_simplify_open (o : Ops Pt D) (tol : D) (pres : Bool) (pts : List Pt)
    (h : pres = true ∨ isRing o pts = false) : simplify o tol pres pts = simplifyLine o tol pts := by
  unfold simplify
  rw [dp_mask_eq]
  rcases h with h | h <;> simp [h]

/-- **termination / fuel**: any fuel above the section length gives the same result, so the fuel argument is
only a device to make the recursion structural -/
theorem dp_terminates (o : Ops Pt D) (tol : D) (f1 f2 : Nat) (a : Pt) (mid : List Pt) (b : Pt)
    (h1 : mid.length < f1) (h2 : mid.length < f2) : sect o tol f1 a mid b = sect o tol f2 a mid b :=
  sect_fuel_irrel o tol f1 f2 a mid b h1 h2

/-- **subsequence**: the output vertices are input vertices, in input order (no hypotheses at all) -/
theorem dp_subseq (o : Ops Pt D) (tol : D) (pts : List Pt) : (simplifyLine o tol pts).Sublist pts := by
  cases pts with
  | nil => simp [simplifyLine]
  | cons a r =>
    exact segcover_sublist (simplifyLine_segcover o tol (fun _ _ _ => True) (fun _ _ _ _ _ _ => trivial) (a :: r) (by simp))

/-- **endpoints**: first and last vertex are kept (no hypotheses) -/
theorem dp_endpoints (o : Ops Pt D) (tol : D) (pts : List Pt) :
    (simplifyLine o tol pts).head? = pts.head? ∧ (simplifyLine o tol pts).getLast? = pts.getLast? := by
  cases pts with
  | nil => simp [simplifyLine]
  | cons a r =>
    have h := simplifyLine_segcover o tol (fun _ _ _ => True) (fun _ _ _ _ _ _ => trivial) (a :: r) (by simp)
    exact ⟨segcover_head h, segcover_getLast h⟩

/-- **within tolerance** (positional form): the input is the output with, between any two consecutive output
vertices `a, b`, a run of dropped vertices each of which is `Near tol a b` -/
theorem dp_within (o : Ops Pt D) (L : OrdLaws o) (tol : D) (pts : List Pt) (hne : pts ≠ []) :
    SegCover (Near o tol) pts (simplifyLine o tol pts) := by
  apply simplifyLine_segcover o tol (Near o tol) _ pts hne
  intro a b mid hle p hp
  exact L.le_trans _ _ _ (farthest_bound o L a b mid p hp) hle

/-- **within tolerance** (the sentence of the property): every input vertex is an output vertex or lies within
`tol` of some segment of the simplified line -/
theorem dp_within_line (o : Ops Pt D) (L : OrdLaws o) (tol : D) (pts : List Pt) :
    ∀ p ∈ pts, p ∈ simplifyLine o tol pts ∨ ∃ s ∈ pairs (simplifyLine o tol pts), Near o tol s.1 s.2 p := by
  intro p hp
  have hne : pts ≠ [] := by intro h; simp [h] at hp
  exact segcover_mem (dp_within o L tol pts hne) p hp

/-- **zero tolerance**: if `dist ≤ zero` happens only for points on the segment (`On`), every dropped vertex lies on
the output segment spanning it — nothing off the line is dropped.  (Vertices *on* the line are dropped, the
output is not literally the input.) -/
theorem dp_zero_tol (o : Ops Pt D) (L : OrdLaws o) (zero : D) (On : Pt → Pt → Pt → Prop)
    (hz : ∀ a b p, o.le (o.dist a b p) zero = true → On a b p) (pts : List Pt) (hne : pts ≠ []) :
    SegCover On pts (simplifyLine o zero pts) :=
  segcover_mono (fun a b p h => hz a b p h) (dp_within o L zero pts hne)

/-- if nothing at all is ever within the tolerance the line is returned unchanged -/
theorem dp_zero_tol_unchanged (o : Ops Pt D) (L : OrdLaws o) (zero : D)
    (hz : ∀ a b p, o.le (o.dist a b p) zero = false) (pts : List Pt) : simplifyLine o zero pts = pts := by
  cases pts with
  | nil => rfl
  | cons a r =>
    have h := dp_zero_tol o L zero (fun _ _ _ => False) (fun a b p h => by simp [hz a b p] at h) (a :: r) (by simp)
    generalize simplifyLine o zero (a :: r) = out at h
    generalize (a :: r) = inp at h
    induction h with
    | last b => rfl
    | seg a ds b rest out hp _ ih =>
      cases ds with
      | nil => simp [ih]
      | cons d ds => exact absurd (hp d (by simp)) (by simp)

/-- **idempotence** (open lines / closed LineStrings): simplifying the result again with the same tolerance changes
nothing.  `OrdLaws2` = `OrdLaws` + (`a > b` and `c <= b` imply `a > c`). -/
theorem dp_idempotent (o : Ops Pt D) (L : OrdLaws2 o) (tol : D) (pts : List Pt) :
    simplifyLine o tol (simplifyLine o tol pts) = simplifyLine o tol pts := by
  rcases list_ends pts with rfl | ⟨a, rfl⟩ | ⟨a, mid, b, rfl⟩
  · rfl
  · rfl
  · rw [simplifyLine_ends, simplifyLine_ends, sect_idem o L tol _ a mid b (Nat.lt_succ_self _) _ (Nat.lt_succ_self _)]

/-! ### rings (`preserveClosedEndpoint = false`, input is a ring) -/

/-- ring result: a subsequence of the input, possibly followed by a repetition of its first vertex (`closeRing`) -/
theorem dp_ring_subseq (o : Ops Pt D) (tol : D) (pts : List Pt) :
    ∃ core, core.Sublist pts ∧
      (simplify o tol false pts = core ∨ ∃ h, core.head? = some h ∧ simplify o tol false pts = core ++ [h]) := by
  unfold simplify
  rw [dp_mask_eq]
  have hs := dp_subseq o tol pts
  by_cases hr : (!false && isRing o pts) = true
  · simp only [hr, if_true, ringStep]
    by_cases hf : ringFires o tol (simplifyLine o tol pts) = true
    · simp only [hf, if_true]
      have hc : (ringCore (simplifyLine o tol pts)).Sublist pts :=
        ((List.dropLast_sublist _).trans (List.tail_sublist _)).trans hs
      refine ⟨ringCore (simplifyLine o tol pts), hc, ?_⟩
      unfold closeRing
      cases hh : (ringCore (simplifyLine o tol pts)).head? with
      | none => exact Or.inl rfl
      | some a =>
        cases hl : (ringCore (simplifyLine o tol pts)).getLast? with
        | none => exact Or.inl rfl
        | some b =>
          simp only
          by_cases he : o.eq a b = true
          · simp [he]
          · simp only [he, Bool.false_eq_true, if_false]
            exact Or.inr ⟨a, rfl, rfl⟩
    · simp only [hf, Bool.false_eq_true, if_false]
      exact ⟨_, hs, Or.inl rfl⟩
  · simp only [hr, Bool.false_eq_true, if_false]
    exact ⟨_, hs, Or.inl rfl⟩

/-- the "triangle inequality" facts about point–segment distance used for the 2·tol bound; `add t t` plays 2·t.
All three hold for the Euclidean distance to a segment (a segment with both ends within `t` of a convex set
stays within `t` of it). -/
structure TriLaws (o : Ops Pt D) (add : D → D → D) (t : D) : Prop where
  weaken : ∀ d, o.le d t = true → o.le d (add t t) = true
  /-- `p` within `t` of segment `(c, b)` and `c` within `t` of segment `(a, b)` ⇒ `p` within `2t` of `(a, b)` -/
  triL : ∀ a b c p, o.le (o.dist c b p) t = true → o.le (o.dist a b c) t = true → o.le (o.dist a b p) (add t t) = true
  /-- `p` within `t` of segment `(a, c)` and `c` within `t` of segment `(a, b)` ⇒ `p` within `2t` of `(a, b)` -/
  triR : ∀ a b c p, o.le (o.dist a c p) t = true → o.le (o.dist a b c) t = true → o.le (o.dist a b p) (add t t) = true

/-- the triangle argument of the ring post-step, on three points: if `z` is within `t` of segment `(q, p1)`, then `z` itself and
whatever is within `t` of `(z, p1)` or of `(q, z)` — the two segments that go when `z` is removed — is within `2t` of `(q, p1)` -/
theorem TriLaws.closing {o : Ops Pt D} {add : D → D → D} {t : D} (T : TriLaws o add t) (q p1 z p : Pt)
    (hz : o.le (o.dist q p1 z) t = true)
    (hp : p = z ∨ o.le (o.dist z p1 p) t = true ∨ o.le (o.dist q z p) t = true) :
    o.le (o.dist q p1 p) (add t t) = true := by
  rcases hp with rfl | h | h
  · exact T.weaken _ hz
  · exact T.triL q p1 z p h hz
  · exact T.triR q p1 z p h hz

/-- **rings, 2·tol**: when the post-step removes the ring start vertex, every input vertex is a vertex of the new
ring `core` or within `2·tol` of one of its segments (the closing segment `(last core, first core)` included). -/
theorem dp_ring_2tol (o : Ops Pt D) (L : OrdLaws o) (add : D → D → D) (tol : D) (T : TriLaws o add tol)
    (heq : ∀ a b, o.eq a b = true → a = b) (pts : List Pt)
    (hring : isRing o pts = true) (hfire : ringFires o tol (simplifyLine o tol pts) = true) :
    ∃ core h, ringCore (simplifyLine o tol pts) = core ∧ core.head? = some h ∧
      simplify o tol false pts = closeRing o core ∧
      ∀ p ∈ pts, p ∈ core ∨ ∃ s ∈ pairs (core ++ [h]), o.le (o.dist s.1 s.2 p) (add tol tol) = true := by
  obtain ⟨z, p1, q, core, z', hshape, hcore, hhead, hlast, hcond⟩ := ringFires_shape o tol _ hfire
  generalize hout : simplifyLine o tol pts = out at *
  -- z' = z, because the input is a ring and endpoints are kept
  have hend := dp_endpoints o tol pts
  rw [hout, hshape] at hend
  have hz : z = z' := by
    unfold isRing at hring
    simp only [Bool.and_eq_true, decide_eq_true_eq] at hring
    have h2 : pts.getLast? = some z' := by
      rw [← hend.2]
      exact getLast?_append_cons (z :: core) z' []
    rw [← hend.1, h2] at hring
    exact heq _ _ hring.2
  subst hz
  refine ⟨core, p1, hcore, hhead, ?_, ?_⟩
  · unfold simplify
    rw [dp_mask_eq, hout]
    simp [hring, ringStep, hfire, hcore]
  · intro p hp
    have hcov := dp_within_line o L tol pts p hp
    rw [hout, hshape] at hcov
    have hpc : pairs (core ++ [p1]) = pairs core ++ [(q, p1)] := pairs_append_singleton p1 core q hlast
    have hpo : pairs (z :: (core ++ [z])) = (z, p1) :: (pairs core ++ [(q, z)]) := by
      rw [pairs_cons z p1 _ (by rw [List.head?_append, hhead]; rfl), pairs_append_singleton z core q hlast]
    have close : (p = z ∨ o.le (o.dist z p1 p) tol = true ∨ o.le (o.dist q z p) tol = true) →
        p ∈ core ∨ ∃ s ∈ pairs (core ++ [p1]), o.le (o.dist s.1 s.2 p) (add tol tol) = true :=
      fun h => Or.inr ⟨(q, p1), by simp [hpc], T.closing q p1 z p hcond h⟩
    rcases hcov with hmem | ⟨s, hs, hnear⟩
    · simp only [List.mem_cons, List.mem_append, List.not_mem_nil, or_false] at hmem
      rcases hmem with h | h | h
      · exact close (Or.inl h)
      · exact Or.inl h
      · exact close (Or.inl h)
    · rw [hpo] at hs
      simp only [List.mem_cons, List.mem_append, List.not_mem_nil, or_false] at hs
      rcases hs with rfl | hs | rfl
      · exact close (Or.inr (Or.inl hnear))
      · exact Or.inr ⟨s, by simp [hpc, hs], T.weaken _ hnear⟩
      · exact close (Or.inr (Or.inr hnear))

/-! ### non-vacuity: a concrete instance satisfies every hypothesis, and the model computes on it -/

/-- points on a number line, distance to the closed interval between `a` and `b` -/
def lineOps : Ops Int Int :=
  { dist := fun a b p => if p < min a b then min a b - p else if max a b < p then p - max a b else 0
    gt := fun x y => decide (x > y)
    le := fun x y => decide (x ≤ y)
    init := -1
    eq := fun a b => decide (a = b) }

/-- `>` and `<=` of `Int` satisfy the order laws, whatever the distance function -/
theorem int_ord2 {Pt : Type} (o : Ops Pt Int) (hgt : ∀ x y, o.gt x y = decide (x > y)) (hle : ∀ x y, o.le x y = decide (x ≤ y)) :
    OrdLaws2 o where
  le_refl a := by simp only [hle, decide_eq_true_eq]; omega
  le_trans a b c := by simp only [hle, decide_eq_true_eq]; omega
  not_gt_le a b := by simp only [hgt, hle, decide_eq_true_eq, decide_eq_false_iff_not]; omega
  gt_le a b := by simp only [hgt, hle, decide_eq_true_eq]; omega
  gt_of_gt_of_le a b c := by simp only [hgt, hle, decide_eq_true_eq]; omega

/-- `p` is within `d` of the interval between `a` and `b` exactly when it lies in the interval widened by `d` -/
theorem lineOps_near (a b p d : Int) (hd : 0 ≤ d) :
    lineOps.le (lineOps.dist a b p) d = true ↔ min a b - d ≤ p ∧ p ≤ max a b + d := by
  simp only [lineOps, decide_eq_true_eq]
  split
  · omega
  · split <;> omega

/-- a point near an interval one of whose ends, `x`, lies in `[lo, hi]` while the other, `c`, is near `[lo, hi]`, is near `[lo, hi]` -/
theorem near_trans (lo hi x c p t : Int) (ht : 0 ≤ t) (hx : lo ≤ x ∧ x ≤ hi) (hc : lo - t ≤ c ∧ c ≤ hi + t)
    (hp : min x c - t ≤ p ∧ p ≤ max x c + t) : lo - (t + t) ≤ p ∧ p ≤ hi + (t + t) := by omega

theorem lineOps_tri (t : Int) (ht : 0 ≤ t) : TriLaws lineOps (· + ·) t := by
  have h2 : 0 ≤ t + t := by omega
  refine ⟨?_, ?_, ?_⟩
  · intro d; simp only [lineOps, decide_eq_true_eq]; omega
  · intro a b c p
    rw [lineOps_near _ _ _ _ ht, lineOps_near _ _ _ _ ht, lineOps_near _ _ _ _ h2, Int.min_comm c, Int.max_comm c]
    exact fun hp hc => near_trans _ _ b c p t ht ⟨Int.min_le_right .., Int.le_max_right ..⟩ hc hp
  · intro a b c p
    rw [lineOps_near _ _ _ _ ht, lineOps_near _ _ _ _ ht, lineOps_near _ _ _ _ h2]
    exact fun hp hc => near_trans _ _ a c p t ht ⟨Int.min_le_left .., Int.le_max_left ..⟩ hc hp

/-- planar instance on the integer grid: "distance" = twice the triangle area |det| (an ordered quantity that is 0
exactly on the supporting line), squared point distance for a degenerate segment -/
def gridOps : Ops (Int × Int) Int :=
  { dist := fun a b p => if a = b then (p.1 - a.1) * (p.1 - a.1) + (p.2 - a.2) * (p.2 - a.2)
      else ((b.1 - a.1) * (p.2 - a.2) - (b.2 - a.2) * (p.1 - a.1)).natAbs
    gt := fun x y => decide (x > y)
    le := fun x y => decide (x ≤ y)
    init := -1
    eq := fun a b => decide (a = b) }

theorem lineOps_ord2 : OrdLaws2 lineOps := int_ord2 lineOps (fun _ _ => rfl) (fun _ _ => rfl)

theorem gridOps_ord2 : OrdLaws2 gridOps := int_ord2 gridOps (fun _ _ => rfl) (fun _ _ => rfl)

/-- the ring variant is **not** idempotent in general: after the post-step moved the ring start, a second run measures
against other chords and may drop one more vertex (witness on the exact instance `gridOps`) -/
theorem dp_ring_not_idempotent :
    ∃ (tol : Int) (ring : List (Int × Int)), isRing gridOps ring = true ∧
      simplify gridOps tol false (simplify gridOps tol false ring) ≠ simplify gridOps tol false ring :=
  ⟨4, [(0,0), (4,0), (4,4), (0,4), (2,1), (0,0)], by decide, by decide⟩

-- the recursion splits at the farthest vertex, keeps it, drops what is near
example : simplifyLine gridOps 12 [(0,0), (1,1), (2,0), (3,5), (4,0), (5,1), (6,0)] = [(0,0), (3,5), (6,0)] := by decide
example : simplifyLineMask gridOps 12 [(0,0), (1,1), (2,0), (3,5), (4,0), (5,1), (6,0)] = [(0,0), (3,5), (6,0)] := by decide
-- tolerance 0 drops exactly the collinear vertices
example : simplifyLine gridOps 0 [(0,0), (1,1), (2,2), (3,5), (4,5), (6,0)] = [(0,0), (2,2), (3,5), (4,5), (6,0)] := by decide
-- ring post-step: the start vertex (0,0) is dropped, the ring is re-closed on the next kept vertex
example : simplify gridOps 8 false [(0,0), (4,-1), (8,0), (8,8), (0,8), (-4, 1), (0,0)]
    = [(8,0), (8,8), (0,8), (-4,1), (8,0)] := by decide
-- same coordinates as a closed LineString (preserveClosedEndpoint = true): start vertex kept
example : simplify gridOps 8 true [(0,0), (4,-1), (8,0), (8,8), (0,8), (-4, 1), (0,0)]
    = [(0,0), (8,0), (8,8), (0,8), (-4,1), (0,0)] := by decide
-- a quadrilateral ring may lose its start vertex and become a triangle
example : simplify gridOps 20 false [(4,1), (8,0), (4,8), (0,0), (4,1)] = [(8,0), (4,8), (0,0), (8,0)] := by decide
-- the hypotheses of `dp_ring_2tol` are satisfiable and its premise `ringFires` happens
example : ringFires lineOps 1 (simplifyLine lineOps 1 [0, 5, 9, 5, -3, 0]) = true ∧
    isRing lineOps [0, 5, 9, 5, -3, 0] = true ∧ simplify lineOps 1 false [0, 5, 9, 5, -3, 0] = [9, -3, 9] := by decide

end GeosModel.DP

/-!
## Part 2 — contracts of the simplifiers that are tied by correspondence only (SPEC+C)

The driver runs the executable checkers of `Model/Simplify/Contracts.lean` on (input, GEOS output) pairs, in exact
integer arithmetic.  The theorems below state what a `true` verdict guarantees.  They are *checker soundness*
statements (checker ⇒ contract predicate), not statements about the C++ algorithms; the geometric leaves are the
Kernel predicates `segRel`, `locateInRing`, `locateInPolygon`.
What is **not** covered by these predicates: the distance/area tolerance of TPS (checked by the driver in `Float` with
the code's own distance function), of the hull parameters and of the coverage simplifier ("same union up to tolerance").
-/
namespace GeosModel.Simplify
open GeosModel.Kernel

/-- contact-free validity (used for every output): vertices pairwise distinct, segments meet only in the endpoint
shared by consecutive segments, holes strictly inside their shell and not nested, polygons not nested -/
theorem strictly_valid_check_sound (lines : List (List Pt)) (polys : List (List Ring))
    (h : strictlyValid lines polys = true) : StrictlyValid lines polys := by
  simp only [strictlyValid, Bool.and_eq_true, List.all_eq_true, decide_eq_true_eq] at h
  obtain ⟨⟨⟨⟨⟨h1, h2⟩, h3⟩, h4⟩, h5⟩, h6⟩ := h
  refine ⟨fun l hl => by have := h1 l hl; split at this <;> omega, h2, h3, ?_, h5, ?_⟩
  · exact (allPairs_sound _ _ h4).imp (fun {s t} hst => segOKStrict_spec s t hst)
  · exact (allPairs_sound _ _ h6).imp (fun {a b} hab => by simpa [Bool.and_eq_true] using hab)

/-- **TopologyPreserveSimplify**: same number of lines / polygons / rings, each component a vertex subsequence
(cyclic for rings) with line endpoints kept, output contact-free valid -/
theorem tps_check_sound (inLines outLines : List (List Pt)) (inPolys outPolys : List (List Ring))
    (h : tpsCheck inLines outLines inPolys outPolys = true) : TpsContract inLines outLines inPolys outPolys := by
  simp only [tpsCheck, Bool.and_eq_true] at h
  obtain ⟨⟨h1, h2⟩, h3⟩ := h
  refine ⟨(zipAll_sound _ _ _ h1).mono tpsLineOK_sound, ?_, strictly_valid_check_sound _ _ h3⟩
  exact (zipAll_sound _ _ _ h2).mono (fun a b hab => (zipAll_sound _ _ _ hab).mono tpsRingOK_sound)

/-- counts are preserved: consequence of the pointwise relation -/
theorem tps_counts (inLines outLines : List (List Pt)) (inPolys outPolys : List (List Ring))
    (h : tpsCheck inLines outLines inPolys outPolys = true) :
    inLines.length = outLines.length ∧ inPolys.length = outPolys.length ∧
    All2 (fun i o => i.length = o.length) inPolys outPolys := by
  have c := tps_check_sound _ _ _ _ h
  exact ⟨c.lines.length_eq, c.rings.length_eq, c.rings.mono (fun _ _ hr => hr.length_eq)⟩

/-- **PolygonHullSimplify**: per polygon the shell hull contains (outer) / lies within (inner) the input shell at the
vertex level, holes the other way round, hull vertices are input vertices, no hull edge properly crosses an input
edge, output contact-free valid -/
theorem hull_check_sound (outer : Bool) (inPolys outPolys : List (List Ring))
    (h : hullCheck outer inPolys outPolys = true) : HullContract outer inPolys outPolys := by
  simp only [hullCheck, Bool.and_eq_true] at h
  exact ⟨(zipAll_sound _ _ _ h.1).mono (polyHullOK_sound outer), strictly_valid_check_sound _ _ h.2⟩

/-- **CoverageSimplify**: same number of polygons and rings, ring vertices are input vertices, every new segment is
shared by exactly the rings that shared the stretch it replaces (edge-matching preserved), vertices on ≥ 3 rings
kept, boundary segments kept when requested, no crossing / overlapping / T-touching segments -/
theorem coverage_check_sound (pb : Bool) (inPolys outPolys : List (List Ring))
    (h : covCheck pb inPolys outPolys = true) : CovContract pb inPolys outPolys := by
  simp only [covCheck, Bool.and_eq_true, List.all_eq_true, decide_eq_true_eq] at h
  obtain ⟨⟨h1, h2⟩, h3⟩ := h
  refine ⟨?_, h2, allPairs_sound _ _ h3⟩
  refine (zipAll_sound _ _ _ h1).mono (fun a b hab => (zipAll_sound _ _ _ hab).mono ?_)
  intro i o hio
  simp only [Bool.and_eq_true, Bool.or_eq_true, Bool.not_eq_true'] at hio
  obtain ⟨⟨hr, hn⟩, hb⟩ := hio
  refine ⟨covRingOK_sound _ _ _ _ hr, ?_, ?_⟩
  · intro v hv h3
    simp only [covNodesOK, List.all_eq_true, Bool.or_eq_true, decide_eq_true_eq, memB_iff] at hn
    rcases hn v hv with h | h
    · omega
    · exact h
  · intro hpb e he hc
    rcases hb with hb | hb
    · simp [hpb] at hb
    · simp only [covBoundaryOK, List.all_eq_true, Bool.or_eq_true, bne_iff_ne, ne_eq, List.any_eq_true] at hb
      rcases hb e he with h | h
      · exact absurd hc h
      · exact h

/-! non-vacuity: the checkers accept a correct simplification and reject a wrong one -/

private def sq : Ring := [⟨0,0⟩, ⟨4,0⟩, ⟨8,0⟩, ⟨8,8⟩, ⟨0,8⟩, ⟨0,0⟩]
private def sqS : Ring := [⟨0,0⟩, ⟨8,0⟩, ⟨8,8⟩, ⟨0,8⟩, ⟨0,0⟩]
private def bow : Ring := [⟨0,0⟩, ⟨8,8⟩, ⟨8,0⟩, ⟨0,8⟩, ⟨0,0⟩]

example : tpsCheck [] [] [[sq]] [[sqS]] = true := by decide
example : tpsCheck [] [] [[sq]] [[bow]] = false := by decide          -- self-crossing output
example : tpsCheck [[⟨0,0⟩, ⟨1,1⟩, ⟨2,0⟩]] [[⟨0,0⟩, ⟨2,0⟩]] [] [] = true := by decide
example : tpsCheck [[⟨0,0⟩, ⟨1,1⟩, ⟨2,0⟩]] [[⟨0,0⟩, ⟨1,1⟩]] [] [] = false := by decide   -- endpoint lost
-- outer hull of a notched square fills the notch; as an *inner* hull the same ring is rejected
private def notch : Ring := [⟨0,0⟩, ⟨8,0⟩, ⟨8,8⟩, ⟨4,4⟩, ⟨0,8⟩, ⟨0,0⟩]
example : hullCheck true [[notch]] [[sqS]] = true := by decide
example : hullCheck false [[notch]] [[sqS]] = false := by decide
-- two squares sharing the edge x = 4 with a vertex in the middle of it
private def cl : Ring := [⟨0,0⟩, ⟨4,0⟩, ⟨4,2⟩, ⟨4,4⟩, ⟨0,4⟩, ⟨0,0⟩]
private def cr : Ring := [⟨4,0⟩, ⟨8,0⟩, ⟨8,4⟩, ⟨4,4⟩, ⟨4,2⟩, ⟨4,0⟩]
private def clS : Ring := [⟨0,0⟩, ⟨4,0⟩, ⟨4,4⟩, ⟨0,4⟩, ⟨0,0⟩]
private def crS : Ring := [⟨4,0⟩, ⟨8,0⟩, ⟨8,4⟩, ⟨4,4⟩, ⟨4,0⟩]
example : covCheck false [[cl], [cr]] [[clS], [crS]] = true := by decide
example : covCheck false [[cl], [cr]] [[clS], [cr]] = false := by decide     -- shared edge simplified on one side only

end GeosModel.Simplify
