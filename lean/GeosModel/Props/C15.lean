import GeosModel.Proofs.Index.STRBuild
import GeosModel.Proofs.Index.STRCapOne
import GeosModel.Proofs.EnvLemmas
import GeosModel.Model.Index.Rep
import GeosModel.Proofs.Index.Quad
/-!
# C15 — spatial index queries return exactly the matching items after any history

Property theorems for the model of `TemplateSTRtree` (Model/Index/STR.lean).  The abstract
specification is the multiset of *live entries* (`List (Entry β ι)` up to permutation); every operation
of the tree is shown to refine the obvious operation on that multiset, and `history_refines` lifts this
to every legal history (no insert after build) of insert / build / query / remove / iterate / items by induction over the
operation list.

Hypotheses are exactly:
* `CfgOK`: the bounds type satisfies `inter a q → inter (a ∪ b) q` (both sides) — proved for the
  model of `geom::Envelope` in `env_law` below — and the two sorts return permutations (true of
  `std::sort` whatever it does on ties);
* node capacity ≥ 2 (`Tree.WF.cap`).  For capacity 1 the model's `build` does not reach a single root
  (`build_capacity_one_makes_no_progress`: every level has as many nodes as the one below, for any fuel — the C++ loop
  does not terminate; `GEOSSTRtree_create_r` refuses a capacity below 2, /repo 6546757fa); capacity 0 is meaningless.
  The quantifier of the property is 2..32.

After the history theorem: the `geom::Envelope` instance of the hypothesis (`env_law`); that the C++ representations used by
`Props/C15Gen.lean` lose nothing (`rep_faithful`, `children_encoding_faithful`, `removeNode_leaf_marks`); and, in a second
namespace `GeosModel.Quad`, the theorems about the quadtree model (Model/Index/Quad.lean), with a header of their own.
-/
namespace GeosModel.STR
variable {β ι : Type}

structure CfgOK (c : Cfg β ι) : Prop where
  law : OpsLaw c.ops
  sortX : ∀ l, (c.sortX l).Perm l
  sortY : ∀ l, (c.sortY l).Perm l

/-- representation invariant of the tree object -/
structure Tree.WF (c : Cfg β ι) (t : Tree β ι) : Prop where
  cap : 2 ≤ t.cap
  unbuilt : t.built = false → t.root = none ∧ ∀ e ∈ t.pending, e.deleted = false
  builtRoot : t.built = true → ∃ r, t.root = some r ∧ r.Covers c.ops

theorem leavesL_map_leaf (es : List (Entry β ι)) : leavesL (es.map Node.leaf) = es := by
  induction es with
  | nil => simp [leavesL]
  | cons e es ih => simp [leavesL, Node.leaves, ih]

theorem filter_live_of_all_live (es : List (Entry β ι)) (h : ∀ e ∈ es, e.deleted = false) :
    es.filter (fun e => !e.deleted) = es := by
  apply List.filter_eq_self.mpr
  intro e he; simp [h e he]

theorem empty_wf (c : Cfg β ι) (cap : Nat) (h : 2 ≤ cap) : (Tree.empty cap : Tree β ι).WF c :=
  ⟨h, fun _ => ⟨rfl, by simp [Tree.empty]⟩, fun hb => by simp [Tree.empty] at hb⟩

theorem empty_live (cap : Nat) : (Tree.empty cap : Tree β ι).live = [] := by
  simp [Tree.empty, Tree.live]

/-- **insert** (before build): appends one live entry, null envelopes are ignored -/
theorem insert_spec (c : Cfg β ι) (t : Tree β ι) (b : β) (i : ι) (hw : t.WF c) (hb : t.built = false) :
    (t.insert c b i).WF c ∧ (t.insert c b i).built = false ∧
    (t.insert c b i).live = if c.isNull b then t.live else t.live ++ [⟨b, i, false⟩] := by
  unfold Tree.insert
  by_cases hn : c.isNull b = true
  · rw [if_pos hn]; exact ⟨hw, hb, by simp [hn]⟩
  · rw [if_neg hn]
    refine ⟨⟨hw.cap, fun _ => ⟨(hw.unbuilt hb).1, ?_⟩, fun h => by simp [hb] at h⟩, hb, ?_⟩
    · intro e he
      simp only [List.mem_append, List.mem_singleton] at he
      rcases he with he | rfl
      · exact (hw.unbuilt hb).2 e he
      · rfl
    · have hn' : c.isNull b = false := by simpa using hn
      simp [Tree.live, hb, List.filter_append, hn']

/-- **the hypothesis `2 ≤ cap` is necessary**: with node capacity 1 the packing loop of `build()` keeps the number of
parentless nodes unchanged at every level, whatever the number of iterations — two or more items never get a root -/
theorem build_capacity_one_makes_no_progress (c : Cfg β ι) (ok : CfgOK c) (fuel : Nat) (es : List (Entry β ι)) :
    (buildLoop c.ops 1 c.sortX c.sortY fuel (es.map Node.leaf)).length = es.length := by
  rw [buildLoop_one_length c.ops c.sortX c.sortY ok.sortX ok.sortY]; simp

/-- the root produced by `build()` holds every pending entry exactly once and covers them -/
theorem buildRoot_spec (c : Cfg β ι) (ok : CfgOK c) (cap : Nat) (hc : 2 ≤ cap) (es : List (Entry β ι))
    (hne : es ≠ []) :
    ∃ r, buildRoot c.ops cap c.sortX c.sortY es = some r ∧ r.Covers c.ops ∧ r.leaves.Perm es := by
  unfold buildRoot
  have hne' : es.map (Node.leaf (β := β) (ι := ι)) ≠ [] := by simpa using hne
  have h1 := buildLoop_single c.ops cap hc c.sortX c.sortY ok.sortX ok.sortY es.length
    (es.map Node.leaf) hne' (by simp)
  have h2 := buildLoop_leaves c.ops cap c.sortX c.sortY ok.sortX ok.sortY (by omega) es.length (es.map Node.leaf)
  have h3 := buildLoop_covers c.ops cap c.sortX c.sortY ok.sortX ok.sortY ok.law es.length (es.map Node.leaf)
    (by intro k hk; simp only [List.mem_map] at hk; obtain ⟨e, _, rfl⟩ := hk; trivial)
  match hl : buildLoop c.ops cap c.sortX c.sortY es.length (es.map Node.leaf), h1 with
  | [r], _ =>
    refine ⟨r, by simp, ?_, ?_⟩
    · exact h3 r (by rw [hl]; simp)
    · rw [hl, leavesL_map_leaf] at h2
      simpa [leavesL] using h2

/-- **build**: keeps the live multiset -/
theorem build_spec (c : Cfg β ι) (ok : CfgOK c) (t : Tree β ι) (hw : t.WF c) :
    (t.build c).WF c ∧ (t.build c).live.Perm t.live ∧ (t.built = true → t.build c = t) := by
  unfold Tree.build
  by_cases hb : t.built = true
  · simp [hb, hw]
  · have hb' : t.built = false := by simpa using hb
    simp only [hb', Bool.false_eq_true, if_false]
    by_cases he : t.pending.isEmpty = true
    · simp [he, hw]
    · simp only [he]
      have hne : t.pending ≠ [] := by simpa using he
      obtain ⟨r, hr, hcov, hperm⟩ := buildRoot_spec c ok t.cap hw.cap t.pending hne
      refine ⟨⟨hw.cap, fun h => by simp at h, fun _ => ⟨r, hr, hcov⟩⟩, ?_, fun h => by simp at h⟩
      simp only [Tree.live, hr, hb', Bool.false_eq_true, if_false, if_true]
      exact hperm.filter _

theorem built_live (c : Cfg β ι) (t : Tree β ι) (hw : t.WF c) (hb : t.built = true) :
    ∃ r, t.root = some r ∧ r.Covers c.ops ∧ t.live = r.leaves.filter (fun e => !e.deleted) := by
  obtain ⟨r, hr, hc⟩ := hw.builtRoot hb
  exact ⟨r, hr, hc, by simp [Tree.live, hb, hr]⟩

theorem unbuilt_after_build (c : Cfg β ι) (t : Tree β ι) (hw : t.WF c)
    (hb : (t.build c).built = false) : (t.build c).root = none ∧ (t.build c).live = [] ∧ t.live = [] := by
  unfold Tree.build at hb ⊢
  by_cases h1 : t.built = true
  · simp [h1] at hb
  · have h1' : t.built = false := by simpa using h1
    by_cases he : t.pending.isEmpty = true
    · have : t.pending = [] := by simpa using he
      simp [h1', (hw.unbuilt h1').1, Tree.live, this]
    · simp [h1', he] at hb

/-- **query**: visits exactly the live entries whose envelope intersects the query envelope, each once -/
theorem query_exact (c : Cfg β ι) (ok : CfgOK c) (t : Tree β ι) (hw : t.WF c) (q : β) :
    (t.query c q).1.WF c ∧ (t.query c q).1.live.Perm t.live ∧
    (t.query c q).2.Perm ((t.live.filter (fun e => c.ops.inter e.b q)).map (·.item)) := by
  obtain ⟨hw', hperm, _⟩ := build_spec c ok t hw
  refine ⟨hw', hperm, ?_⟩
  simp only [Tree.query]
  by_cases hb : (t.build c).built = true
  · obtain ⟨r, hr, hcov, hlive⟩ := built_live c _ hw' hb
    rw [hr, queryRoot_spec c.ops q r hcov, filter_hit_eq, ← hlive]
    exact ((hperm.filter _).map _)
  · have hb' : (t.build c).built = false := by simpa using hb
    obtain ⟨hr, _, hl⟩ := unbuilt_after_build c t hw hb'
    simp [hr, queryRoot, hl]

/-- **iterate**: visits exactly the live entries -/
theorem iterate_exact (t : Tree β ι) : t.iterate = t.live.map (·.item) := by
  simp [Tree.iterate, Tree.live]

/-! ### `items()`: the forward iterator (`Iterator::skipDeleted`, `operator++`, `operator*`, `operator!=`) -/

/-- after `skipDeleted()` the iterator never rests on a removed leaf: it is at the end or on a live leaf -/
theorem skipDeleted_rests_live : ∀ (l : List (Entry β ι)) (e : Entry β ι) (r : List (Entry β ι)),
    skipDeleted l = e :: r → e.deleted = false
  | [], e, r, h => by simp [skipDeleted] at h
  | x :: xs, e, r, h => by
    unfold skipDeleted at h
    by_cases hx : x.deleted = true
    · rw [if_pos hx] at h
      exact skipDeleted_rests_live xs e r h
    · rw [if_neg hx] at h
      cases h
      exact Bool.eq_false_iff.mpr hx

/-- what `skipDeleted()` steps over holds no live leaf: the live leaves of the remaining range are those of the range -/
theorem skipDeleted_keeps_live : ∀ (l : List (Entry β ι)),
    (skipDeleted l).filter (fun e => !e.deleted) = l.filter (fun e => !e.deleted)
  | [] => rfl
  | x :: xs => by
    unfold skipDeleted
    by_cases hx : x.deleted = true
    · rw [if_pos hx, skipDeleted_keeps_live xs]
      simp [hx]
    · rw [if_neg hx]

/-- the range-for loop is `begin`, then `*it` / `++it` while `it != end` -/
theorem itemsLoop_step (f : Nat) (it : List (Entry β ι)) :
    itemsLoop (f + 1) it = match itDeref it with
      | none => []
      | some x => x :: itemsLoop f (itNext it) := by
  cases it <;> rfl

/-- the loop over `[begin, end)` yields exactly the items of the live leaves, in storage order, each once -/
theorem itemsLoop_exact : ∀ (l : List (Entry β ι)) (f : Nat), l.length ≤ f →
    itemsLoop f (itBegin l) = (l.filter (fun e => !e.deleted)).map (·.item)
  | [], f, _ => by cases f <;> rfl
  | x :: xs, f, hf => by
    unfold itBegin skipDeleted
    by_cases hx : x.deleted = true
    · rw [if_pos hx]
      have := itemsLoop_exact xs f (by simp at hf; omega)
      simp only [itBegin] at this
      rw [this]
      simp [hx]
    · rw [if_neg hx]
      cases f with
      | zero => simp at hf
      | succ f =>
        have := itemsLoop_exact xs f (by simp at hf; omega)
        simp only [itBegin] at this
        simp only [itemsLoop, this]
        simp [hx]

/-- **items()**: builds the tree and visits exactly the live entries -/
theorem items_exact (c : Cfg β ι) (t : Tree β ι) :
    (t.items c).1 = t.build c ∧ (t.items c).2 = (t.build c).live.map (·.item) := by
  refine ⟨rfl, ?_⟩
  simp only [Tree.items, Tree.live]
  by_cases hb : (t.build c).built = true
  · simp only [hb, if_true]
    exact itemsLoop_exact _ _ (Nat.le_refl _)
  · have hb' : (t.build c).built = false := by simpa using hb
    have hp : (t.build c).pending = [] := by
      unfold Tree.build at hb' ⊢
      by_cases h1 : t.built = true
      · simp [h1] at hb'
      · by_cases h2 : t.pending.isEmpty = true
        · simp only [h1, h2, if_true]
          simpa using h2
        · simp [h1, h2] at hb'
    simp [hb', hp, itBegin, skipDeleted, itemsLoop]

/-- non-vacuity: two adjacent removed leaves before a live one, and a removed last leaf -/
example : itemsLoop 4 (itBegin [(⟨(), 1, true⟩ : Entry Unit Nat), ⟨(), 2, true⟩, ⟨(), 3, false⟩, ⟨(), 4, true⟩]) = [3] := by decide

/-! ### remove -/

variable [BEq ι]

/-- what a successful / failed removal means on the live multiset -/
def RemoveSpec (ops : Ops β) (q : β) (i : ι) (rootIsLeaf : Bool)
    (live : List (Entry β ι)) (ok : Bool) (live' : List (Entry β ι)) : Prop :=
  (ok = true ∧ ∃ l1 e l2, live = l1 ++ e :: l2 ∧ live' = l1 ++ l2 ∧ (e.item == i) = true ∧
      (rootIsLeaf = true ∨ ops.inter e.b q = true)) ∨
  (ok = false ∧ live' = live ∧
      ∀ e ∈ live, (e.item == i) = true → rootIsLeaf = false ∧ ops.inter e.b q = false)

/-- `removeRoot` against `RemoveSpec` on the live leaves.  A root leaf is tested itself (the envelope is not looked at).  Below a
root branch `removeKids` marks the first leaf that is hit (`removeKids_spec`), i.e. the leaves are `l1 ++ e :: l2` before and
`l1 ++ {e with deleted} :: l2` after (`markFirst_split`), which on the live leaves is taking `e` out; bounds are untouched, so the
covering invariant stays.  If nothing is marked, no leaf is a hit (`markFirst_none_iff`). -/
theorem removeRoot_spec (ops : Ops β) (q : β) (i : ι) (r : Node β ι) (hc : r.Covers ops) :
    match removeRoot ops q i (some r) with
    | some r' => r'.Covers ops ∧
        RemoveSpec ops q i r.isLeaf (r.leaves.filter (fun e => !e.deleted)) true
          (r'.leaves.filter (fun e => !e.deleted))
    | none => RemoveSpec ops q i r.isLeaf (r.leaves.filter (fun e => !e.deleted)) false
          (r.leaves.filter (fun e => !e.deleted)) := by
  cases r with
  | leaf e =>
    simp only [removeRoot]
    by_cases hp : (!e.deleted && e.item == i) = true
    · simp only [hp, if_true]
      simp only [Bool.and_eq_true, Bool.not_eq_true'] at hp
      refine ⟨trivial, Or.inl ⟨rfl, [], e, [], ?_, ?_, hp.2, Or.inl rfl⟩⟩
      · simp [Node.leaves, hp.1]
      · simp [Node.leaves]
    · simp only [hp]
      refine Or.inr ⟨rfl, rfl, fun e' he' hi => ?_⟩
      cases hd : e.deleted <;> simp_all [Node.leaves]
  | branch b kk =>
    simp only [Node.Covers] at hc
    have hs := removeKids_spec ops q i kk hc.2
    simp only [removeRoot, Node.isLeaf, Node.leaves]
    cases hr : removeKids ops q i kk with
    | some kk' =>
      rw [hr] at hs
      simp only [Option.map_some] at hs
      obtain ⟨l1, e, l2, h1, h2, h3, h4⟩ := markFirst_split _ _ _ hs.symm
      simp only [rmHit, Bool.and_eq_true, Bool.not_eq_true'] at h3
      refine ⟨?_, Or.inl ⟨rfl, l1.filter (fun e => !e.deleted), e, l2.filter (fun e => !e.deleted), ?_, ?_, h3.2, Or.inr h3.1.1⟩⟩
      · simp only [Node.Covers]
        exact ⟨covers_of_same_bounds ops b _ _ (markFirst_bounds _ _ _ hs.symm) hc.1,
               removeKids_covers ops q i kk kk' hc.2 hr⟩
      · simp [h1, List.filter_append, h3.1.2]
      · simp [Node.leaves, h2, List.filter_append]
    | none =>
      rw [hr] at hs
      simp only [Option.map_none] at hs
      have hall := (markFirst_none_iff _ _).mp hs.symm
      refine Or.inr ⟨rfl, rfl, ?_⟩
      intro e he hi
      simp only [List.mem_filter, Bool.not_eq_true'] at he
      have := hall e he.1
      simp only [rmHit, he.2, hi, Bool.not_false, Bool.and_true] at this
      exact ⟨rfl, this⟩

/-- **remove**: succeeds iff some live entry holds an equal item under an envelope intersecting the
given one (a single-leaf tree does not look at the envelope); then exactly one such entry disappears and
nothing else changes.  In particular it succeeds for every live (envelope, item) pair whose envelope
intersects itself, and fails when no live entry holds the item. -/
theorem remove_exact (c : Cfg β ι) (ok : CfgOK c) (t : Tree β ι) (hw : t.WF c) (q : β) (i : ι) :
    (t.remove c q i).1.WF c ∧
    ∃ live0 leafRoot, live0.Perm t.live ∧
      RemoveSpec c.ops q i leafRoot live0 (t.remove c q i).2 (t.remove c q i).1.live := by
  obtain ⟨hw', hperm, _⟩ := build_spec c ok t hw
  simp only [Tree.remove]
  by_cases hb : (t.build c).built = true
  · obtain ⟨r, hr, hcov, hlive⟩ := built_live c _ hw' hb
    have hspec := removeRoot_spec c.ops q i r hcov
    rw [hr]
    cases hrem : removeRoot c.ops q i (some r) with
    | some r' =>
      rw [hrem] at hspec
      refine ⟨⟨hw'.cap, fun h => by simp [hb] at h, fun _ => ⟨r', rfl, hspec.1⟩⟩, (t.build c).live, r.isLeaf, hperm, ?_⟩
      rw [hlive]; simpa [Tree.live, hb] using hspec.2
    | none =>
      rw [hrem] at hspec
      exact ⟨hw', (t.build c).live, r.isLeaf, hperm, by simpa [hlive] using hspec⟩
  · have hb' : (t.build c).built = false := by simpa using hb
    obtain ⟨hr, hl, hl0⟩ := unbuilt_after_build c t hw hb'
    rw [hr]
    simp only [removeRoot]
    exact ⟨hw', [], false, by rw [hl0], Or.inr ⟨rfl, by simp [hl], by simp⟩⟩

/-! ### every legal history -/

inductive Op (β ι : Type) where
  | insert (b : β) (i : ι)
  | build
  | query (q : β)
  | remove (q : β) (i : ι)
  | iterate
  | items

inductive Out (ι : Type) where
  | unit
  | items (l : List ι)
  | bool (b : Bool)
deriving DecidableEq, Repr

def step (c : Cfg β ι) (t : Tree β ι) : Op β ι → Tree β ι × Out ι
  | .insert b i => (t.insert c b i, .unit)
  | .build => (t.build c, .unit)
  | .query q => let r := t.query c q; (r.1, .items r.2)
  | .remove q i => let r := t.remove c q i; (r.1, .bool r.2)
  | .iterate => (t, .items t.iterate)
  | .items => let r := t.items c; (r.1, .items r.2)

/-- the documented rule: no insert once the tree has been built (queries and removals build it) -/
def legal (t : Tree β ι) : Op β ι → Bool
  | .insert _ _ => !t.built
  | _ => true

/-- the abstract specification: one step on the multiset of live entries -/
def SpecStep (c : Cfg β ι) (live : List (Entry β ι)) : Op β ι → Out ι → List (Entry β ι) → Prop
  | .insert b i, out, live' => out = .unit ∧ live' = if c.isNull b then live else live ++ [⟨b, i, false⟩]
  | .build, out, live' => out = .unit ∧ live' = live
  | .query q, out, live' => live' = live ∧
      ∃ l, out = .items l ∧ l.Perm ((live.filter (fun e => c.ops.inter e.b q)).map (·.item))
  | .iterate, out, live' => live' = live ∧ ∃ l, out = .items l ∧ l.Perm (live.map (·.item))
  | .items, out, live' => live' = live ∧ ∃ l, out = .items l ∧ l.Perm (live.map (·.item))
  | .remove q i, out, live' => ∃ okb live0 leafRoot, out = .bool okb ∧ live0.Perm live ∧
      ∃ live0', RemoveSpec c.ops q i leafRoot live0 okb live0' ∧ live'.Perm live0'

/-- simulation relation between the tree object and the specification state -/
def Sim (c : Cfg β ι) (t : Tree β ι) (live : List (Entry β ι)) : Prop := t.WF c ∧ t.live.Perm live

theorem step_refines (c : Cfg β ι) (ok : CfgOK c) (t : Tree β ι) (live : List (Entry β ι))
    (hs : Sim c t live) (op : Op β ι) (hl : legal t op = true) :
    ∃ live', SpecStep c live op (step c t op).2 live' ∧ Sim c (step c t op).1 live' := by
  obtain ⟨hw, hp⟩ := hs
  cases op with
  | insert b i =>
    have hb : t.built = false := by simpa [legal] using hl
    obtain ⟨h1, _, h3⟩ := insert_spec c t b i hw hb
    refine ⟨_, ⟨rfl, rfl⟩, h1, ?_⟩
    simp only [step, h3]
    split
    · exact hp
    · exact hp.append_right _
  | build =>
    obtain ⟨h1, h2, _⟩ := build_spec c ok t hw
    exact ⟨live, ⟨rfl, rfl⟩, h1, h2.trans hp⟩
  | query q =>
    obtain ⟨h1, h2, h3⟩ := query_exact c ok t hw q
    refine ⟨live, ⟨rfl, _, rfl, ?_⟩, h1, h2.trans hp⟩
    exact h3.trans ((hp.filter _).map _)
  | iterate =>
    refine ⟨live, ⟨rfl, _, rfl, ?_⟩, hw, hp⟩
    simp only [iterate_exact]
    exact hp.map _
  | items =>
    obtain ⟨h1, h2, _⟩ := build_spec c ok t hw
    refine ⟨live, ⟨rfl, _, rfl, ?_⟩, h1, h2.trans hp⟩
    simp only [(items_exact c t).2]
    exact (h2.trans hp).map _
  | remove q i =>
    obtain ⟨h1, live0, lr, h2, h3⟩ := remove_exact c ok t hw q i
    exact ⟨_, ⟨_, live0, lr, rfl, h2.trans hp, _, h3, List.Perm.refl _⟩, h1, List.Perm.refl _⟩

/-- run a history on the tree, collecting outputs; `none` if it breaks the no-insert-after-build rule -/
def run (c : Cfg β ι) : Tree β ι → List (Op β ι) → Option (Tree β ι × List (Out ι))
  | t, [] => some (t, [])
  | t, op :: ops =>
    if legal t op then
      match run c (step c t op).1 ops with
      | some (t', outs) => some (t', (step c t op).2 :: outs)
      | none => none
    else none

/-- a history of the specification with the given outputs -/
inductive SpecRun (c : Cfg β ι) : List (Entry β ι) → List (Op β ι) → List (Out ι) → List (Entry β ι) → Prop
  | nil (live) : SpecRun c live [] [] live
  | cons {live op out live' ops outs live''} :
      SpecStep c live op out live' → SpecRun c live' ops outs live'' → SpecRun c live (op :: ops) (out :: outs) live''

/-- **C15, main theorem.**  For every capacity ≥ 2 and every legal history of insert / build / query /
remove / iterate / items operations starting from the empty tree, the outputs produced by the tree are outputs
the live-multiset specification allows: every query returns exactly (as a multiset) the live items
whose envelope intersects the query envelope, iteration returns exactly the live items, and removal
succeeds exactly when a matching live entry exists, removing one. -/
theorem history_refines (c : Cfg β ι) (ok : CfgOK c) :
    ∀ (ops : List (Op β ι)) (t : Tree β ι) (live : List (Entry β ι)), Sim c t live →
      ∀ t' outs, run c t ops = some (t', outs) → ∃ live', SpecRun c live ops outs live' ∧ Sim c t' live'
  | [], t, live, hs, t', outs, h => by
    cases h
    exact ⟨live, .nil live, hs⟩
  | op :: ops, t, live, hs, t', outs, h => by
    simp only [run] at h
    by_cases hl : legal t op = true
    · simp only [hl, if_true] at h
      obtain ⟨live1, hstep, hsim⟩ := step_refines c ok t live hs op hl
      cases hr : run c (step c t op).1 ops with
      | none => simp [hr] at h
      | some p =>
        obtain ⟨t1, outs1⟩ := p
        simp only [hr, Option.some.injEq, Prod.mk.injEq] at h
        obtain ⟨rfl, rfl⟩ := h
        obtain ⟨live', hrun, hsim'⟩ := history_refines c ok ops _ live1 hsim t1 outs1 hr
        exact ⟨live', .cons hstep hrun, hsim'⟩
    · simp [hl] at h

theorem history_from_empty (c : Cfg β ι) (ok : CfgOK c) (cap : Nat) (hc : 2 ≤ cap)
    (ops : List (Op β ι)) (t' : Tree β ι) (outs : List (Out ι))
    (h : run c (Tree.empty cap) ops = some (t', outs)) :
    ∃ live', SpecRun c [] ops outs live' ∧ Sim c t' live' :=
  history_refines c ok ops _ [] ⟨empty_wf c cap hc, by rw [empty_live]⟩ t' outs h

/-! ### the `geom::Envelope` instance satisfies the hypothesis -/

def envOps : Ops Env := { inter := Env.inter, union := Env.union }

theorem env_law : OpsLaw envOps :=
  ⟨Env.inter_union_left, Env.inter_union_right⟩

/-- the defect F13 (fixed in /repo by a `fix:` commit): before the fix a one-item tree still reported its
item after it had been removed — the unfixed `query` violates the specification on this history. -/
theorem unfixed_query_visits_removed :
    ∃ (r : Node Env Nat) (q : Env), r.Covers envOps ∧
      queryRootUnfixed envOps q (some r) ≠ ((r.leaves.filter (hit envOps q)).map (·.item)) := by
  refine ⟨.leaf ⟨some ⟨0, 1, 0, 1⟩, 7, true⟩, some ⟨0, 1, 0, 1⟩, trivial, ?_⟩
  decide

/-! ### the C++ representations used by the translator tie (Model/Index/Rep.lean) lose nothing

`Props/C15Gen.lean` proves the functions regenerated from `Envelope.h` / `TemplateSTRNode.h` equal to the model *through*
`Rep.rep` (envelope = four doubles, null = all NaN) and `Rep.childrenOf` (node kind = `children` pointer: `nullptr` live
leaf, `this` deleted leaf, else composite).  These theorems say the representations are faithful, so that equality
through them is equality of behaviour. -/

/-- distinct envelopes of the model are distinct C++ objects; only the null envelope has a NaN `maxx` -/
theorem rep_faithful (a b : Env) :
    (Rep.rep a = Rep.rep b → a = b) ∧ (Rep.isnan (Rep.rep a).maxx = true ↔ a = none) := by
  constructor
  · intro h
    rcases a with _ | ⟨x1, x2, x3, x4⟩ <;> rcases b with _ | ⟨y1, y2, y3, y4⟩ <;> (try cases h) <;> rfl
  · cases a <;> simp [Rep.rep]

omit [BEq ι] in
/-- the three values of `children` (`nullptr`, `this`, other) tell live leaf, deleted leaf and composite node apart -/
theorem children_encoding_faithful (self first : Nat) (h : first ≠ self) (n : Node β ι) :
    (Rep.childrenOf self first n = none ↔ (n.isLeaf = true ∧ Rep.isDeletedLeaf n = false)) ∧
    (Rep.childrenOf self first n = some self ↔ (n.isLeaf = true ∧ Rep.isDeletedLeaf n = true)) ∧
    (Rep.childrenOf self first n = some first ∧ first ≠ self ↔ n.isLeaf = false) := by
  cases n with
  | leaf e =>
    cases hd : e.deleted <;> simp [Rep.childrenOf, Rep.isDeletedLeaf, Node.isLeaf, hd]
    intro h2; exact h2.symm
  | branch b ks => simp [Rep.childrenOf, Rep.isDeletedLeaf, Node.isLeaf, h]

/-- what `remove` does to the leaf it finds is exactly `Rep.markDeleted` (the model of `removeItem()`), which keeps the
node a leaf with the same bounds and takes its item out of the live entries -/
theorem removeNode_leaf_marks (ops : Ops β) (q : β) (i : ι) (e : Entry β ι) :
    removeNode ops q i (.leaf e) =
      (if (ops.inter e.b q && !e.deleted && e.item == i) = true then some (Rep.markDeleted (.leaf e)) else none) ∧
    (Rep.markDeleted (Node.leaf e)).isLeaf = true ∧ (Rep.markDeleted (Node.leaf e)).bounds = e.b ∧
    (Rep.markDeleted (Node.leaf e)).leaves.filter (fun x => !x.deleted) = [] := by
  simp [removeNode, Rep.markDeleted, Node.isLeaf, Node.bounds, Node.leaves]

/-! ### non-vacuity: a concrete configuration satisfies every hypothesis, and a concrete history runs -/

example : Rep.childrenOf 5 2 (Node.leaf (⟨(), 7, false⟩ : Entry Unit Nat)) = none ∧
    Rep.childrenOf 5 2 (Node.leaf (⟨(), 7, true⟩ : Entry Unit Nat)) = some 5 ∧
    Rep.childrenOf 5 2 (Node.branch () ([] : List (Node Unit Nat))) = some 2 := by decide


def demoCfg : Cfg Env Nat :=
  { ops := envOps, isNull := Env.isNull, sortX := id, sortY := id }

theorem demoCfg_ok : CfgOK demoCfg := ⟨env_law, fun _ => List.Perm.refl _, fun _ => List.Perm.refl _⟩

example : ∃ t' outs, run demoCfg (Tree.empty 2)
    [.insert (some ⟨0, 1, 0, 1⟩) 1, .insert (some ⟨2, 3, 2, 3⟩) 2, .insert (some ⟨1, 2, 1, 2⟩) 3,
     .insert none 4, .query (some ⟨1, 1, 1, 1⟩), .remove (some ⟨0, 1, 0, 1⟩) 1,
     .query (some ⟨1, 1, 1, 1⟩), .iterate] = some (t', outs) ∧
    outs = [.unit, .unit, .unit, .unit, .items [1, 3], .bool true, .items [3], .items [2, 3]] := by
  refine ⟨_, _, rfl, ?_⟩
  decide +kernel

end GeosModel.STR

/-! ## The quadtree (`index::quadtree::NodeBase / Node / Root / Quadtree`, model Model/Index/Quad.lean)

The property asks of the quadtree that it *never misses* a matching item (it may return more).  Proved here, for every
tree of the model (whatever sequence of operations built it), every envelope and every item type with decidable
equality: what `remove` prunes holds nothing; `remove` takes out exactly one occurrence of the item or changes
nothing; no removal changes how often any *other* item is returned by any query — in particular a removal never
makes a query miss an item it returned before; an item returned by the query with an envelope is found by `remove`
with that envelope; queries return only stored items; `size()` is the number of stored items; and the index
returned by `getSubnodeIndex` names a closed quadrant containing the envelope, so that the subquad `createSubnode`
makes for it contains the envelope.  That `Root::insert` places an item where every query intersecting its envelope
reaches it is NOT proved (it needs the alignment arithmetic of `Key`); insertion is tied to the code by the exact
correspondence stream `quadnode` and checked against the brute-force filter by stream `otheridx`. -/
namespace GeosModel.Quad
variable {ι : Type}

/-- a subtree that `NodeBase::remove` deletes because `isPrunable()` holds contains no item and answers no query -/
theorem quad_prunable_empty (t : QT ι) (h : t.isPrunable = true) : t.allItems = [] ∧ ∀ q, t.query q = [] :=
  prunable_allItems t h

/-- queries (`addAllItemsFromOverlapping`, `visit`) return only stored items, each at most as often as stored -/
theorem quad_query_only_stored (t : QT ι) (q : Env) : (t.query q).Sublist t.allItems := query_sublist q t

/-- `size()` counts exactly the stored items (`queryAll()`) -/
theorem quad_size_exact (t : QT ι) : t.size = t.allItems.length := size_eq t

/-- `remove`: a failed removal leaves the tree unchanged; a successful one takes exactly one occurrence of the item
out of the stored items and nothing else (pruning loses nothing) -/
theorem quad_remove_exact [DecidableEq ι] (t : QT ι) (q : Env) (i : ι) :
    ((t.remove q i).2 = false → (t.remove q i).1 = t) ∧
    ((t.remove q i).2 = true → (i :: (t.remove q i).1.allItems).Perm t.allItems) := remove_spec q i t

/-- removing `i` does not change how often any other item is returned by any query -/
theorem quad_remove_keeps_others [DecidableEq ι] (t : QT ι) (q q' : Env) (i j : ι) (hj : j ≠ i) :
    ((t.remove q i).1.query q').count j = (t.query q').count j := remove_query_count q i q' j hj t

/-- in particular: a removal never makes a query miss another item that it found before -/
theorem quad_remove_never_loses [DecidableEq ι] (t : QT ι) (q q' : Env) (i j : ι) (hj : j ≠ i)
    (h : j ∈ t.query q') : j ∈ (t.remove q i).1.query q' := by
  have := quad_remove_keeps_others t q q' i j hj
  exact List.count_pos_iff.mp (by rw [this]; exact List.count_pos_iff.mpr h)

/-- an item that the query with envelope `q` returns is found (and removed) by `remove` with that envelope -/
theorem quad_remove_finds [DecidableEq ι] (t : QT ι) (q : Env) (i : ι) (h : i ∈ t.query q) :
    (t.remove q i).2 = true := remove_finds q i t h

/-- `getSubnodeIndex`: the index names a closed quadrant (relative to the centre) that contains the envelope -/
theorem quad_subnodeIndex_sound (e : Box) (cx cy : Int) (k : Nat) (h : subnodeIndex e cx cy = some k) :
    InQuadrant e cx cy k := by
  -- the four tests decide the answer: index 0/1 needs `maxy ≤ cy` with `maxx ≤ cx` / `minx ≥ cx`, index 2/3 needs
  -- `miny ≥ cy` likewise; in each of the 16 cases `h` names the index and the two tests it came from are in the context
  unfold subnodeIndex at h
  by_cases h1 : e.minx ≥ cx <;> by_cases h2 : e.miny ≥ cy <;> by_cases h3 : e.maxy ≤ cy <;>
    by_cases h4 : e.maxx ≤ cx <;>
    simp only [h1, h2, h3, h4, ↓reduceIte, reduceCtorEq, Option.some.injEq] at h <;> subst h <;>
    exact ⟨by assumption, by assumption⟩

/-- `getSubnodeIndex` returns -1 exactly when the envelope straddles the centre in x or in y -/
theorem quad_subnodeIndex_none (e : Box) (cx cy : Int) :
    subnodeIndex e cx cy = none ↔ ¬ ((e.minx ≥ cx ∨ e.maxx ≤ cx) ∧ (e.miny ≥ cy ∨ e.maxy ≤ cy)) := by
  unfold subnodeIndex
  by_cases h1 : e.minx ≥ cx <;> by_cases h2 : e.miny ≥ cy <;> by_cases h3 : e.maxy ≤ cy <;>
    by_cases h4 : e.maxx ≤ cx <;>
    simp only [h1, h2, h3, h4, ↓reduceIte, reduceCtorEq, or_self, true_or, or_true, and_self, and_true, and_false,
      not_true_eq_false, not_false_eq_true]

/-- `createSubnode(getSubnodeIndex(env, centre))` of a quad containing `env` contains `env` -/
theorem quad_subBox_covers (b e : Box) (k : Nat) (hc : Env.covers (some b) (some e) = true)
    (hk : subnodeIndex e (centre b).1 (centre b).2 = some k) :
    Env.covers (some (subBox b k)) (some e) = true := by
  have hq := quad_subnodeIndex_sound e _ _ k hk
  simp only [Env.covers, Bool.and_eq_true, decide_eq_true_eq] at hc ⊢
  -- nothing about the centre is used: the envelope lies on the side of it that the index names
  match k, hq with
  | 0, hq => exact ⟨⟨⟨hc.1.1.1, hq.1⟩, hc.1.2⟩, hq.2⟩
  | 1, hq => exact ⟨⟨⟨hq.1, hc.1.1.2⟩, hc.1.2⟩, hq.2⟩
  | 2, hq => exact ⟨⟨⟨hc.1.1.1, hq.1⟩, hq.2⟩, hc.2⟩
  | 3, hq => exact ⟨⟨⟨hq.1, hc.1.1.2⟩, hq.2⟩, hc.2⟩

/-- non-vacuity (ordinates scaled by 4): `[1,7]²` is stored in the quad `[0,8]²`, `[5,6]²` below its upper-right
subquad; after removing the first (the quad keeps no own item and only its upper-right child) the second is
still found, and the removal of the first was a success -/
example :
    (do let r1 ← treeInsert 2 (emptyRoot : QT Nat) ⟨4, 28, 4, 28⟩ 1
        let r2 ← treeInsert 2 r1 ⟨20, 24, 20, 24⟩ 2
        let p := treeRemove 2 r2 ⟨4, 28, 4, 28⟩ 1
        some (p.2, p.1.query (some ⟨20, 24, 20, 24⟩), p.1.size)) = some (true, [2], 1) := by decide +kernel

end GeosModel.Quad
