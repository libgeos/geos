import GeosModel.Proofs.Buffer.Fillet
import GeosModel.Proofs.Buffer.Dist
import GeosModel.Proofs.Buffer.Cos
import GeosModel.Proofs.Buffer.Params
/-!
# C06 — buffer holds everything within distance d, nothing farther, and is valid

Strength: **SPEC+C with two FULL cores** (DESIGN.md section 3, C06).

* CORE 1 (`Model/Buffer/Fillet.lean`, faithful to `OffsetSegmentGenerator::addDirectedFillet`): `fillet_step_bound`,
  `fillet_step_sup`, `fillet_vertices`, `fillet_angle_bound`.  Angles are rationals in units of the fillet quantum, so
  no trigonometry is involved.  Interpretation (not proved, trusted): a polygonal arc of radius `r` with angular step
  `α` stays within `r(1 − cos(α/2))` of the circle; with `α < 1.5·quantum = 3π/(4q)` the chord error is below
  `1 − cos(3π/(8q))`, which exceeds the documented `1 − cos(π/(4q))` and, for `q ≤ 5`, even the documented total
  `e(q) = 0.015 + 1 − cos(π/(4q))` — the check reports that as a finding.
* CORE 2 (`Model/Buffer/Params.lean`, faithful to the C API entry points and `BufferParameters`): `params_total`
  (every accepted call runs with a legal configuration), `reject_iff_*` (exact rejection conditions),
  `setters_keep_legal`, `legal_effective`, `generator_is_permissive`, …
* SPEC (`Model/Buffer/Spec.lean`, the oracle the driver evaluates): `d2Seg_exact` (the projection–clamp formula is
  the true minimum over the segment), `slab_claim_sound`, `clear_seg_sound`, `cos_table_sound`, `inner_factor_safe`.

The universal quantifier of the property over *locations* and over *inputs* is NOT a theorem here: GEOS's buffer
algorithm is not modelled; it is tied to the specification by the sampled correspondence stream `buffer`.
-/
namespace GeosModel.Buffer
open GeosModel.Kernel GeosModel.Relate

/-! ## CORE 1: fillet segment count and angular step -/

/-- For every total angle `t ≥ 0` (in quanta): either `nSegs < 1`, then `t < 1/2` and no vertex is
emitted; or `nSegs·step = t`, `1/2 ≤ step < 3/2`, and more precisely `step < 1 + 1/(2·nSegs)`. -/
theorem fillet_step_bound (t : Rat) (ht : 0 ≤ t) :
    (nSegs t < 1 ∧ t < 1 / 2 ∧ filletOffsets t = []) ∨
    (1 ≤ nSegs t ∧ (nSegs t : Rat) * stepQ t = t ∧ stepQ t < 3 / 2 ∧ 1 / 2 ≤ stepQ t ∧
      stepQ t * (2 * (nSegs t : Rat)) < 2 * (nSegs t : Rat) + 1) :=
  Core.fillet_step_bound t ht

/-- **The bound 3/2 is the exact supremum**: it is never attained (`fillet_step_bound` is strict) but approached —
every `ε > 0` has an angle with a one-segment fillet whose step exceeds `3/2 − ε`. -/
theorem fillet_step_sup (ε : Rat) (hε : 0 < ε) :
    ∃ t : Rat, 0 ≤ t ∧ nSegs t = 1 ∧ 3 / 2 - ε < stepQ t ∧ stepQ t < 3 / 2 :=
  Core.fillet_step_sup ε hε

/-- the vertices of the finished arc (emitted vertices, then the end point the caller adds) sit at the multiples
`0, step, 2·step, …, nSegs·step = t`: all `nSegs` gaps are equal to `step` -/
theorem fillet_vertices (t : Rat) (hn : 1 ≤ nSegs t) :
    filletOffsets t ++ [t] = (List.range ((nSegs t).toNat + 1)).map fun (i : Nat) => (i : Rat) * stepQ t :=
  Core.fillet_vertices t hn

/-- number of vertices strictly between the arc's start and end point (what the correspondence stream observes) -/
theorem fillet_interior_count (t : Rat) (hn : 1 ≤ nSegs t) : ((filletInterior t : Nat) : Int) = nSegs t - 1 := by
  unfold filletInterior; omega

/-- the same bound with the real inputs: total angle `a ≥ 0` in quarter turns, raw quadrant-segment parameter `q`
(any integer: values below 1 count as 1): the angular step `a / nSegs` is below `1.5` quanta -/
theorem fillet_angle_bound (q : Int) (a : Rat) (ha : 0 ≤ a) (hn : 1 ≤ nSegsOf q a) :
    a / (nSegsOf q a : Rat) < 3 / 2 * quantumQ q :=
  Core.fillet_angle_bound q a ha hn

/-- non-vacuity: a right angle with the default 8 quadrant segments is 8 quanta, 8 segments, 7 interior vertices;
a 134° corner with q = 1 (1.49 quanta) is a single chord; below half a quantum nothing is emitted -/
example : (nSegs 8 = 8 ∧ filletInterior 8 = 7 ∧ stepQ 8 = 1) ∧
    (nSegs (149 / 100) = 1 ∧ filletInterior (149 / 100) = 0 ∧ stepQ (149 / 100) = 149 / 100) ∧
    (nSegs (49 / 100) = 0 ∧ filletOffsets (49 / 100) = []) := Core.examples

/-! ## CORE 2: parameter normalisation -/

/-- Every call through a C API entry point (any `int` for quadrant segments and styles, any bit pattern
for the mitre limit) is either rejected or runs with a legal configuration: cap and join in 1..3.
(`hreach`: a `GEOSBufferParams` object is only reachable through its setters, which keep legality: `setters_keep_legal`.)
The model follows the code as of /repo 1591a29d6 (styles below 1 are rejected). -/
theorem params_total (e : Entry) (c : Config) (hreach : ∀ cfg, e = .withParams cfg → cfg.Legal) (h : e.config = some c) :
    c.Legal := Core.params_total e c hreach h

/-- what a legal configuration does: effective cap / join are the documented ones (never the vertex-less `none` cap),
the effective quadrant-segment count is ≥ 1 whatever integer was stored -/
theorem legal_effective (c : Config) (h : c.Legal) :
    effCap c.endCap ≠ .none ∧ 1 ≤ c.effQuad ∧ (effJoin c.join = .round ↔ c.join = 1) := by
  refine ⟨Core.effCap_ne_none _ h.1 h.2.1, Core.effQuad_pos c, ?_⟩
  rw [Core.effJoin_round_iff]
  have := h.2.2
  omega

/-- setter sequences on a `GEOSBufferParams` object keep it legal; a rejected setter leaves it unchanged and reports 0 -/
theorem setters_keep_legal (l : List Setter) : (runSetters Config.default l).1.Legal :=
  Core.setters_keep_legal l _ Core.default_legal

theorem setter_reject_keeps (c : Config) (s : Setter) (r : List Setter) (h : s.apply c = none) :
    runSetters c (s :: r) = ((runSetters c r).1, false :: (runSetters c r).2) := by
  simp [runSetters, h]

/-- exactly which calls are rejected -/
theorem reject_iff_withStyle (q cap join : Int) (m : UInt64) :
    (Entry.withStyle q cap join m).config = none ↔ (cap < 1 ∨ cap > 3 ∨ join < 1 ∨ join > 3) :=
  Core.reject_iff_withStyle q cap join m

theorem reject_iff_offsetCurve (q join : Int) (m : UInt64) :
    (Entry.offsetCurve q join m).config = none ↔ (join < 1 ∨ join > 3) := Core.reject_iff_offsetCurve q join m

theorem reject_iff_singleSided (q join : Int) (m : UInt64) (l : Int) :
    (Entry.singleSidedBuffer q join m l).config = none ↔ (join < 1 ∨ join > 3) := Core.reject_iff_singleSided q join m l

theorem buffer_never_rejects (q : Int) : ∃ c, (Entry.buffer q).config = some c ∧ c.Legal ∧ c.quadSegs = q := by
  refine ⟨_, rfl, ?_, rfl⟩
  show (1 : Int) ≤ 1 ∧ (1 : Int) ≤ 3 ∧ (1 : Int) ≤ 1 ∧ (1 : Int) ≤ 3
  omega

/-- the generator's own tests are permissive (they compare with the three constants only): a stored cap
outside 1..3 would add no cap vertices, a stored join outside {2,3} behaves as round -/
theorem generator_is_permissive (s : Int) (h : s ≤ 3) : (effCap s = .none ↔ s < 1) ∧ (effJoin s = .round ↔ (s ≠ 2 ∧ s ≠ 3)) :=
  ⟨Core.effCap_none_iff s h, Core.effJoin_round_iff s⟩

/-- offset curves never use fewer than 8 quadrant segments; `GEOSSingleSidedBuffer` always has flat caps -/
theorem offsetCurve_quad_ge8 (q join : Int) (m : UInt64) (c : Config) (h : (Entry.offsetCurve q join m).config = some c) :
    8 ≤ c.quadSegs ∧ c.endCap = 1 := Core.offsetCurve_quad_ge8 q join m c h

theorem singleSided_cap_flat (q join : Int) (m : UInt64) (l : Int) (c : Config)
    (h : (Entry.singleSidedBuffer q join m l).config = some c) : effCap c.endCap = .flat ∧ c.quadSegs = q :=
  Core.singleSided_cap_flat q join m l c h

/-- the closing-segment factor is 80 only for raw `q ≥ 8` and join ROUND -/
theorem closingFactor_cases : ({ quadSegs := 8, join := 1 } : Config).closingFactor = 80 ∧
    ({ quadSegs := 7, join := 1 } : Config).closingFactor = 1 ∧ ({ quadSegs := 8, join := 3 } : Config).closingFactor = 1 := by
  decide

example : (Entry.withStyle 8 4 1 0).config = none ∧ (Entry.withStyle 8 1 4 0).config = none ∧
    (Entry.withStyle 8 0 1 0).config = none ∧ (Entry.withStyle 0 1 (-7) 0).config = none ∧
    (Entry.withStyle (-5) 3 2 0).config = some ⟨-5, 3, 2, 0, false⟩ := by decide
example : (runSetters Config.default [.cap 4, .cap 2, .join 0, .quad (-3)]) =
    ({ quadSegs := -3, endCap := 2 }, [false, true, false, true]) := by decide

/-! ## SPEC: the oracle's arithmetic is exact and its tolerance table is on the safe side -/

/-- `d2Seg` (projection, clamped to the end points) is the true minimum of the squared Euclidean
distance from the sample location to the points `a + t(b − a)`, `t ∈ [0,1]`, of the segment. -/
theorem d2Seg_exact (p : HPt) (s : Seg) (hw : 0 < p.w) :
    (∀ t : Rat, 0 ≤ t → t ≤ 1 → Qv (d2Seg p s) ≤ dist2At p s t) ∧
    (∃ t : Rat, 0 ≤ t ∧ t ≤ 1 ∧ Qv (d2Seg p s) = dist2At p s t) :=
  ⟨fun t h0 h1 => d2Seg_le p s hw t h0 h1, d2Seg_attained p s hw⟩

/-- the squared distance to a vertex is exact -/
theorem d2Pt_exact (p : HPt) (v : Pt) (hw : 0 < p.w) :
    Qv (d2Pt p v) = ((p.x : Rat) / p.w - v.x) ^ 2 + ((p.y : Rat) / p.w - v.y) ^ 2 := Qv_d2Pt p v hw

/-- an inner ("must contain") claim made through a slab never reaches farther than the true distance: if the slab
distance is at most `r²` then so is the true squared distance to the segment -/
theorem slab_claim_sound (p : HPt) (s : Seg) (m2 d r2 : Q) (hw : 0 < p.w)
    (h : d2Slab p s m2 true = some d) (hr : Qv d ≤ Qv r2) : Qv (d2Seg p s) ≤ Qv r2 :=
  le_trans (d2Slab_ge_d2Seg p s m2 d hw h) hr

/-- an outer ("must exclude") claim covers the whole segment: if the (margin-extended) slab and both end points are
at least `r²` away, so is every point of the segment -/
theorem clear_seg_sound (p : HPt) (s : Seg) (m2 r2 : Q)
    (hslab : ∀ d, d2Slab p s m2 false = some d → r2.le d = true)
    (ha : r2.le (d2Pt p s.p) = true) (hb : r2.le (d2Pt p s.q) = true) : r2.le (d2Seg p s) = true := by
  rcases d2Seg_cases p s with ⟨e, _⟩ | ⟨e, _⟩ | ⟨e, hl, h0, h1⟩
  · rw [e]; exact ha
  · rw [e]; exact hb
  · rw [e]
    apply hslab
    -- the foot of the perpendicular lies on the segment (`0 ≤ dotH ≤ sqLen·w`), so both `near` tests of the extended slab
    -- hold by their first disjunct `u ≥ 0` and `d2Slab` returns the perpendicular distance
    simp [d2Slab, hl, h0.le, h1.le]

/-- For every `q ≥ 1` (the table is indexed by `min q 32`):
`cosDocLo q ≤ cos(π/(4q))` and `cosStepLo q ≤ cos(3π/(8q))`. -/
theorem cos_table_sound (q : Int) (hq : 1 ≤ q) :
    ((cosDocLo q : Rat) : ℝ) ≤ Real.cos (Real.pi / (4 * (q : ℝ))) ∧
    ((cosStepLo q : Rat) : ℝ) ≤ Real.cos (3 * Real.pi / (8 * (q : ℝ))) := by
  constructor
  · have h := cosPiLo_table q hq (1 / 4) (by norm_num) (by norm_num)
    rw [div_div] at h
    exact h.trans (le_of_eq (by congr 1; push_cast; ring))
  · have h := cosPiLo_table q hq (3 / 8) (by norm_num) (by norm_num)
    rw [div_div] at h
    exact h.trans (le_of_eq (by congr 1; push_cast; ring))

/-- the table entries are upper-bounded too (enclosure): `cos(π/(4·min q 32)) ≤ cosDocHi q` -/
theorem cos_table_upper (q : Int) :
    Real.cos (Real.pi / (4 * ((tableQ q : Int) : ℝ))) ≤ ((cosDocHi q : Rat) : ℝ) := by
  have ht := tableQ_bounds q
  have htq : (1 : Rat) ≤ ((tableQ q : Int) : Rat) := by exact_mod_cast ht.1
  have htr : (1 : ℝ) ≤ ((tableQ q : Int) : ℝ) := by exact_mod_cast ht.1
  have h1 := cosPiHi_sound (1 / (4 * (tableQ q : Rat))) (by positivity)
    (by rw [div_le_one (by positivity)]; linarith)
  unfold cosDocHi
  refine le_trans (le_of_eq ?_) h1
  congr 1; push_cast; field_simp

/-- The inner radius factor the driver uses is not larger than the documented `1 − e(q)`,
`e(q) = 0.015 + 1 − cos(π/(4q))`: a location the driver asserts to be inside is within `(1−e)d` of the input. -/
theorem inner_factor_safe (q : Int) (hq : 1 ≤ q) :
    ((innerDoc q : Rat) : ℝ) ≤ 1 - (0.015 + 1 - Real.cos (Real.pi / (4 * (q : ℝ)))) := by
  have h := (cos_table_sound q hq).1
  have e : ((3 / 200 : Rat) : ℝ) = 0.015 := by norm_num
  rw [innerDoc, Rat.cast_sub, e]
  linarith

/-- the enclosure is tight: for every table index the two rational bounds differ by less than 10⁻⁶ -/
theorem cos_table_tight : ∀ q : Fin 33, cosDocHi (q.val : Int) - cosDocLo (q.val : Int) < 1 / 1000000 := by
  decide +kernel

/-- non-vacuity of the table: the default `q = 8` gives an inner factor between 0.980 and 0.981 (e ≈ 1.98 %) -/
example : (980 : Rat) / 1000 < innerDoc 8 ∧ innerDoc 8 < 981 / 1000 := by decide +kernel

end GeosModel.Buffer
