import GeosModel.Proofs.Precision.RoundLemmas
import GeosModel.Proofs.Precision.SymRound
import GeosModel.Proofs.Precision.RoundF64
import GeosModel.Proofs.Precision.RoundNE
import GeosModel.Proofs.Precision.Glue
import GeosModel.Proofs.Precision.HotPixelLemmas
import GeosModel.Proofs.Precision.ReduceLemmas
import GeosModel.Proofs.Precision.CollapseLemmas
/-!
# C04 — fixed-precision results are on the grid, valid, near exact, and never fail

CORE theorems (FULL for the models of `java_math_round`, `PrecisionModel::makePrecise`, `HotPixel::intersects*`,
pointwise reduction; PARTIAL for the floating composition of `makePrecise`).  The remaining clauses of the
property (valid, within 2g of the exact result, never fails, KEEP_COLLAPSED) are SPEC+C: they are checked on every
output of the real operations by the exact oracle of `Model/Precision/Near.lean` (see checks/C04.py).

Models: `Model/Precision/Round.lean`, `HotPixel.lean`, `Reduce.lean`, `Collapse.lean` (section 6); proofs in
`Proofs/Precision/*`.
-/
namespace GeosModel.Precision
open GeosModel

/-! ## 1. the rounding rule -/

/-- `java_math_round` (modelled branch for branch) is `⌊x + ½⌋`; the result is an integer within ½ of `x`,
no integer is closer, and it lies in `(x − ½, x + ½]`, i.e. exact ties go toward +∞ (`−2.5 ↦ −2`,
not "half away from zero"). -/
theorem javaRound_nearest (x : ℚ) :
    javaRound x = ⌊x + 1 / 2⌋ ∧
    |(javaRound x : ℚ) - x| ≤ 1 / 2 ∧
    (∀ k : ℤ, |(javaRound x : ℚ) - x| ≤ |(k : ℚ) - x|) ∧
    (x - 1 / 2 < (javaRound x : ℚ) ∧ (javaRound x : ℚ) ≤ x + 1 / 2) :=
  ⟨javaRound_eq_floor x, javaRound_abs_le x, javaRound_closest x, javaRound_mem x⟩

/-- ties: `k + ½ ↦ k + 1` for every integer `k`, negative ones included -/
theorem javaRound_ties_up (k : ℤ) : javaRound ((k : ℚ) + 1 / 2) = k + 1 := javaRound_tie k

example : javaRound (-(5 / 2) : ℚ) = -2 := by
  have h := javaRound_tie (-3); norm_num at h; exact h
example : javaRound (5 / 2 : ℚ) = 3 := by
  have h := javaRound_tie 2; norm_num at h; exact h
example : javaRound (-(1 / 2) : ℚ) = 0 := by
  have h := javaRound_tie (-1); norm_num at h; exact h

/-- "round half away from zero" (the wording of the property's mechanism note) is `sym_round`, the OTHER rounding function
of `src/util/math.cpp`, which `util::round` does not call (bridge `gen_round_eq`): the two agree on every argument except
the negative ties `k + ½ < 0`, where `sym_round` gives `k` and `java_math_round` gives `k + 1`. -/
theorem symRound_differs_only_at_negative_ties (x : ℚ) :
    symRound x = javaRound x ∨ (x < 0 ∧ (∃ k : ℤ, x = (k : ℚ) + 1 / 2) ∧ symRound x = javaRound x - 1) :=
  symRound_vs_javaRound x

/-- `sym_round` sends ties away from zero -/
theorem symRound_ties_away (k : ℤ) : symRound ((k : ℚ) + 1 / 2) = if 0 ≤ k then k + 1 else k := symRound_tie k

example : symRound (-(5 / 2) : ℚ) = -3 ∧ javaRound (-(5 / 2) : ℚ) = -2 := by
  constructor
  · have h := symRound_tie (-3); norm_num at h; exact h
  · have h := javaRound_tie (-3); norm_num at h; exact h

/-! ## 2. `makePrecise` over exact rationals -/

/-- over the rationals `makePrecise ∘ makePrecise = makePrecise`: both arithmetic branches and the branch selection
of `PrecisionModel::makePrecise` (whatever scale and grid size are) -/
theorem makePrecise_idem_exact :
    (∀ s x : ℚ, s ≠ 0 → makePreciseScale s (makePreciseScale s x) = makePreciseScale s x) ∧
    (∀ g x : ℚ, g ≠ 0 → makePreciseGrid g (makePreciseGrid g x) = makePreciseGrid g x) ∧
    (∀ s g x : ℚ, makePreciseQ s g (makePreciseQ s g (x)) = makePreciseQ s g x) :=
  ⟨makePreciseScale_idem, makePreciseGrid_idem, makePreciseQ_idem⟩

/-- "moves to the NEAREST grid point": the image is a grid value `k/s` (resp. `k·g`), at most half a cell away,
and no grid value is closer -/
theorem makePrecise_nearest_exact :
    (∀ s x : ℚ, 0 < s → (∃ k : ℤ, makePreciseScale s x = (k : ℚ) / s) ∧ |makePreciseScale s x - x| ≤ 1 / (2 * s) ∧
        ∀ k : ℤ, |makePreciseScale s x - x| ≤ |(k : ℚ) / s - x|) ∧
    (∀ g x : ℚ, 0 < g → (∃ k : ℤ, makePreciseGrid g x = (k : ℚ) * g) ∧ |makePreciseGrid g x - x| ≤ g / 2 ∧
        ∀ k : ℤ, |makePreciseGrid g x - x| ≤ |(k : ℚ) * g - x|) :=
  ⟨fun s x hs => ⟨⟨_, rfl⟩, makePreciseScale_near s x hs, makePreciseScale_closest s x hs⟩,
   fun g x hg => ⟨⟨_, rfl⟩, makePreciseGrid_near g x hg, makePreciseGrid_closest g x hg⟩⟩

/-! ## 3. `makePrecise` in binary64 (PARTIAL) -/

/-- FULL statement (NOT proved in this generality): the floating `makePrecise` of the model — `roundNE` after every
`*` and `/`, exactly what `PM.makePrecise` computes and what stream `precise` compares with the library bit for bit
— is idempotent on every finite double for every model built by `PrecisionModel(scale)` with a positive finite
scale, as long as the scaled value stays below 2^51. -/
def makePrecise_idem_f64_full : Prop :=
  ∀ (newScale v : F64.Val), vIsFin newScale = true → vLt zero newScale = true → vIsFin v = true →
    vLt (vFabs (mulF v (PM.setScale newScale).scale)) (.fin false (pow2 51) 0) = true →
    vLt (vFabs (divF v (PM.setScale newScale).gridSize)) (.fin false (pow2 51) 0) = true →
    (PM.setScale newScale).makePrecise ((PM.setScale newScale).makePrecise v) = (PM.setScale newScale).makePrecise v

/-- PARTIAL (bit-level model, scale branch = grid size ≤ 1).  For ANY positive finite scale `≤ 2^1022` — no power
of two or ten is needed — and any double `v`: if no intermediate result overflows (`y = v * scale`, the first result
`z = r / scale` and the product `z * scale` are finite) and the integer `r = java_math_round(y)` satisfies
`0 < |r| ≤ 2^50`, then `makePrecise (makePrecise v) = makePrecise v` as bit patterns.  (That `z` and `z * scale`
are normal numbers with a full 53-bit mantissa is derived, via the correctness of the binade selection.)
Missing w.r.t. `makePrecise_idem_f64_full`: (a) finiteness of the three intermediates is assumed rather than
derived from magnitude bounds; (b) `r = 0` (signed zeros); (c) `2^50 < |r| < 2^51`; (d) the grid branch
(`gridSize > 1`) at bit level — for it only the abstract composition is proved (`makePrecise_idem_f64_abstract`);
(e) that `PM.setScale` always yields such a model.  All of (a)–(e) are exercised by stream `precise`. -/
theorem makePrecise_idem_f64 (pm : PM) (ms : ℕ) (es : ℤ) (hs : pm.scale = .fin false ms es) (hms : ms ≠ 0)
    (hS : finRat false ms es ≤ 2 ^ (1022 : ℤ))
    (hg : vLt one pm.gridSize = false) (v : F64.Val)
    (ny : Bool) (my : ℕ) (ey : ℤ) (hy : mulF v pm.scale = .fin ny my ey)
    (hr0 : javaRound (finRat ny my ey) ≠ 0) (hr : (javaRound (finRat ny my ey)).natAbs ≤ 2 ^ 50)
    (nz : Bool) (mz : ℕ) (ez : ℤ) (hz : pm.makePrecise v = .fin nz mz ez)
    (ny' : Bool) (my' : ℕ) (ey' : ℤ) (hy' : mulF (.fin nz mz ez) pm.scale = .fin ny' my' ey') :
    pm.makePrecise (pm.makePrecise v) = pm.makePrecise v := by
  have hSpos := finRat_pos ms es hms
  generalize hrdef : javaRound (finRat ny my ey) = r at hr0 hr
  have hrb : r.natAbs < 2 ^ 53 := lt_of_le_of_lt hr (by norm_num)
  have hr1 : (1 : ℚ) ≤ |(r : ℚ)| := by
    rw [← Int.cast_abs]
    exact_mod_cast Int.one_le_abs hr0
  have hrq : |(r : ℚ)| ≤ 2 ^ 50 := by
    rw [← Int.cast_abs, Int.abs_eq_natAbs]
    exact_mod_cast hr
  -- first application: `z` is `r / scale`, rounded, in the normal range
  have e1 := makePrecise_scale_step pm ms es hs hms hg v ny my ey hy r hrdef hr0 hrb
  have hz1 := e1 ▸ hz
  obtain ⟨hq1, hq2⟩ := normal_range _ _ (finRat nz mz ez) hSpos hS hr1
  have hdiv := roundNE_fin_err _ _ nz mz ez hz1 (roundNE_fin_full _ _ nz mz ez hz1 hq1)
  -- second application: `z * scale`, rounded, is in the normal range and rounds to the same `r`
  have hy1 : roundNE (nz != false) (finRat nz mz ez * finRat false ms es) = .fin ny' my' ey' := by
    rw [← hy', hs]; rfl
  have hmul := roundNE_fin_err _ _ ny' my' ey' hy1 (roundNE_fin_full _ _ ny' my' ey' hy1 (hq2 hdiv))
  have hsame := second_round_eq r _ _ _ hSpos hrq hdiv hmul
  rw [hz, makePrecise_scale_step pm ms es hs hms hg _ ny' my' ey' hy' r hsame hr0 hrb, ← e1, hz]

-- non-vacuity: PrecisionModel(1000.0), v = 1.2345 (bits 0x3ff3c083126e978d): y = 1234.5 ↦ r = 1235 ↦ z = 1.235
example : (PM.setScale (F64.decode 0x408f400000000000)).makePrecise
      ((PM.setScale (F64.decode 0x408f400000000000)).makePrecise (F64.decode 0x3ff3c083126e978d)) =
    (PM.setScale (F64.decode 0x408f400000000000)).makePrecise (F64.decode 0x3ff3c083126e978d) :=
  makePrecise_idem_f64 _ 8796093022208000 (-43) (by decide +kernel) (by decide)
    (le_trans (b := (2 : ℚ) ^ (10 : ℤ)) (by rw [finRat_eq]; norm_num) (zpow_le_zpow_right₀ (by norm_num) (by norm_num)))
    (by decide +kernel) _
    false 5429388417957888 (-42) (by decide +kernel) (by decide +kernel) (by decide +kernel)
    false 5561945539802563 (-52) (by decide +kernel)
    false 5431587441213440 (-42) (by decide +kernel)

/-- PARTIAL (any rounding function obeying the standard model, both branches): for the floating composition
`rnd(javaRound(rnd(x·s)) / s)` (scale branch) and `rnd(javaRound(rnd(x/g)) · g)` (grid branch), with ANY positive
scale or grid size, `makePrecise ∘ makePrecise = makePrecise` provided the integer `r` the first application
rounds to satisfies `|r| ≤ 2^50` and `rnd` has relative error `≤ 2^-53` (relative to the rounded value) at the two
operations of the second application. -/
theorem makePrecise_idem_f64_abstract (rnd : ℚ → ℚ) :
    (∀ s x : ℚ, 0 < s →
      |(javaRound (rnd (x * s)) : ℚ)| ≤ 2 ^ 50 →
      |mpScale rnd s x - (javaRound (rnd (x * s)) : ℚ) / s| ≤ (2 : ℚ)⁻¹ ^ 53 * |mpScale rnd s x| →
      |rnd (mpScale rnd s x * s) - mpScale rnd s x * s| ≤ (2 : ℚ)⁻¹ ^ 53 * |rnd (mpScale rnd s x * s)| →
      mpScale rnd s (mpScale rnd s x) = mpScale rnd s x) ∧
    (∀ g x : ℚ, 0 < g →
      |(javaRound (rnd (x / g)) : ℚ)| ≤ 2 ^ 50 →
      |mpGrid rnd g x - (javaRound (rnd (x / g)) : ℚ) * g| ≤ (2 : ℚ)⁻¹ ^ 53 * |mpGrid rnd g x| →
      |rnd (mpGrid rnd g x / g) - mpGrid rnd g x / g| ≤ (2 : ℚ)⁻¹ ^ 53 * |rnd (mpGrid rnd g x / g)| →
      mpGrid rnd g (mpGrid rnd g x) = mpGrid rnd g x) :=
  ⟨fun s x hs => mpScale_idem rnd s x hs, fun g x hg => mpGrid_idem rnd g x hg⟩

/-- the model's `roundNE` (`roundMag`: exact round-to-nearest-even of `a/d` to a 53-bit mantissa) obeys that
standard model on the normal range: if the result is `m·2^e` with a full mantissa (`2^52 ≤ m`), then
`|m·2^e − a/d| ≤ 2^-53 · (m·2^e)`; and it converts integers below 2^53 exactly. -/
theorem roundNE_relative_error (a d m : ℕ) (e : ℤ) (ha : 0 < a) (hd : 0 < d)
    (h : roundMag a d = some (m, e)) (hn : 2 ^ 52 ≤ m) :
    |(m : ℚ) * 2 ^ e - (a : ℚ) / d| ≤ (2 : ℚ)⁻¹ ^ 53 * ((m : ℚ) * 2 ^ e) :=
  roundMag_rel_err a d m e ha hd h hn

theorem roundNE_int_exact (z : Bool) (r : ℤ) (h0 : r ≠ 0) (hb : r.natAbs < 2 ^ 53) :
    ∃ m e, ofInt z r = .fin (decide (r < 0)) m e ∧ finRat (decide (r < 0)) m e = r ∧ m ≠ 0 :=
  ofInt_exact z r h0 hb

/-! ## 4. hot pixels -/

/-- `HotPixel::intersectsScaled` returns true **iff** the closed segment `p0 p1` has a point in the half-open pixel
`[minx, maxx) × [miny, maxy)`: "every segment passing through a pixel is noded there", including the open
Top/Right sides and the four corner rules (UL, UR, LR excluded, LL included).  Ordinates are integers in a common
unit (doubles scaled by a power of two); `t` ranges over the rationals. -/
theorem hotpixel_iff (h : Px) (hw : h.minx < h.maxx) (hh : h.miny < h.maxy) (p0x p0y p1x p1y : ℤ) :
    intersectsScaled h p0x p0y p1x p1y = true ↔
      ∃ t : ℚ, 0 ≤ t ∧ t ≤ 1 ∧
        (h.minx : ℚ) ≤ p0x + t * (p1x - p0x) ∧ (p0x : ℚ) + t * (p1x - p0x) < h.maxx ∧
        (h.miny : ℚ) ≤ p0y + t * (p1y - p0y) ∧ (p0y : ℚ) + t * (p1y - p0y) < h.maxy :=
  intersectsScaled_iff h hw hh p0x p0y p1x p1y

/-- the same for a pixel centred at the integer point `(hx, hy)` with all coordinates doubled: the pixel is
`[hx − ½, hx + ½) × [hy − ½, hy + ½)` and the segment runs from `(P0x/2, P0y/2)` to `(P1x/2, P1y/2)` -/
theorem hotpixel_iff_centre (hx hy P0x P0y P1x P1y : ℤ) :
    intersectsScaled (Px.ofCentre2 hx hy) P0x P0y P1x P1y = true ↔
      ∃ t : ℚ, 0 ≤ t ∧ t ≤ 1 ∧
        (hx : ℚ) - 1 / 2 ≤ P0x / 2 + t * ((P1x : ℚ) / 2 - P0x / 2) ∧ (P0x : ℚ) / 2 + t * ((P1x : ℚ) / 2 - P0x / 2) < hx + 1 / 2 ∧
        (hy : ℚ) - 1 / 2 ≤ P0y / 2 + t * ((P1y : ℚ) / 2 - P0y / 2) ∧ (P0y : ℚ) / 2 + t * ((P1y : ℚ) / 2 - P0y / 2) < hy + 1 / 2 := by
  -- each side condition is the one of `hotpixel_iff` for the doubled pixel, divided by 2
  have lo : ∀ c p q t : ℚ, 2 * c - 1 ≤ p + t * (q - p) ↔ c - 1 / 2 ≤ p / 2 + t * (q / 2 - p / 2) :=
    fun c p q t => by constructor <;> intro h <;> linarith
  have hi : ∀ c p q t : ℚ, p + t * (q - p) < 2 * c + 1 ↔ p / 2 + t * (q / 2 - p / 2) < c + 1 / 2 :=
    fun c p q t => by constructor <;> intro h <;> linarith
  rw [hotpixel_iff _ (by simp only [Px.ofCentre2, Px.ofCentre]; omega) (by simp only [Px.ofCentre2, Px.ofCentre]; omega)]
  simp only [Px.ofCentre2, Px.ofCentre]
  push_cast
  exact exists_congr fun t => and_congr_right' (and_congr_right'
    (and_congr (lo _ _ _ t) (and_congr (hi _ _ _ t) (and_congr (lo _ _ _ t) (hi _ _ _ t)))))

/-- `HotPixel::intersects(p)`: membership in the half-open pixel -/
theorem hotpixel_point_iff (h : Px) (x y : ℤ) :
    intersectsPt h x y = true ↔ (h.minx ≤ x ∧ x < h.maxx ∧ h.miny ≤ y ∧ y < h.maxy) :=
  intersectsPt_iff h x y

/-- a vertex is in its own pixel, and a segment is noded at the pixels of its endpoints -/
theorem hotpixel_endpoint (h : Px) (hw : h.minx < h.maxx) (hh : h.miny < h.maxy) (p0x p0y p1x p1y : ℤ)
    (hp : intersectsPt h p0x p0y = true) : intersectsScaled h p0x p0y p1x p1y = true := by
  rw [hotpixel_iff h hw hh]
  refine ⟨0, le_rfl, zero_le_one, ?_⟩
  simp only [zero_mul, add_zero, Int.cast_le, Int.cast_lt]
  exact (hotpixel_point_iff h p0x p0y).1 hp

-- non-vacuity: the four corner rules on the pixel [-1,1)² (unit ½, centre 0)
example : intersectsScaled (Px.ofCentre2 0 0) (-3) (-1) 1 3 = false := by decide    -- upward through UL
example : intersectsScaled (Px.ofCentre2 0 0) (-3) 3 1 (-1) = true := by decide     -- downward through UL
example : intersectsScaled (Px.ofCentre2 0 0) (-1) (-1) 3 3 = true := by decide     -- upward through UR (and LL)
example : intersectsScaled (Px.ofCentre2 0 0) (-1) 3 3 (-1) = false := by decide    -- downward through UR
example : intersectsScaled (Px.ofCentre2 0 0) (-3) 1 1 (-3) = true := by decide     -- downward through LL only
example : intersectsScaled (Px.ofCentre2 0 0) (-1) (-3) 3 1 = false := by decide    -- upward through LR
example : intersectsScaled (Px.ofCentre2 0 0) 1 (-2) 1 2 = false := by decide       -- on the open Right side
example : intersectsScaled (Px.ofCentre2 0 0) (-1) (-2) (-1) 2 = true := by decide  -- on the closed Left side
example : intersectsScaled (Px.ofCentre2 0 0) (-2) 1 2 1 = false := by decide       -- on the open Top side
example : intersectsScaled (Px.ofCentre2 0 0) (-2) (-1) 2 (-1) = true := by decide  -- on the closed Bottom side

/-! ## 5. pointwise reduction -/

/-- `GEOS_PREC_NO_TOPO`: the reduced tree has the same skeleton (types, nesting, dimension flags, ring and vertex
counts, order), its coordinates are the input coordinates in order, each with X and Y replaced by `makePrecise`
(bitwise, the floating model) and Z, M untouched — "moves every vertex to its grid point and nothing else".
That the grid point is the *nearest* one is `makePrecise_nearest_exact` for the exact rule. -/
theorem pointwise_moves_to_nearest (pm : PM) (g : G) :
    skeleton (pointwise pm g) = skeleton g ∧
    coordsG (pointwise pm g) = (coordsG g).map (roundC pm) ∧
    (coordsG (pointwise pm g)).length = (coordsG g).length ∧
    ∀ c : Coord, (roundC pm c).x = pm.makePreciseBits c.x ∧ (roundC pm c).y = pm.makePreciseBits c.y ∧
      (roundC pm c).z = c.z ∧ (roundC pm c).m = c.m :=
  ⟨skeleton_pointwise pm g, coords_pointwise pm g, by rw [coords_pointwise]; simp, roundC_spec pm⟩

/-! ## 6. an operand that collapses completely

Ported decision core of `OverlayNG::computeEdgeOverlay` (the two `setCollapsed` calls), `InputGeometry::locatePointInArea`,
`OverlayLabeller::labelDisconnectedEdge` / `locateEdgeBothEnds` and `OverlayNG::isResultOfOp`
(`Model/Precision/Collapse.lean`).  The API-level consequences are checked on the real operations by stream `collapse`. -/

/-- a vertex chain (ring or line) keeps no edge under rounding iff all of its vertices round to one and the same point -/
theorem chain_collapses_iff {α β : Type} [DecidableEq β] (rd : α → β) (chain : List α) :
    Collapse.keepsEdge rd chain = false ↔ Collapse.allSame rd chain = true :=
  Collapse.keepsEdge_false_iff rd chain

/-- With the flags `computeEdgeOverlay` sets, an operand none of whose own edges
survived noding is EXTERIOR at every point and for every disconnected edge of the other operand — the answer of the
locator of its original, un-rounded geometry is never consulted; an operand that kept an edge is located by its own locator -/
theorem collapsed_operand_is_exterior {P : Type} (hasEdgesFor empty area : Fin 2 → Bool)
    (locator : Fin 2 → P → Collapse.Loc) (i : Fin 2) :
    (hasEdgesFor i = false → ∀ orig dest : P,
      Collapse.locatePointInArea (Collapse.inputAfterNoding hasEdgesFor empty area locator) i orig = .exterior ∧
      Collapse.labelDisconnectedEdge (Collapse.inputAfterNoding hasEdgesFor empty area locator) i orig dest = .exterior) ∧
    (hasEdgesFor i = true → empty i = false → ∀ pt : P,
      Collapse.locatePointInArea (Collapse.inputAfterNoding hasEdgesFor empty area locator) i pt = locator i pt) :=
  ⟨fun h orig dest => ⟨Collapse.locate_collapsed hasEdgesFor empty area locator i h orig,
                       Collapse.label_collapsed hasEdgesFor empty area locator i h orig dest⟩,
   fun h he pt => Collapse.locate_not_collapsed hasEdgesFor empty area locator i h he pt⟩

/-- Where the second operand is EXTERIOR, intersection selects nothing and union, difference and
symmetric difference select exactly the same edges (those not EXTERIOR to the first operand); where the first operand is
EXTERIOR, intersection and difference select nothing and union and symmetric difference agree -/
theorem collapse_laws (l : Collapse.Loc) :
    (Collapse.isResultOfOp .intersection l .exterior = false ∧
     Collapse.isResultOfOp .union l .exterior = decide (l ≠ .exterior) ∧
     Collapse.isResultOfOp .difference l .exterior = decide (l ≠ .exterior) ∧
     Collapse.isResultOfOp .symdifference l .exterior = decide (l ≠ .exterior)) ∧
    (Collapse.isResultOfOp .intersection .exterior l = false ∧
     Collapse.isResultOfOp .difference .exterior l = false ∧
     Collapse.isResultOfOp .union .exterior l = decide (l ≠ .exterior) ∧
     Collapse.isResultOfOp .symdifference .exterior l = decide (l ≠ .exterior)) :=
  ⟨Collapse.ops_second_exterior l, Collapse.ops_first_exterior l⟩

-- non-vacuity: a triangle inside one cell keeps no edge, one spanning two cells does (rounding = nearest integer of 10ths)
example : Collapse.keepsEdge (fun p : Int × Int => ((p.1 + 5) / 10, (p.2 + 5) / 10)) [(47, 48), (53, 48), (50, 54), (47, 48)] = false := by decide
example : Collapse.keepsEdge (fun p : Int × Int => ((p.1 + 5) / 10, (p.2 + 5) / 10)) [(47, 48), (57, 48), (50, 54), (47, 48)] = true := by decide
-- the flag of operand 1 comes from operand 1's edges: A kept edges, B did not => only B is located EXTERIOR
example :
    let inp := Collapse.inputAfterNoding (P := Unit) (fun i => i = 0) (fun _ => false) (fun _ => true) (fun _ _ => .interior)
    Collapse.labelDisconnectedEdge inp 1 () () = .exterior ∧ Collapse.labelDisconnectedEdge inp 0 () () = .interior := by decide

end GeosModel.Precision
