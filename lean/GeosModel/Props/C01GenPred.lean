import GeosModel.Model.Relate.Pred
import GeosModel.Model.Relate.EnvExit
import GeosModel.Base.Env
import GeosModel.Generated.RelatePred
import GeosModel.Props.C01Gen
import GeosModel.Proofs.Relate.PredLemmas
/-!
# C01 — the regenerated predicate layer of RelateNG is the state machine the theorems are about

`Generated/RelatePred.lean` is rewritten from `BasicPredicate.cpp`, `IMPredicate.cpp`, `RelatePredicate.h` (all ten
predicate classes), `RelateMatrixPredicate.h`, `TopologyPredicate.h` (inherited defaults), `IMPatternMatcher.cpp` and
`RelateNG.cpp::hasRequiredEnvelopeInteraction` by `translate/cxx2lean.py` (spec `relate_pred`) on every run.  The
theorems below prove every regenerated function equal to the hand-written model of `Model/Relate/Pred.lean` /
`Model/Relate/EnvExit.lean` — the object of `determined_stable`, `early_exit_eq_final`, `basic_*_final`,
`envelope_exit_sound`, `exterior_check_irrelevant_*` in `Props/C01.lean` — for **all** arguments.

Conventions.  `m_value` (the `int` member of `BasicPredicate`: UNKNOWN = −1, FALSE = 0, TRUE = 1, read from the header by
the translator) is related to the model's `Option Bool` by `encV`.  A member function that assigns members is
regenerated as a function from the old members to the new ones.  Virtual calls (`isDetermined()`, `valueIM()`) are
abstract parameters of the regenerated code; the theorems instantiate them with the regenerated function of the class in
question (which function a virtual call reaches is fixed by the class structure, which the translator checks against the
headers).  `geom::Envelope` is abstract: the theorems about `init(envA, envB)` hold for every interpretation of its
methods that agrees with the `EnvFacts` the model reads; the `example`s at the end of the file instantiate them with the envelope model of `Base/Env`
the driver uses.  The named predicates of `geom::IntersectionMatrix` called by `valueIM()` are the regenerated ones of
`Generated/IMPreds` (`Props/C01Gen`).
-/
namespace GeosModel.C01GenPred
open GeosModel GeosModel.Relate GeosModel.Generated

/-- `BasicPredicate::m_value` -/
def encV : Option Bool → Int
  | none => -1
  | some false => 0
  | some true => 1

theorem encV_injective (v w : Option Bool) (h : encV v = encV w) : v = w := by
  rcases v with _ | _ | _ <;> rcases w with _ | _ | _ <;> first | rfl | cases h

/-! ### BasicPredicate.cpp

A regenerated function that only returns an expression unfolds to the model (`rfl`, after a case split where the model
matches on an argument).  `m_value` is case-split in `gen_setValue_eq` only: `setValueIf`, `require` and every `init` / `update` /
`finish` of a class reduce to it. -/

theorem gen_isKnownVal_eq (v : Option Bool) : RelatePred.isKnownVal (encV v) = v.isSome := by
  rcases v with _ | _ | _ <;> rfl

theorem gen_isKnown_eq (s : PState) : RelatePred.isKnown (encV s.value) = s.value.isSome :=
  gen_isKnownVal_eq s.value

theorem gen_toBoolean_eq (v : Option Bool) : RelatePred.toBoolean (encV v) = (v == some true) := by
  rcases v with _ | _ | _ <;> rfl

theorem gen_value_eq (s : PState) : RelatePred.value (encV s.value) = (s.value == some true) :=
  gen_toBoolean_eq s.value

theorem gen_toValue_eq (b : Bool) : RelatePred.toValue b = encV (some b) := by
  cases b <;> rfl

theorem gen_isIntersection_eq (a b : Loc3) : RelatePred.isIntersection a b = isIntersection a b := rfl

/-- `setValue(bool)` is sticky -/
theorem gen_setValue_eq (s : PState) (b : Bool) : RelatePred.setValue (encV s.value) b = encV (s.setValue b).value := by
  obtain ⟨k, dA, dB, m, v⟩ := s
  rcases v with _ | _ | _ <;> cases b <;> rfl

theorem gen_setValueIf_eq (s : PState) (b c : Bool) :
    RelatePred.setValueIf (encV s.value) b c = encV (if c then s.setValue b else s).value := by
  cases c
  · rfl
  · exact gen_setValue_eq s b

theorem gen_require_eq (s : PState) (c : Bool) : RelatePred.require (encV s.value) c = encV (s.require c).value := by
  cases c
  · exact gen_setValue_eq s false
  · rfl

theorem gen_requireCoversEnv_eq {E : Type} (covers : E → E → Bool) (s : PState) (a b : E) :
    RelatePred.requireCoversEnv covers (encV s.value) a b = encV (s.require (covers a b)).value :=
  gen_require_eq s (covers a b)

/-! ### IMPredicate.cpp -/

theorem gen_isDimsCompatibleWithCovers_eq (d0 d1 : Int) :
    RelatePred.isDimsCompatibleWithCovers d0 d1 = dimsCompatibleWithCovers d0 d1 := by
  unfold RelatePred.isDimsCompatibleWithCovers dimsCompatibleWithCovers
  cases (d0 == 0 && d1 == 1) <;> rfl

theorem gen_IMPredicate_init_eq (a0 b0 dA dB : Int) : RelatePred.IMPredicate_init a0 b0 dA dB = (dA, dB) := rfl

theorem gen_isDimChanged_eq (m : IM) (a b : Loc3) (d : Int) : RelatePred.isDimChanged m a b d = decide (d > m.get a b) := rfl

theorem gen_isIntersects_eq (m : IM) (a b : Loc3) : RelatePred.isIntersects m a b = isIntersectsE m a b := rfl

theorem gen_intersectsExteriorOf_eq (m : IM) (isA : Bool) : RelatePred.intersectsExteriorOf m isA = intersectsExteriorOf m isA := by
  cases isA <;> rfl

theorem gen_getDimension_eq (m : IM) (a b : Loc3) : RelatePred.getDimension m a b = m.get a b := rfl

theorem gen_isDimension_eq (m : IM) (a b : Loc3) (d : Int) : RelatePred.isDimension m a b d = (m.get a b == d) := rfl

/-- `isKnown(locA, locB)`: the entry is not `Dimension::DONTCARE` (−3) -/
theorem gen_isKnownEntry_eq (m : IM) (a b : Loc3) : RelatePred.isKnownEntry m a b = (m.get a b != -3) := rfl

/-- `IMPredicate::updateDimension` with the virtual calls resolved to `isDetermined` / `valueIM` of the predicate's kind
is `PState.updateIM` -/
theorem gen_IMPredicate_updateDimension_eq (s : PState) (a b : Loc3) (d : Int) :
    RelatePred.IMPredicate_updateDimension (isDetermined s.kind) (valueIM s.kind) s.dimA s.dimB s.im (encV s.value) a b d
      = ((s.updateIM a b d).im, encV (s.updateIM a b d).value) := by
  obtain ⟨k, dA, dB, m, v⟩ := s
  have e1 := gen_setValue_eq ⟨k, dA, dB, m.set a b d, v⟩ (valueIM k dA dB (m.set a b d))
  have e2 := (setValue_fields ⟨k, dA, dB, m.set a b d, v⟩ (valueIM k dA dB (m.set a b d))).1
  by_cases h1 : d > m.get a b <;> by_cases h2 : isDetermined k dA dB (m.set a b d) = true <;>
    simp [RelatePred.IMPredicate_updateDimension, PState.updateIM, RelatePred.isDimChanged, h1, h2, e1, e2]

/-- `IMPredicate::finish` -/
theorem gen_IMPredicate_finish_eq (s : PState) :
    RelatePred.IMPredicate_finish (valueIM s.kind) s.dimA s.dimB s.im (encV s.value)
      = encV (s.setValue (valueIM s.kind s.dimA s.dimB s.im)).value :=
  gen_setValue_eq s _

/-! ### RelatePredicate.h — `isDetermined()` / `valueIM()` of the eight IM predicate classes, RelateMatrixPredicate.h -/

theorem gen_Contains_isDetermined_eq (dA dB : Int) (m : IM) : RelatePred.Contains_isDetermined dA dB m = isDetermined .contains dA dB m := rfl

theorem gen_Within_isDetermined_eq (dA dB : Int) (m : IM) : RelatePred.Within_isDetermined dA dB m = isDetermined .within dA dB m := rfl

theorem gen_Covers_isDetermined_eq (dA dB : Int) (m : IM) : RelatePred.Covers_isDetermined dA dB m = isDetermined .covers dA dB m := rfl

theorem gen_CoveredBy_isDetermined_eq (dA dB : Int) (m : IM) : RelatePred.CoveredBy_isDetermined dA dB m = isDetermined .coveredBy dA dB m := rfl

/-- the nested `if`s with early `return true` are, over Boolean variables, the model's `if`-chain -/
theorem gen_Crosses_isDetermined_eq (dA dB : Int) (m : IM) : RelatePred.Crosses_isDetermined dA dB m = isDetermined .crosses dA dB m := by
  have skel : ∀ l c lt x gt y : Bool,
      (Id.run do
        if l then
          if c then return true
        else
          if lt then
            if x then return true
          else
            if gt then
              if y then return true
        return false) = (if l then c else if lt then x else if gt then y else false) := by
    intro l c lt x gt y
    cases l
    · cases lt
      · cases gt
        · rfl
        · cases y <;> rfl
      · cases x <;> rfl
    · cases c <;> rfl
  refine (skel _ _ _ _ _ _).trans ?_
  simp only [isDetermined, decide_eq_true_eq]
  rfl

theorem gen_EqualsTopo_isDetermined_eq (dA dB : Int) (m : IM) : RelatePred.EqualsTopo_isDetermined dA dB m = isDetermined .equalsTopo dA dB m := rfl

/-- two guarded early returns are, over Boolean variables, a disjunction of conjunctions -/
theorem gen_Overlaps_isDetermined_eq (dA dB : Int) (m : IM) : RelatePred.Overlaps_isDetermined dA dB m = isDetermined .overlaps dA dB m := by
  have skel : ∀ p x q y : Bool,
      (Id.run do
        if p then
          if x then return true
        if q then
          if y then return true
        return false) = (p && x || q && y) := by
    intro p x q y; cases p <;> cases x <;> cases q <;> cases y <;> rfl
  refine (skel _ _ _ _).trans ?_
  simp only [isDetermined, Bool.and_assoc]
  rfl

theorem gen_Touches_isDetermined_eq (dA dB : Int) (m : IM) : RelatePred.Touches_isDetermined dA dB m = isDetermined .touches dA dB m := rfl

theorem gen_Matrix_isDetermined_eq (dA dB : Int) (m : IM) : RelatePred.Matrix_isDetermined dA dB m = isDetermined .matrix dA dB m := rfl

theorem gen_Contains_valueIM_eq (dA dB : Int) (m : IM) : RelatePred.Contains_valueIM dA dB m = valueIM .contains dA dB m :=
  C01Gen.gen_isContains_eq m

theorem gen_Within_valueIM_eq (dA dB : Int) (m : IM) : RelatePred.Within_valueIM dA dB m = valueIM .within dA dB m :=
  C01Gen.gen_isWithin_eq m

theorem gen_Covers_valueIM_eq (dA dB : Int) (m : IM) : RelatePred.Covers_valueIM dA dB m = valueIM .covers dA dB m :=
  C01Gen.gen_isCovers_eq m

theorem gen_CoveredBy_valueIM_eq (dA dB : Int) (m : IM) : RelatePred.CoveredBy_valueIM dA dB m = valueIM .coveredBy dA dB m :=
  C01Gen.gen_isCoveredBy_eq m

theorem gen_Crosses_valueIM_eq (dA dB : Int) (m : IM) : RelatePred.Crosses_valueIM dA dB m = valueIM .crosses dA dB m :=
  C01Gen.gen_isCrosses_eq m dA dB

theorem gen_EqualsTopo_valueIM_eq (dA dB : Int) (m : IM) : RelatePred.EqualsTopo_valueIM dA dB m = valueIM .equalsTopo dA dB m :=
  C01Gen.gen_isEquals_eq m dA dB

theorem gen_Overlaps_valueIM_eq (dA dB : Int) (m : IM) : RelatePred.Overlaps_valueIM dA dB m = valueIM .overlaps dA dB m :=
  C01Gen.gen_isOverlaps_eq m dA dB

theorem gen_Touches_valueIM_eq (dA dB : Int) (m : IM) : RelatePred.Touches_valueIM dA dB m = valueIM .touches dA dB m :=
  C01Gen.gen_isTouches_eq m dA dB

theorem gen_Matrix_valueIM_eq (dA dB : Int) (m : IM) : RelatePred.Matrix_valueIM dA dB m = valueIM .matrix dA dB m := rfl

/-! ### `init(dimA, dimB)` -/

/-- every `init(dimA, dimB)` stores the two dimensions and then `require`s a condition on them -/
theorem gen_initDim_require_eq (s : PState) (c c' : Bool) (hc : c = c') :
    (s.dimA, s.dimB, RelatePred.require (encV s.value) c) = ((s.require c').dimA, (s.require c').dimB, encV (s.require c').value) := by
  subst hc
  rw [gen_require_eq, (require_fields s c).2.2.1, (require_fields s c).2.2.2]

theorem gen_Contains_initDim_eq (s : PState) (hk : s.kind = .contains) (dA dB : Int) :
    RelatePred.Contains_initDim s.dimA s.dimB (encV s.value) dA dB
      = ((s.initDim dA dB).dimA, (s.initDim dA dB).dimB, encV (s.initDim dA dB).value) := by
  obtain ⟨k, a, b, m, v⟩ := s
  obtain rfl : k = .contains := hk
  exact gen_initDim_require_eq ⟨.contains, dA, dB, m, v⟩ _ _ (gen_isDimsCompatibleWithCovers_eq dA dB)

theorem gen_Within_initDim_eq (s : PState) (hk : s.kind = .within) (dA dB : Int) :
    RelatePred.Within_initDim s.dimA s.dimB (encV s.value) dA dB
      = ((s.initDim dA dB).dimA, (s.initDim dA dB).dimB, encV (s.initDim dA dB).value) := by
  obtain ⟨k, a, b, m, v⟩ := s
  obtain rfl : k = .within := hk
  exact gen_initDim_require_eq ⟨.within, dA, dB, m, v⟩ _ _ (gen_isDimsCompatibleWithCovers_eq dB dA)

theorem gen_Covers_initDim_eq (s : PState) (hk : s.kind = .covers) (dA dB : Int) :
    RelatePred.Covers_initDim s.dimA s.dimB (encV s.value) dA dB
      = ((s.initDim dA dB).dimA, (s.initDim dA dB).dimB, encV (s.initDim dA dB).value) := by
  obtain ⟨k, a, b, m, v⟩ := s
  obtain rfl : k = .covers := hk
  exact gen_initDim_require_eq ⟨.covers, dA, dB, m, v⟩ _ _ (gen_isDimsCompatibleWithCovers_eq dA dB)

theorem gen_CoveredBy_initDim_eq (s : PState) (hk : s.kind = .coveredBy) (dA dB : Int) :
    RelatePred.CoveredBy_initDim s.dimA s.dimB (encV s.value) dA dB
      = ((s.initDim dA dB).dimA, (s.initDim dA dB).dimB, encV (s.initDim dA dB).value) := by
  obtain ⟨k, a, b, m, v⟩ := s
  obtain rfl : k = .coveredBy := hk
  exact gen_initDim_require_eq ⟨.coveredBy, dA, dB, m, v⟩ _ _ (gen_isDimsCompatibleWithCovers_eq dB dA)

theorem gen_Crosses_initDim_eq (s : PState) (hk : s.kind = .crosses) (dA dB : Int) :
    RelatePred.Crosses_initDim s.dimA s.dimB (encV s.value) dA dB
      = ((s.initDim dA dB).dimA, (s.initDim dA dB).dimB, encV (s.initDim dA dB).value) := by
  obtain ⟨k, a, b, m, v⟩ := s
  obtain rfl : k = .crosses := hk
  exact gen_initDim_require_eq ⟨.crosses, dA, dB, m, v⟩ _ _ rfl

theorem gen_EqualsTopo_initDim_eq (s : PState) (hk : s.kind = .equalsTopo) (dA dB : Int) :
    RelatePred.EqualsTopo_initDim s.dimA s.dimB (encV s.value) dA dB
      = ((s.initDim dA dB).dimA, (s.initDim dA dB).dimB, encV (s.initDim dA dB).value) := by
  obtain ⟨k, a, b, m, v⟩ := s
  obtain rfl : k = .equalsTopo := hk
  rfl

theorem gen_Overlaps_initDim_eq (s : PState) (hk : s.kind = .overlaps) (dA dB : Int) :
    RelatePred.Overlaps_initDim s.dimA s.dimB (encV s.value) dA dB
      = ((s.initDim dA dB).dimA, (s.initDim dA dB).dimB, encV (s.initDim dA dB).value) := by
  obtain ⟨k, a, b, m, v⟩ := s
  obtain rfl : k = .overlaps := hk
  exact gen_initDim_require_eq ⟨.overlaps, dA, dB, m, v⟩ _ _ rfl

theorem gen_Touches_initDim_eq (s : PState) (hk : s.kind = .touches) (dA dB : Int) :
    RelatePred.Touches_initDim s.dimA s.dimB (encV s.value) dA dB
      = ((s.initDim dA dB).dimA, (s.initDim dA dB).dimB, encV (s.initDim dA dB).value) := by
  obtain ⟨k, a, b, m, v⟩ := s
  obtain rfl : k = .touches := hk
  exact gen_initDim_require_eq ⟨.touches, dA, dB, m, v⟩ _ _ rfl

/-! ### `init(envA, envB)` — for every interpretation of the `geom::Envelope` methods that agrees with the facts the model reads -/

theorem gen_Intersects_initEnv_eq {E : Type} (envIntersects : E → E → Bool) (s : PState) (hk : s.kind = .intersects) (e : EnvFacts) (a b : E)
    (h1 : envIntersects a b = e.intersects) :
    RelatePred.Intersects_initEnv envIntersects (encV s.value) a b = encV (s.initEnv e).value := by
  obtain ⟨k, dA, dB, m, v⟩ := s
  obtain rfl : k = .intersects := hk
  exact (gen_require_eq ⟨.intersects, dA, dB, m, v⟩ (envIntersects a b)).trans (by rw [h1]; rfl)

theorem gen_Disjoint_initEnv_eq {E : Type} (envDisjoint : E → E → Bool) (s : PState) (hk : s.kind = .disjoint) (e : EnvFacts) (a b : E)
    (h1 : envDisjoint a b = !e.intersects) :
    RelatePred.Disjoint_initEnv envDisjoint (encV s.value) a b = encV (s.initEnv e).value := by
  obtain ⟨k, dA, dB, m, v⟩ := s
  obtain rfl : k = .disjoint := hk
  exact (gen_setValueIf_eq ⟨.disjoint, dA, dB, m, v⟩ true (envDisjoint a b)).trans (by rw [h1]; rfl)

theorem gen_Contains_initEnv_eq {E : Type} (envCovers : E → E → Bool) (s : PState) (hk : s.kind = .contains) (e : EnvFacts) (a b : E)
    (h1 : envCovers a b = e.aCoversB) :
    RelatePred.Contains_initEnv envCovers (encV s.value) a b = encV (s.initEnv e).value := by
  obtain ⟨k, dA, dB, m, v⟩ := s
  obtain rfl : k = .contains := hk
  exact (gen_requireCoversEnv_eq envCovers ⟨.contains, dA, dB, m, v⟩ a b).trans (by rw [h1]; rfl)

theorem gen_Covers_initEnv_eq {E : Type} (envCovers : E → E → Bool) (s : PState) (hk : s.kind = .covers) (e : EnvFacts) (a b : E)
    (h1 : envCovers a b = e.aCoversB) :
    RelatePred.Covers_initEnv envCovers (encV s.value) a b = encV (s.initEnv e).value := by
  obtain ⟨k, dA, dB, m, v⟩ := s
  obtain rfl : k = .covers := hk
  exact (gen_requireCoversEnv_eq envCovers ⟨.covers, dA, dB, m, v⟩ a b).trans (by rw [h1]; rfl)

theorem gen_Within_initEnv_eq {E : Type} (envCovers : E → E → Bool) (s : PState) (hk : s.kind = .within) (e : EnvFacts) (a b : E)
    (h1 : envCovers b a = e.bCoversA) :
    RelatePred.Within_initEnv envCovers (encV s.value) a b = encV (s.initEnv e).value := by
  obtain ⟨k, dA, dB, m, v⟩ := s
  obtain rfl : k = .within := hk
  exact (gen_requireCoversEnv_eq envCovers ⟨.within, dA, dB, m, v⟩ b a).trans (by rw [h1]; rfl)

theorem gen_CoveredBy_initEnv_eq {E : Type} (envCovers : E → E → Bool) (s : PState) (hk : s.kind = .coveredBy) (e : EnvFacts) (a b : E)
    (h1 : envCovers b a = e.bCoversA) :
    RelatePred.CoveredBy_initEnv envCovers (encV s.value) a b = encV (s.initEnv e).value := by
  obtain ⟨k, dA, dB, m, v⟩ := s
  obtain rfl : k = .coveredBy := hk
  exact (gen_requireCoversEnv_eq envCovers ⟨.coveredBy, dA, dB, m, v⟩ b a).trans (by rw [h1]; rfl)

theorem gen_EqualsTopo_initEnv_eq {E : Type} (envEquals : E → E → Bool) (envIsNull : E → Bool) (s : PState) (hk : s.kind = .equalsTopo)
    (e : EnvFacts) (a b : E) (h1 : envEquals a b = e.equal) (h2 : (envIsNull a && envIsNull b) = e.bothNull) :
    RelatePred.EqualsTopo_initEnv envEquals envIsNull (encV s.value) a b = encV (s.initEnv e).value := by
  obtain ⟨k, dA, dB, m, v⟩ := s
  obtain rfl : k = .equalsTopo := hk
  have h := gen_setValueIf_eq ⟨.equalsTopo, dA, dB, m, v⟩ true (envIsNull a && envIsNull b)
  exact ((congrArg (RelatePred.require · (envEquals a b)) h).trans (gen_require_eq _ _)).trans (by rw [h1, h2]; rfl)

/-! ### the two matrix-free predicates: `updateDimension`, `finish` -/

theorem gen_Intersects_updateDimension_eq (s : PState) (hk : s.kind = .intersects) (a b : Loc3) (d : Int) :
    RelatePred.Intersects_updateDimension (encV s.value) a b d = encV (s.update a b d).value := by
  obtain ⟨k, dA, dB, m, v⟩ := s
  obtain rfl : k = .intersects := hk
  exact gen_setValueIf_eq ⟨.intersects, dA, dB, m, v⟩ true (isIntersection a b)

theorem gen_Disjoint_updateDimension_eq (s : PState) (hk : s.kind = .disjoint) (a b : Loc3) (d : Int) :
    RelatePred.Disjoint_updateDimension (encV s.value) a b d = encV (s.update a b d).value := by
  obtain ⟨k, dA, dB, m, v⟩ := s
  obtain rfl : k = .disjoint := hk
  exact gen_setValueIf_eq ⟨.disjoint, dA, dB, m, v⟩ false (isIntersection a b)

theorem gen_Intersects_finish_eq (s : PState) (hk : s.kind = .intersects) :
    RelatePred.Intersects_finish (encV s.value) = encV s.finish.value := by
  obtain ⟨k, dA, dB, m, v⟩ := s
  obtain rfl : k = .intersects := hk
  exact gen_setValue_eq ⟨.intersects, dA, dB, m, v⟩ false

theorem gen_Disjoint_finish_eq (s : PState) (hk : s.kind = .disjoint) :
    RelatePred.Disjoint_finish (encV s.value) = encV s.finish.value := by
  obtain ⟨k, dA, dB, m, v⟩ := s
  obtain rfl : k = .disjoint := hk
  exact gen_setValue_eq ⟨.disjoint, dA, dB, m, v⟩ true

/-! ### the virtual table of the IM predicates: one step / the end of the regenerated state machine is `PState.update` / `PState.finish` -/

/-- which regenerated `isDetermined()` / `valueIM()` an `IMPredicate` of kind `k` has (class structure checked by the translator's
`prepare`); `IMPatternMatcher::isDetermined` / `valueIM` are not regenerated (see the report in manifest/C01.json) -/
def vtable : Kind → Option ((Int → Int → IM → Bool) × (Int → Int → IM → Bool))
  | .contains => some (RelatePred.Contains_isDetermined, RelatePred.Contains_valueIM)
  | .within => some (RelatePred.Within_isDetermined, RelatePred.Within_valueIM)
  | .covers => some (RelatePred.Covers_isDetermined, RelatePred.Covers_valueIM)
  | .coveredBy => some (RelatePred.CoveredBy_isDetermined, RelatePred.CoveredBy_valueIM)
  | .crosses => some (RelatePred.Crosses_isDetermined, RelatePred.Crosses_valueIM)
  | .equalsTopo => some (RelatePred.EqualsTopo_isDetermined, RelatePred.EqualsTopo_valueIM)
  | .overlaps => some (RelatePred.Overlaps_isDetermined, RelatePred.Overlaps_valueIM)
  | .touches => some (RelatePred.Touches_isDetermined, RelatePred.Touches_valueIM)
  | .matrix => some (RelatePred.Matrix_isDetermined, RelatePred.Matrix_valueIM)
  | _ => none

/-- extensionality for one row of the table -/
theorem vtable_entry {k : Kind} {det val : Int → Int → IM → Bool} (hd : ∀ dA dB m, det dA dB m = isDetermined k dA dB m)
    (hv : ∀ dA dB m, val dA dB m = valueIM k dA dB m) : det = isDetermined k ∧ val = valueIM k :=
  ⟨funext fun dA => funext fun dB => funext (hd dA dB), funext fun dA => funext fun dB => funext (hv dA dB)⟩

theorem gen_vtable_eq (k : Kind) (det val : Int → Int → IM → Bool) (h : vtable k = some (det, val)) :
    det = isDetermined k ∧ val = valueIM k := by
  cases k with
  | contains => cases h; exact vtable_entry gen_Contains_isDetermined_eq gen_Contains_valueIM_eq
  | within => cases h; exact vtable_entry gen_Within_isDetermined_eq gen_Within_valueIM_eq
  | covers => cases h; exact vtable_entry gen_Covers_isDetermined_eq gen_Covers_valueIM_eq
  | coveredBy => cases h; exact vtable_entry gen_CoveredBy_isDetermined_eq gen_CoveredBy_valueIM_eq
  | crosses => cases h; exact vtable_entry gen_Crosses_isDetermined_eq gen_Crosses_valueIM_eq
  | equalsTopo => cases h; exact vtable_entry gen_EqualsTopo_isDetermined_eq gen_EqualsTopo_valueIM_eq
  | overlaps => cases h; exact vtable_entry gen_Overlaps_isDetermined_eq gen_Overlaps_valueIM_eq
  | touches => cases h; exact vtable_entry gen_Touches_isDetermined_eq gen_Touches_valueIM_eq
  | matrix => cases h; exact vtable_entry gen_Matrix_isDetermined_eq gen_Matrix_valueIM_eq
  | intersects => cases h
  | disjoint => cases h
  | pattern p => cases h

/-- the kinds with a row in the table are the IM predicates -/
theorem vtable_isBasic {k : Kind} {p : (Int → Int → IM → Bool) × (Int → Int → IM → Bool)} (h : vtable k = some p) :
    k.isBasic = false := by
  cases k <;> first | rfl | cases h

/-- `updateDimension` of every regenerated IM predicate class (inherited `IMPredicate::updateDimension` + its own
`isDetermined` / `valueIM`) is the step `PState.update` of the model `early_exit_eq_final` is about -/
theorem gen_update_eq (s : PState) (det val : Int → Int → IM → Bool) (h : vtable s.kind = some (det, val)) (a b : Loc3) (d : Int) :
    RelatePred.IMPredicate_updateDimension det val s.dimA s.dimB s.im (encV s.value) a b d
      = ((s.update a b d).im, encV (s.update a b d).value) := by
  obtain ⟨rfl, rfl⟩ := gen_vtable_eq _ _ _ h
  have hu := update_eq_updateIM s (vtable_isBasic h) a b d
  rw [hu]
  exact gen_IMPredicate_updateDimension_eq s a b d

/-- `finish()` of every regenerated IM predicate class is `PState.finish` -/
theorem gen_finish_eq (s : PState) (det val : Int → Int → IM → Bool) (h : vtable s.kind = some (det, val)) :
    RelatePred.IMPredicate_finish val s.dimA s.dimB s.im (encV s.value) = encV s.finish.value := by
  obtain ⟨rfl, rfl⟩ := gen_vtable_eq _ _ _ h
  have hf := finish_eq_setValue s (vtable_isBasic h)
  rw [hf]
  exact gen_IMPredicate_finish_eq s

example : vtable .crosses = some (RelatePred.Crosses_isDetermined, RelatePred.Crosses_valueIM) := rfl

/-! ### requirement flags (RelatePredicate.h, RelateMatrixPredicate.h, IMPatternMatcher.cpp; inherited defaults of TopologyPredicate.h) -/

theorem gen_Contains_requireCovers_eq (isA : Bool) : RelatePred.Contains_requireCovers isA = Kind.requireCovers .contains isA := by
  cases isA <;> rfl
theorem gen_Covers_requireCovers_eq (isA : Bool) : RelatePred.Covers_requireCovers isA = Kind.requireCovers .covers isA := by
  cases isA <;> rfl
theorem gen_Within_requireCovers_eq (isA : Bool) : RelatePred.Within_requireCovers isA = Kind.requireCovers .within isA := by
  cases isA <;> rfl
theorem gen_CoveredBy_requireCovers_eq (isA : Bool) : RelatePred.CoveredBy_requireCovers isA = Kind.requireCovers .coveredBy isA := by
  cases isA <;> rfl
/-- the classes that inherit `TopologyPredicate::requireCovers` -/
theorem gen_Default_requireCovers_eq (k : Kind) (hk : k ≠ .contains ∧ k ≠ .covers ∧ k ≠ .within ∧ k ≠ .coveredBy) (isA : Bool) :
    RelatePred.Default_requireCovers isA = k.requireCovers isA := by
  obtain ⟨h1, h2, h3, h4⟩ := hk
  cases k <;> first | rfl | contradiction

theorem gen_Intersects_requireExteriorCheck_eq (isA : Bool) : RelatePred.Intersects_requireExteriorCheck isA = Kind.requireExteriorCheck .intersects isA := rfl
theorem gen_Disjoint_requireExteriorCheck_eq (isA : Bool) : RelatePred.Disjoint_requireExteriorCheck isA = Kind.requireExteriorCheck .disjoint isA := rfl
theorem gen_Contains_requireExteriorCheck_eq (isA : Bool) : RelatePred.Contains_requireExteriorCheck isA = Kind.requireExteriorCheck .contains isA := by
  cases isA <;> rfl
theorem gen_Covers_requireExteriorCheck_eq (isA : Bool) : RelatePred.Covers_requireExteriorCheck isA = Kind.requireExteriorCheck .covers isA := by
  cases isA <;> rfl
theorem gen_Within_requireExteriorCheck_eq (isA : Bool) : RelatePred.Within_requireExteriorCheck isA = Kind.requireExteriorCheck .within isA := by
  cases isA <;> rfl
theorem gen_CoveredBy_requireExteriorCheck_eq (isA : Bool) : RelatePred.CoveredBy_requireExteriorCheck isA = Kind.requireExteriorCheck .coveredBy isA := by
  cases isA <;> rfl
/-- the classes that inherit `TopologyPredicate::requireExteriorCheck` -/
theorem gen_Default_requireExteriorCheck_eq (k : Kind)
    (hk : k ≠ .intersects ∧ k ≠ .disjoint ∧ k ≠ .contains ∧ k ≠ .covers ∧ k ≠ .within ∧ k ≠ .coveredBy) (isA : Bool) :
    RelatePred.Default_requireExteriorCheck isA = k.requireExteriorCheck isA := by
  obtain ⟨h1, h2, h3, h4, h5, h6⟩ := hk
  cases k <;> first | rfl | contradiction

theorem gen_Disjoint_requireInteraction_eq : RelatePred.Disjoint_requireInteraction = Kind.requireInteraction .disjoint := rfl
theorem gen_EqualsTopo_requireInteraction_eq : RelatePred.EqualsTopo_requireInteraction = Kind.requireInteraction .equalsTopo := rfl
theorem gen_Matrix_requireInteraction_eq : RelatePred.Matrix_requireInteraction = Kind.requireInteraction .matrix := rfl

theorem gen_Pattern_isInteraction_eq (v : Int) : RelatePred.Pattern_isInteraction v = (v == -2 || decide (v ≥ 0)) := rfl

/-- `IMPatternMatcher::requireInteraction(patternMatrix)`; the pattern of the model is the list of entries of `patternMatrix` -/
theorem gen_Pattern_requireInteractionIM_eq (pm : IM) : RelatePred.Pattern_requireInteractionIM pm = patRequiresInteraction pm.entries := by
  cases pm; rfl

theorem gen_Pattern_requireInteraction_eq (pm : IM) : RelatePred.Pattern_requireInteraction pm = Kind.requireInteraction (.pattern pm.entries) :=
  gen_Pattern_requireInteractionIM_eq pm

/-- the classes that inherit `TopologyPredicate::requireInteraction` -/
theorem gen_Default_requireInteraction_eq (k : Kind) (hk : k ≠ .disjoint ∧ k ≠ .equalsTopo ∧ k ≠ .matrix ∧ ∀ p, k ≠ .pattern p) :
    RelatePred.Default_requireInteraction = k.requireInteraction := by
  obtain ⟨h1, h2, h3, h4⟩ := hk
  cases k <;> first | rfl | contradiction | exact absurd rfl (h4 _)

/-- `IMPatternMatcher::init(envA, envB)` (dimensions unchanged) -/
theorem gen_Pattern_initEnv_eq {E : Type} (envDisjoint : E → E → Bool) (s : PState) (pm : IM) (hk : s.kind = .pattern pm.entries)
    (e : EnvFacts) (a b : E) (h1 : envDisjoint a b = !e.intersects) :
    RelatePred.Pattern_initEnv envDisjoint pm s.dimA s.dimB (encV s.value) a b = (s.dimA, s.dimB, encV (s.initEnv e).value) := by
  obtain ⟨k, dA, dB, m, v⟩ := s
  obtain rfl : k = .pattern pm.entries := hk
  exact congrArg (fun x => (dA, dB, x)) ((gen_setValueIf_eq ⟨.pattern pm.entries, dA, dB, m, v⟩ false _).trans
    (by rw [gen_Pattern_requireInteractionIM_eq, h1]; rfl))

/-! ### RelateNG.cpp — the envelope test in front of everything -/

/-- `RelateNG::hasRequiredEnvelopeInteraction(b, predicate)`, for every interpretation of the geometry / envelope / predicate
accessors that agrees with the flags of kind `k` and the three envelope facts: the model `envelope_exit_sound` is about -/
theorem gen_hasRequiredEnvelopeInteraction_eq {E G RG TP : Type} (envCovers envIntersects : E → E → Bool) (getEnvelope : RG → E)
    (getEnvelopeInternal : G → E) (requireCovers : TP → Bool → Bool) (requireInteraction : TP → Bool) (geomA : RG) (b : G) (p : TP)
    (k : Kind) (e : EnvFacts)
    (hc : ∀ x, requireCovers p x = k.requireCovers x) (hi : requireInteraction p = k.requireInteraction)
    (h1 : envCovers (getEnvelope geomA) (getEnvelopeInternal b) = e.aCoversB)
    (h2 : envCovers (getEnvelopeInternal b) (getEnvelope geomA) = e.bCoversA)
    (h3 : envIntersects (getEnvelope geomA) (getEnvelopeInternal b) = e.intersects) :
    RelatePred.hasRequiredEnvelopeInteraction envCovers envIntersects getEnvelope getEnvelopeInternal requireCovers requireInteraction geomA b p
      = hasRequiredEnvelopeInteraction k e := by
  simp only [RelatePred.hasRequiredEnvelopeInteraction, hasRequiredEnvelopeInteraction, hc, hi, h1, h2, h3]
  -- the flags and facts as plain Booleans: first match in the order covers(A), covers(B), interaction
  cases k.requireCovers true
  · cases k.requireCovers false
    · cases k.requireInteraction <;> cases e.intersects <;> rfl
    · cases e.bCoversA <;> rfl
  · cases e.aCoversB <;> rfl

/-! ### non-vacuity: the envelope hypotheses are satisfiable — the envelope model of `Base/Env` the driver of stream `pred-sm` uses -/

/-- the facts the driver feeds `PState.initEnv` -/
def factsOf (ea eb : Env) : EnvFacts :=
  { intersects := Env.inter ea eb, aCoversB := Env.covers ea eb, bCoversA := Env.covers eb ea,
    equal := (match ea, eb with | none, o => o.isNone | some a, some o => a == o | some _, none => false),
    bothNull := ea.isNone && eb.isNone }

example (s : PState) (hk : s.kind = .contains) (ea eb : Env) :
    RelatePred.Contains_initEnv Env.covers (encV s.value) ea eb = encV (s.initEnv (factsOf ea eb)).value :=
  gen_Contains_initEnv_eq Env.covers s hk (factsOf ea eb) ea eb rfl

example (s : PState) (hk : s.kind = .disjoint) (ea eb : Env) :
    RelatePred.Disjoint_initEnv (fun a b => !Env.inter a b) (encV s.value) ea eb = encV (s.initEnv (factsOf ea eb)).value :=
  gen_Disjoint_initEnv_eq _ s hk (factsOf ea eb) ea eb rfl

example (k : Kind) (ea eb : Env) :
    RelatePred.hasRequiredEnvelopeInteraction (E := Env) (G := Env) (RG := Env) (TP := Kind) Env.covers Env.inter id id
      Kind.requireCovers Kind.requireInteraction ea eb k = hasRequiredEnvelopeInteraction k (factsOf ea eb) :=
  gen_hasRequiredEnvelopeInteraction_eq _ _ _ _ _ _ ea eb k k (factsOf ea eb) (fun _ => rfl) rfl rfl rfl rfl

example : RelatePred.hasRequiredEnvelopeInteraction (E := Env) (G := Env) (RG := Env) (TP := Kind) Env.covers Env.inter id id
    Kind.requireCovers Kind.requireInteraction (some ⟨0, 2, 0, 2⟩) (some ⟨1, 3, 1, 3⟩) Kind.contains = false := by decide

end GeosModel.C01GenPred
