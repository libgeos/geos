import GeosModel.Proofs.WKB.Depth
import GeosModel.Proofs.Readers.WKTSafe
import GeosModel.Proofs.Readers.WKTDepth
import GeosModel.Model.Readers.Cxx
/-!
# C11 — readers never crash, hang or touch memory out of bounds: what is PROVED, and about what

Everything in this file is about the Lean reader MODELS; the C++ is tied to them by the correspondence streams of
`checks/C09.py`, `checks/C10.py` and the sanitizer streams of `checks/C11.py` (runtime evidence, not proof).
Memory safety of the models is by construction (they read through pattern matching on lists).  The GeoJSON reader
is not modelled.

Part 1 (namespace `C11.WKB`):
Model: `GeosModel.WKB.read` (`Model/WKB/Read.lean`) — total by construction (structural recursion on a
fuel argument that is the recursion-depth budget), reading only through pattern matching on the remaining
byte list (so "no out-of-bounds read" is a typing fact of the model) — plus the allocation accounting of
`Model/WKB/Resource.lean`.  The tie of this model to the code is C09's correspondence (`wkb-read`:
valid, structure-mutated and random inputs, binary and HEX).

Positive results (all byte strings, no hypothesis):
* `reject_or_wf`, `readHex_reject_or_wf`  whatever is returned satisfies every constructor invariant;
* `read_never_out_of_fuel`, `depth_le`     the recursion depth is at most `length / 5 + 1`;
* `consumes_monotonically`                every successful nested read returns a suffix no longer than its input;
* `alloc_linear`                          **the reader allocates at most 4 bytes per input byte** (the property's "allocates
  at most a constant multiple of the input size" clause, for the accounting of `Model/WKB/Resource.lean`: coordinate
  sequences charged up front after their `minMemSize` guard, child vectors charged 16 bytes per child actually pushed).
  With `alloc_linear_nested` (the same at every depth budget and byte order — no depth hypothesis), `alloc_le_consumed`
  (a successful read is charged by the bytes it consumed, not by the buffer it was given), `alloc_linear_tight` /
  `alloc_constant_optimal` (an accepted polygon with `k` empty holes, `13 + 4 k` bytes, is charged `16 k`: no constant
  below 4 works) and `alloc_over_linear` (the family `wkbOver` — nested collections each claiming as many elements as `minMemSize`
  lets through — is charged ≤ 4 bytes per byte like everything else; the model follows /repo a208e3db7, where child vectors
  grow by `push_back` and are not sized from the claimed element count; `checks/C11.py` replays the family on the C++).
  `wkbOver_eq`, `wkbNest_eq`: the harness' witness families are the Lean witnesses.
Negative result (the property's "never overflows the stack" clause is false of the model of the current code):
* `depth_unbounded`     for every `d` an accepted input of `9 d + 21` bytes needs recursion depth `d + 1`.
Also: `empty_section_rejected`, `checkContig_nonempty`, `compound_sections_nonempty` — an empty section next to another one is a clean
reject in `CompoundCurve::validateConstruction` (the model follows /repo 82860eb92) and `front()/back()` only see non-empty sequences.

Part 2 (namespace `C11.WKT`): the same for the WKT reader model — `wkt_read_never_out_of_fuel`, `wkt_depth_le`,
`wkt_tokens_le_chars`, `tokenizer_fuel_irrelevant` (totality), `wkt_reject_or_wf`, `wkt_consumes`, and the negative
`wkt_depth_unbounded` / `wkt_not_depthBounded`.

Part 3 (namespace `C11.WKB` again): the stream object of the regenerated guards (`Model/Readers/Cxx.lean`, tied to the source by
`Props/C11Gen.lean`) — `dis_reads_consume`, `header_consumes`, `readManyD_length`.
-/
namespace GeosModel.C11.WKB
open GeosModel GeosModel.WKB

/-- **reject or well-formed**: a geometry returned by the WKB reader satisfies the invariants of all
thirteen constructors (so writers and accessors applied to it are inside their preconditions). -/
theorem reject_or_wf (arc : ArcOracle) (bs : List UInt8) (g : Geom) (h : read arc bs = .ok g) : WFG arc g.g = true :=
  read_wf bs g h

theorem readHex_reject_or_wf (arc : ArcOracle) (cs : List Char) (g : Geom) (h : readHex arc cs = .ok g) :
    WFG arc g.g = true := by
  simp only [GeosModel.WKB.readHex] at h
  cases hd : hexDecode cs with
  | none => simp [hd] at h
  | some bs => simp only [hd] at h; exact read_wf bs g h

/-- the depth budget `read` supplies (input length + 1) is never exhausted -/
theorem read_never_out_of_fuel (arc : ArcOracle) (bs : List UInt8) : read arc bs ≠ .error .fuel := read_fuel_ok bs

/-- **recursion depth ≤ length / 5 + 1**: with more than `length / 5` nested activations allowed the
reader never needs another one -/
theorem depth_le (arc : ArcOracle) (fuel : Nat) (o : Order) (bs : List UInt8) (h : bs.length < 5 * fuel) :
    readGeom arc fuel o bs ≠ .error .fuel :=
  readGeom_nofuel fuel o bs h

/-- a successful (nested) read hands back a suffix that is no longer than what it was given -/
theorem consumes_monotonically (arc : ArcOracle) (fuel : Nat) (o o' : Order) (bs bs' : List UInt8) (r : G × Int)
    (hl : bs.length < 5 * fuel) (h : readGeom arc fuel o bs = .ok (r, o', bs')) : bs'.length ≤ bs.length := by
  have := allocGeom_consumed fuel o o' bs bs' r h
  omega

/-- "the recursion depth is bounded by the constant `D`" -/
def DepthBounded (arc : ArcOracle) (D : Nat) : Prop := ∀ bs : List UInt8, readGeom arc D .le bs ≠ .error .fuel

/-- **no constant bounds the recursion depth**: `d` nested collections around a point (9 d + 21 bytes) are
accepted, and reading them needs exactly `d + 1` nested activations of `readGeometry`. -/
theorem depth_unbounded (arc : ArcOracle) (d : Nat) :
    ∃ bs : List UInt8, bs.length = 9 * d + 21 ∧ (∃ g, read arc bs = .ok g) ∧
      readGeom arc d .le bs = .error .fuel ∧ (∃ r, readGeom arc (d + 1) .le bs = .ok r) := by
  refine ⟨nestBytes d, nestBytes_length d, ⟨⟨0, nestG d⟩, ?_⟩, ?_, ⟨((nestG d, 0), .le, []), ?_⟩⟩
  · have h := readGeom_nest_ok (arc := arc) d (nestBytes d).length .le [] (by rw [nestBytes_length]; omega)
    simp only [List.append_nil] at h
    simp [GeosModel.WKB.read, h]
  · simpa using readGeom_nest_fuel (arc := arc) d .le []
  · simpa using readGeom_nest_ok (arc := arc) d d .le [] (Nat.le_refl _)

theorem not_depthBounded (arc : ArcOracle) (D : Nat) : ¬ DepthBounded arc D := by
  intro h
  obtain ⟨bs, _, _, hf, _⟩ := depth_unbounded arc D
  exact h bs hf

/-- a compound curve of two line-string sections, the first one empty (59 bytes) -/
def ubInput : List UInt8 :=
  [1, 9, 0, 0, 0, 2, 0, 0, 0,
   1, 2, 0, 0, 0, 0, 0, 0, 0,
   1, 2, 0, 0, 0, 2, 0, 0, 0,
   0, 0, 0, 0, 0, 0, 0, 0, 0, 0, 0, 0, 0, 0, 0, 0,
   0, 0, 0, 0, 0, 0, 0, 0, 0, 0, 0, 0, 0, 0, 0, 0]

/-- an input whose compound curve has an empty section before another one — `back()` of an empty sequence would be
undefined behaviour — is a clean constructor reject (the model follows /repo 82860eb92) -/
theorem empty_section_rejected (arc : ArcOracle) : read arc ubInput = .error .construct := by rfl

/-- `CompoundCurve::validateConstruction` succeeds only if, as soon as there are two sections, every
section is non-empty: `front()`/`back()` are only ever applied to non-empty sequences -/
theorem checkContig_nonempty : ∀ (gs : List G), checkContig gs = .ok () → 2 ≤ gs.length →
    ∀ g ∈ gs, (seqOf g).pts ≠ []
  | [], _, h2 => by simp at h2
  | [_], _, h2 => by simp at h2
  | a :: b :: rest, h, _ => by
    simp only [checkContig] at h
    split at h
    · next e s ha hb =>
      split at h
      · intro g hg
        rcases List.mem_cons.1 hg with rfl | hg
        · intro hn; simp [hn] at ha
        · cases rest with
          | nil => obtain rfl := List.mem_singleton.1 hg; intro hn; simp [hn] at hb
          | cons c rest' => exact checkContig_nonempty (b :: c :: rest') h (by simp) g hg
      · cases h
    · cases h

/-- **the unguarded `front()`/`back()` is never reached with an empty sequence**: in whatever the reader
returns, a compound curve with at least two sections has no empty section (at any nesting level, since
`reject_or_wf` gives `WFG` of the whole tree and `WFG` of a compound curve contains `checkContig`). -/
theorem compound_sections_nonempty (arc : ArcOracle) (gs : List G) (h : WFG arc (.compoundCurve gs) = true)
    (h2 : 2 ≤ gs.length) : ∀ g ∈ gs, (seqOf g).pts ≠ [] := by
  simp only [WFG, Bool.and_eq_true] at h
  exact checkContig_nonempty gs (errOk_ok h.2) h2

/-- **allocation is linear: at most 4 bytes per input byte**, for every byte string, with no hypothesis on the nesting
depth.  (Coordinate sequences are allocated up front but only after `minMemSize` has compared their size with the
remaining bytes: ≤ 2 bytes per available byte even when the read then fails; a child vector grows only by children that
were read, each of which consumed at least its 5-byte header — 4-byte size word for polygon holes — which pays for its
16-byte slot.) -/
theorem alloc_linear (arc : ArcOracle) (bs : List UInt8) : allocOf arc bs ≤ 4 * bs.length :=
  allocGeom_le (bs.length + 1) .le bs

/-- the same bound for every nested read: any depth budget `D` (so it does not rest on a depth limit), any byte order -/
theorem alloc_linear_nested (arc : ArcOracle) (D : Nat) (o : Order) (bs : List UInt8) :
    allocGeom arc D o bs ≤ 4 * bs.length := allocGeom_le D o bs

/-- a successful (nested) read is charged at most 4 bytes per byte it *consumed* (less the 16 its parent pays for
pushing it): trailing bytes, which `read` ignores, cost nothing -/
theorem alloc_le_consumed (arc : ArcOracle) (D : Nat) (o o' : Order) (bs bs' : List UInt8) (r : G × Int)
    (h : readGeom arc D o bs = .ok (r, o', bs')) : allocGeom arc D o bs + 16 + 4 * bs'.length ≤ 4 * bs.length :=
  allocGeom_consumed D o o' bs bs' r h

/-- **the constant 4 is attained** up to an additive constant: the polygon with an empty shell and `k` empty holes
(`13 + 4 k` bytes) is accepted and charged `16 k = 4 · length − 52` (one slot per 4-byte hole) -/
theorem alloc_linear_tight (arc : ArcOracle) (k : Nat) (hk : k + 1 < 4294967296) :
    ∃ bs : List UInt8, bs.length = 13 + 4 * k ∧ (∃ g, read arc bs = .ok g) ∧ allocOf arc bs = 16 * k := by
  refine ⟨polyHoles k, polyHoles_length k, ?_, allocGeom_polyHoles k _ .le hk⟩
  have h := readGeom_polyHoles (arc := arc) k (polyHoles k).length .le hk
  exact ⟨⟨0, .polygon ⟨false, false, []⟩ (List.replicate k ⟨false, false, []⟩)⟩, by simp [GeosModel.WKB.read, h]⟩

/-- no constant below 4 bounds the allocation accounting by a multiple of the input length -/
theorem alloc_constant_optimal (arc : ArcOracle) (c : Nat) (hc : c < 4) : ∃ bs : List UInt8, c * bs.length < allocOf arc bs := by
  obtain ⟨bs, hl, _, ha⟩ := alloc_linear_tight arc 10 (by omega)
  refine ⟨bs, ?_⟩
  rw [hl, ha]
  have : c * (13 + 4 * 10) ≤ 3 * (13 + 4 * 10) := Nat.mul_le_mul_right _ (by omega)
  omega

/-- the harness' witness family `wkb-over` is the Lean family `over` -/
theorem wkbOver_eq : ∀ k, Readers.wkbOver k = over k
  | 0 => rfl
  | k + 1 => by
    simp only [Readers.wkbOver, over, wkbOver_eq k]
    rfl

/-- `k` nested collections, each claiming as many elements as `minMemSize` lets through (`remaining / 9`), `9 k` bytes, are
charged at most `36 k` bytes (a reader that sized its child vectors from the claimed count would request ≥ `4 k (k − 1)`) -/
theorem alloc_over_linear (arc : ArcOracle) (k : Nat) :
    (Readers.wkbOver k).length = 9 * k ∧ allocOf arc (Readers.wkbOver k) ≤ 36 * k := by
  have hl : (Readers.wkbOver k).length = 9 * k := by rw [wkbOver_eq, over_length]
  have := alloc_linear arc (Readers.wkbOver k)
  exact ⟨hl, by omega⟩

theorem gHas_nest : ∀ d, gHasZ (nestG d) = false ∧ gHasM (nestG d) = false
  | 0 => by decide
  | d + 1 => by
    have ih := gHas_nest d
    simp only [gHasZ, gHasM] at ih ⊢
    simp [nestG, anySeq, anySeqs, ih.1, ih.2]

/-- the harness' witness family `wkb-nest` is the Lean witness of `depth_unbounded` -/
theorem wkbNest_eq : ∀ d, Readers.wkbNest d = nestBytes d
  | 0 => by decide
  | d + 1 => by
    have ih := wkbNest_eq d
    have hz := gHas_nest d
    simp only [nestBytes] at ih ⊢
    simp only [nestG, collection_bytes, hz.1, hz.2, Readers.wkbNest, ih]
    rfl

/-! non-vacuity: something is accepted; the accounting is not constantly 0 (up-front sequence of a truncated XYZM line
string claiming 2 points: 64 bytes charged on 41; the family `wkbOver`: two slots, whatever `k ≥ 3`) -/
example : ∃ bs g, read (fun _ => false) bs = .ok g := by
  obtain ⟨bs, _, h, _⟩ := depth_unbounded (fun _ => false) 2
  exact ⟨bs, h⟩
example : allocOf (fun _ => false) ([1, 2, 0, 0, 0xc0, 2, 0, 0, 0] ++ List.replicate 32 0) = 64 := by decide
example : allocOf (fun _ => false) (Readers.wkbOver 3) = 32 ∧ allocOf (fun _ => false) (Readers.wkbOver 12) = 32 := by decide

end GeosModel.C11.WKB

/-! ## Part 2 — the WKT reader model -/
namespace GeosModel.C11.WKT
open GeosModel GeosModel.WKT GeosModel.Readers GeosModel.WKT.Safe GeosModel.WKT.Depth

/-- **totality**: the fuel `readToks` supplies (3 · tokens + 4) is never exhausted -/
theorem wkt_read_never_out_of_fuel (ts : List Tok) : readToks ts ≠ .error .fuel := by
  intro h
  have := readToks_good ts
  rw [h] at this
  exact this rfl

/-- **reject or well-formed**: whatever the WKT reader returns satisfies the invariants of all thirteen constructors -/
theorem wkt_reject_or_wf (ts : List Tok) (g : G) (h : readToks ts = .ok g) : WFT g = true := by
  have := readToks_good ts
  rw [h] at this
  exact this

/-- the same for character strings -/
theorem wkt_string_reject_or_wf (s : String) (g : G) (h : GeosModel.WKT.read s = .ok g) : WFT g = true :=
  wkt_reject_or_wf _ g h

theorem wkt_string_never_out_of_fuel (s : String) : GeosModel.WKT.read s ≠ .error .fuel :=
  wkt_read_never_out_of_fuel _

/-- **depth ≤ 3 · tokens + 1**: with that many nested model activations allowed `readGeometryTaggedText` never
needs another one (the model's sibling loops are recursive, so this over-approximates the C++ stack) -/
theorem wkt_depth_le (f : Nat) (orig : Flags) (ek : EmptyKind) (ts : List Tok) (h : 3 * ts.length + 1 ≤ f) :
    readTagged f orig ek ts ≠ .error .fuel := by
  intro hr
  have := (cluster f).tagged orig ek ts h
  rw [hr] at this
  exact this rfl

/-- a successful (nested) read consumes at least the type keyword -/
theorem wkt_consumes (f : Nat) (orig : Flags) (ek : EmptyKind) (ts ts' : List Tok) (g : G)
    (hf : 3 * ts.length + 1 ≤ f) (h : readTagged f orig ek ts = .ok (g, ts')) : ts'.length < ts.length := by
  have := (cluster f).tagged orig ek ts hf
  rw [h] at this
  exact this.1

/-- at most one token per character, so all bounds above are bounds in the input length -/
theorem wkt_tokens_le_chars (cs : List Char) : (tokenize cs).length ≤ cs.length := tokenize_length_le cs

/-- the tokenizer's own fuel never binds (it is total on every character string) -/
theorem tokenizer_fuel_irrelevant (f : Nat) (cs : List Char) (h : cs.length < f) : tokenizeF f cs = tokenize cs :=
  tokenizeF_fuel f (cs.length + 1) cs h (Nat.lt_succ_self _)

/-- "the nesting of the returned trees is bounded by the constant `D`" -/
def DepthBounded (D : Nat) : Prop := ∀ ts g, readToks ts = .ok g → gcDepth g ≤ D

/-- **no constant bounds the recursion depth**: `d` nested `GEOMETRYCOLLECTION (` … `)` around `POINT (1 2)` —
3 d + 5 tokens, 20 d + 10 characters as the harness writes them — are accepted and come back as a tree nested `d` deep
(one `readGeometryTaggedText → readGeometryCollectionText` activation pair of the C++ per level) -/
theorem wkt_depth_unbounded (d : Nat) :
    ∃ ts : List Tok, ts.length = 3 * d + 5 ∧ ∃ g, readToks ts = .ok g ∧ gcDepth g = d :=
  ⟨nestToks d, nestToks_length d, nestG d, readToks_nest d, gcDepth_nest d⟩

theorem wkt_not_depthBounded (D : Nat) : ¬ DepthBounded D := by
  intro h
  have := h (nestToks (D + 1)) (nestG (D + 1)) (readToks_nest (D + 1))
  rw [gcDepth_nest] at this
  omega

/-! non-vacuity: the witness is accepted; an ill-formed tree exists (so `WFT` is not trivially true) -/
example : ∃ ts g, readToks ts = .ok g := ⟨nestToks 1, nestG 1, readToks_nest 1⟩
example : WFT (.lineString ⟨false, false, [⟨0, 0, nanBits, nanBits⟩]⟩) = false := by decide
example : WFT (.compoundCurve [.lineString ⟨false, false, []⟩, .lineString ⟨false, false, [⟨0, 0, nanBits, nanBits⟩, ⟨1, 1, nanBits, nanBits⟩]⟩]) = false := by decide

end GeosModel.C11.WKT

/-! ## Part 3 — the stream object of the regenerated guards (`Model/Readers/Cxx.lean`, tied to the source by `Props/C11Gen.lean`) -/
namespace GeosModel.C11.WKB
open GeosModel GeosModel.WKB

/-- **bounded primitive reads**: a successful `readByte` / `readUnsigned` / `readInt` / `readDouble` on the stream object consumed
exactly 1 / 4 / 4 / 8 bytes that were there, and left the byte order alone -/
theorem dis_reads_consume (d d' : Dis) :
    (∀ v, d.readByte = .ok (v, d') → d'.buf.length + 1 = d.buf.length ∧ d'.order = d.order) ∧
    (∀ v, d.readUnsigned = .ok (v, d') → d'.buf.length + 4 = d.buf.length ∧ d'.order = d.order) ∧
    (∀ v, d.readInt = .ok (v, d') → d'.buf.length + 4 = d.buf.length ∧ d'.order = d.order) ∧
    (∀ v, d.readDouble = .ok (v, d') → d'.buf.length + 8 = d.buf.length ∧ d'.order = d.order) := by
  -- each `Dis` read is the byte-level read with the order carried along: the failing branch contradicts `h` (`cases h`), the other
  -- identifies `d'`, and the length lemma of the byte-level read gives the count
  refine ⟨fun v h => ?_, fun v h => ?_, fun v h => ?_, fun v h => ?_⟩ <;>
    simp only [Dis.readByte, Dis.readUnsigned, Dis.readInt, Dis.readDouble] at h <;> split at h <;> cases h
  · exact ⟨readByte_len ‹_›, rfl⟩
  · exact ⟨readU32_len ‹_›, rfl⟩
  · exact ⟨readU32_len ‹_›, rfl⟩
  · exact ⟨readU64_len ‹_›, rfl⟩

/-- **every header costs at least five bytes** (nine with an SRID): the fact the depth bound `depth_le` (`length / 5 + 1`) rests on,
for the header function the regenerated `readGeometry` prefix is proved equal to (`C11Gen.gen_header_eq`) -/
theorem header_consumes (d d' : Dis) (r : Nat × Int) (z m : Bool) (h : readHeaderRaw d = .ok (r, z, m, d')) :
    d'.buf.length + 5 ≤ d.buf.length := by
  unfold readHeaderRaw at h
  split at h
  · cases h
  · next b d1 h1 =>
    have c1 := (dis_reads_consume d d1).1 b h1
    have l2 : (if b = 1 then d1.setOrder 1 else if b = 0 then d1.setOrder 0 else d1).buf.length = d1.buf.length := by
      split
      · rfl
      · split <;> rfl
    dsimp only at h
    split at h
    · cases h
    · next t d3 h2 =>
      have c2 := (dis_reads_consume _ d3).2.1 t h2
      split at h
      · split at h
        · cases h
        · next sv d4 h3 => cases h; have c3 := (dis_reads_consume d3 d').2.2.1 sv h3; omega
      · cases h; omega

/-- **the child loop pushes exactly the claimed number of children or fails**, and never hands back more bytes than it got
(when the child reader does not) -/
theorem readManyD_length {α : Type} (f : Dis → Except String (α × Dis)) (n : Nat) (d d' : Dis) (xs : List α)
    (hf : ∀ d a d', f d = .ok (a, d') → d'.buf.length ≤ d.buf.length) (h : readManyD f n d = .ok (xs, d')) :
    xs.length = n ∧ d'.buf.length ≤ d.buf.length := by
  induction n generalizing d xs with
  | zero => cases h; exact ⟨rfl, Nat.le_refl _⟩
  | succ n ih =>
    simp only [readManyD] at h
    split at h
    · cases h
    · next a d1 h1 =>
      split at h
      · cases h
      · next as d2 h2 =>
        cases h
        have ih' := ih d1 as h2
        have := hf d a d1 h1
        exact ⟨by simp [ih'.1], by omega⟩

/-! non-vacuity: a five-byte header (little endian, POINT) is accepted and leaves nothing; two children are read from ten bytes -/
example : readHeaderRaw ⟨1, [1, 1, 0, 0, 0]⟩ = .ok ((1, 0), false, false, ⟨1, []⟩) := by rfl
example : readManyD (fun d => d.readByte) 2 ⟨1, [7, 8, 9]⟩ = .ok ([7, 8], ⟨1, [9]⟩) := by rfl

end GeosModel.C11.WKB
