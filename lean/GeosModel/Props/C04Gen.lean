import GeosModel.Model.Precision.HotPixel
import GeosModel.Generated.HotPixel
/-!
# C04 — the regenerated `HotPixel` tests are the model `hotpixel_iff` is about

`Generated/HotPixel.lean` is rewritten from `src/noding/snapround/HotPixel.cpp` / `HotPixel.h` by `translate/cxx2lean.py`
(spec `hotpixel`) on every run.  The C++ computes with `double`; the regenerated definitions are generic over the
carrier, and here they are instantiated with exact integers (`TOLERANCE` = `tol`, 1 in units of one half, which is how
the driver feeds the model; that the constant is 0.5 is checked by the translator) and proved equal to the hand-written
`Precision.intersectsScaled` / `Precision.intersectsPt`, the objects of `hotpixel_iff` and `hotpixel_point_iff` in
`Props/C04.lean` — for every pixel, every segment, every scale factor, with the exact orientation sign in place of
`CGAlgorithmsDD::orientationIndex` (that function is C07's subject).
-/
namespace GeosModel.C04Gen
open GeosModel GeosModel.Precision GeosModel.Generated

/-- `HotPixel::intersectsScaled`, regenerated, over exact integers = the model: once the endpoints are swapped and
`std::min` / `std::max` are read as `min` / `max`, the two are the same cascade -/
theorem gen_intersectsScaled_eq (hx hy tol p0x p0y p1x p1y : Int) :
    HotPixel.intersectsScaled (R := Int) orientIdx hx hy tol p0x p0y p1x p1y
      = Precision.intersectsScaled (Px.ofCentre hx hy tol) p0x p0y p1x p1y := by
  unfold HotPixel.intersectsScaled Precision.intersectsScaled Precision.intersectsOriented Px.ofCentre
  by_cases h : p1x < p0x <;> simp [Cxx.gt, Cxx.ge, Cxx.min_int, Cxx.max_int, h]

/-- `HotPixel::intersects(p)`: scales the point by `scaleFactor`, then the half-open square test of the model -/
theorem gen_intersectsPt_eq (s hx hy tol x y : Int) :
    HotPixel.intersectsPt (R := Int) s hx hy tol ⟨x, y⟩
      = Precision.intersectsPt (Px.ofCentre hx hy tol) (x * s) (y * s) := by
  -- `simp` leaves the conjunction of the four negated tests (early `return false`s) against the model's cascade of the
  -- same four tests; `grind` decides that by cases on the tests
  simp [HotPixel.intersectsPt, HotPixel.scale, Precision.intersectsPt, Px.ofCentre, Cxx.ge] <;> grind

/-- `HotPixel::intersects(p0, p1)`: both branches (`scaleFactor == 1.0` or not) are the model applied to the scaled
endpoints -/
theorem gen_intersectsSeg_eq (s hx hy tol x0 y0 x1 y1 : Int) :
    HotPixel.intersectsSeg (R := Int) orientIdx s hx hy tol ⟨x0, y0⟩ ⟨x1, y1⟩
      = Precision.intersectsScaled (Px.ofCentre hx hy tol) (x0 * s) (y0 * s) (x1 * s) (y1 * s) := by
  unfold HotPixel.intersectsSeg
  by_cases h : s = 1
  · subst h; simp [gen_intersectsScaled_eq]
  · simp [h, HotPixel.scale, gen_intersectsScaled_eq]

/-- the unit-½ pixel of the driver: `Px.ofCentre2 hx hy` is `Px.ofCentre (2hx) (2hy) 1` by definition -/
example (hx hy : Int) : Px.ofCentre2 hx hy = Px.ofCentre (2 * hx) (2 * hy) 1 := rfl

end GeosModel.C04Gen
