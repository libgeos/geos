import GeosModel.Model.Relate.PrepPoly
import GeosModel.Proofs.Relate.IMLemmas
/-!
# C01 — the prepared-polygon fast paths (contains / covers / containsProperly / intersects)

Theorems about the decision core of Model/Relate/PrepPoly.lean (tied to the compiled classes by stream `prep-core`),
for ALL fact lists:

* the last step of the fast paths looks at EVERY ring / element of the target: any representative point that is not in
  the exterior of the test area decides, whichever position it has (`*_of_ring_in_test_area`), the answers are invariant
  under reordering the rings / elements of the target and the components of the test geometry (`*_perm`);
* `getOutermostTestComponentLocation` is the maximum in the order Interior < Boundary < Exterior (`outermost_*_iff`);
* the four fast paths respect the implication chain of their DE-9IM definitions
  containsProperly ⇒ contains ⇒ covers ⇒ intersects (`containsProperly_imp_contains`, `contains_imp_covers`,
  `covers_imp_intersects`; the same chain for matrices: `im_*`).
-/
namespace GeosModel.PrepPoly
open GeosModel

/-! ### `isAnyTargetComponentInAreaTest` -/

theorem anyTargetInArea_eq_any (l : List Loc3) : anyTargetInArea l = l.any (· != .E) := by
  induction l with
  | nil => rfl
  | cons x r ih =>
    cases x <;> simp [anyTargetInArea, ih]

/-- true exactly when SOME representative point is not in the exterior of the test area -/
theorem anyTargetInArea_iff (l : List Loc3) : anyTargetInArea l = true ↔ ∃ x ∈ l, x ≠ .E := by
  rw [anyTargetInArea_eq_any, List.any_eq_true]
  constructor
  · rintro ⟨x, hx, h⟩; exact ⟨x, hx, by simpa using h⟩
  · rintro ⟨x, hx, h⟩; exact ⟨x, hx, by simpa using h⟩

theorem anyTargetInArea_append (a b : List Loc3) :
    anyTargetInArea (a ++ b) = (anyTargetInArea a || anyTargetInArea b) := by
  simp [anyTargetInArea_eq_any]

/-- the order of the rings of a polygon / of the elements of a MultiPolygon does not matter -/
theorem anyTargetInArea_perm {l₁ l₂ : List Loc3} (h : l₁.Perm l₂) : anyTargetInArea l₁ = anyTargetInArea l₂ := by
  rw [anyTargetInArea_eq_any, anyTargetInArea_eq_any]; exact h.any_eq

/-- looking at the first representative point only is NOT the same function: a later ring decides -/
example : anyTargetInArea [.E, .I] = true ∧ anyTargetInArea [.E] = false := by decide

/-! ### `getOutermostTestComponentLocation` -/

/-- the filter keeps the maximum, in the order Interior < Boundary < Exterior, of what it has seen -/
theorem foldl_outerStep (l : List Loc3) : ∀ o, l.foldl outerStep o =
    if o = some .E ∨ .E ∈ l then some .E else if o = some .B ∨ .B ∈ l then some .B else if l = [] then o else some .I := by
  induction l with
  | nil => intro o; rcases o with _ | _ | _ | _ <;> rfl
  | cons x r ih =>
    intro o
    rw [List.foldl_cons, ih]
    rcases o with _ | _ | _ | _ <;> cases x <;> simp [outerStep]

theorem outermost_eq (l : List Loc3) : outermost l =
    if .E ∈ l then some .E else if .B ∈ l then some .B else if l = [] then none else some .I := by
  simp [outermost, foldl_outerStep]

theorem outermost_eq_E_iff (l : List Loc3) : outermost l = some .E ↔ .E ∈ l := by
  by_cases hE : Loc3.E ∈ l
  · simp [outermost_eq, hE]
  · by_cases hB : Loc3.B ∈ l
    · simp [outermost_eq, hE, hB]
    · by_cases hn : l = [] <;> simp [outermost_eq, hE, hB, hn]

theorem outermost_eq_none_iff (l : List Loc3) : outermost l = none ↔ l = [] := by
  by_cases hE : Loc3.E ∈ l
  · simp [outermost_eq, hE, List.ne_nil_of_mem hE]
  · by_cases hB : Loc3.B ∈ l
    · simp [outermost_eq, hE, hB, List.ne_nil_of_mem hB]
    · by_cases hn : l = [] <;> simp [outermost_eq, hE, hB, hn]

theorem outermost_eq_I_iff (l : List Loc3) : outermost l = some .I ↔ (l ≠ [] ∧ ∀ x ∈ l, x = .I) := by
  rw [outermost_eq]
  by_cases hE : Loc3.E ∈ l
  · rw [if_pos hE]; exact ⟨fun h => (by cases h), fun h => (by cases h.2 _ hE)⟩
  · by_cases hB : Loc3.B ∈ l
    · rw [if_neg hE, if_pos hB]; exact ⟨fun h => (by cases h), fun h => (by cases h.2 _ hB)⟩
    · rw [if_neg hE, if_neg hB]
      by_cases hn : l = []
      · rw [if_pos hn]; exact ⟨fun h => (by cases h), fun h => absurd hn h.1⟩
      · -- neither `E` nor `B` occurs: every component is `I`
        rw [if_neg hn]
        exact ⟨fun _ => ⟨hn, fun x hx => (by cases x <;> first | rfl | contradiction)⟩, fun _ => rfl⟩

/-- Boundary: some component on the boundary, none in the exterior -/
theorem outermost_eq_B_iff (l : List Loc3) : outermost l = some .B ↔ (.B ∈ l ∧ .E ∉ l) := by
  rw [outermost_eq]; split <;> simp [*]

/-- the outermost location does not depend on the order in which the components are visited -/
theorem outermost_perm {l₁ l₂ : List Loc3} (h : l₁.Perm l₂) : outermost l₁ = outermost l₂ := by
  have hnil : l₁ = [] ↔ l₂ = [] := ⟨fun e => List.nil_perm.mp (e ▸ h), fun e => List.perm_nil.mp (e ▸ h)⟩
  simp only [outermost_eq, h.mem_iff, hnil]

/-! ### a ring of the target inside the test area decides, whichever ring it is -/

/-- contains / covers: no segment intersection, areal test geometry, SOME ring of the target not in the exterior of the
test area (a hole swallowed by the test polygon, a later element of a MultiPolygon …) ⇒ false -/
theorem eval_false_of_ring_in_test_area (ri : Bool) (sh : Shape) (f : Facts) (full : Bool)
    (hp : sh.puntalIE = false) (hd : sh.dim2 = true) (hs : f.segInt = false)
    (x : Loc3) (hx : x ∈ f.repLocs) (hne : x ≠ .E) : eval ri sh f full = false := by
  have ha : anyTargetInArea f.repLocs = true := (anyTargetInArea_iff _).mpr ⟨x, hx, hne⟩
  unfold eval
  simp only [hp, hd, hs, ha, Bool.false_eq_true, if_false, if_true, Bool.false_and]
  split
  · rfl
  · split <;> rfl

theorem containsProperly_false_of_ring_in_test_area (sh : Shape) (f : Facts) (hd : sh.dim2 = true)
    (x : Loc3) (hx : x ∈ f.repLocs) (hne : x ≠ .E) (hs : f.segInt = false) : containsProperly sh f = false := by
  have ha : anyTargetInArea f.repLocs = true := (anyTargetInArea_iff _).mpr ⟨x, hx, hne⟩
  unfold containsProperly
  simp only [hd, hs, ha, Bool.false_eq_true, if_false, if_true]
  split <;> rfl

/-- intersects: an areal, non-puntal test geometry and SOME ring of the target not in the exterior of the test area ⇒ true -/
theorem intersects_true_of_ring_in_test_area (sh : Shape) (f : Facts) (hp : sh.puntal = false) (hd : sh.dim2 = true)
    (x : Loc3) (hx : x ∈ f.repLocs) (hne : x ≠ .E) : intersects sh f = true := by
  have ha : anyTargetInArea f.repLocs = true := (anyTargetInArea_iff _).mpr ⟨x, hx, hne⟩
  unfold intersects
  simp only [hp, hd, ha, Bool.false_eq_true, if_false, if_true]
  split
  · rfl
  · split <;> rfl

/-- conversely, a `true` of the contains / covers fast path without segment intersections means that EVERY ring of the
target has its representative point in the exterior of the (areal) test geometry -/
theorem eval_true_fast_path (ri : Bool) (sh : Shape) (f : Facts) (full : Bool)
    (h : eval ri sh f full = true) (hp : sh.puntalIE = false) (hs : f.segInt = false) (hd : sh.dim2 = true) :
    ∀ x ∈ f.repLocs, x = .E := by
  intro x hx
  apply Classical.byContradiction
  intro hne
  rw [eval_false_of_ring_in_test_area ri sh f full hp hd hs x hx hne] at h
  cases h

/-- the four answers are invariant under reordering the rings / elements of the target -/
theorem answers_perm_rep (ri : Bool) (sh : Shape) (f : Facts) (full : Bool) (l : List Loc3) (h : f.repLocs.Perm l) :
    eval ri sh { f with repLocs := l } full = eval ri sh f full ∧
    containsProperly sh { f with repLocs := l } = containsProperly sh f ∧
    intersects sh { f with repLocs := l } = intersects sh f := by
  have e := anyTargetInArea_perm h
  refine ⟨?_, ?_, ?_⟩
  · unfold eval evalPoint; simp only [e]
  · unfold containsProperly; simp only [e]
  · unfold intersects; simp only [e]

/-! ### the implication chain containsProperly ⇒ contains ⇒ covers ⇒ intersects -/

theorem allInInterior_iff (l : List Loc3) : allInInterior l = true ↔ ∀ x ∈ l, x = .I := by
  unfold allInInterior
  rw [Bool.not_eq_true', List.any_eq_false]
  constructor
  · intro h x hx; have := h x hx; simpa using this
  · intro h x hx; simp [h x hx]

theorem anyInTarget_iff (l : List Loc3) : anyInTarget l = true ↔ ∃ x ∈ l, x ≠ .E :=
  -- `anyInTarget l` is `l.any (· != .E)` by definition
  show l.any (· != .E) = true ↔ _ by rw [← anyTargetInArea_eq_any]; exact anyTargetInArea_iff l

/-- containsProperly ⇒ contains, for a non-empty test geometry; `hc`: the detector's flags are coherent -/
theorem containsProperly_imp_contains (sh : Shape) (f : Facts) (full : Bool)
    (hc : f.segInt = (f.proper || f.nonProper)) (hne : f.testLocs ≠ [])
    (h : containsProperly sh f = true) : eval true sh f full = true := by
  -- route: all test components are in the interior, so the outermost location is `I`; no segment intersection, so by `hc`
  -- neither a proper nor a non-proper one; `eval` then passes its early exits and ends in the same `dim2` / target-in-area
  -- test as `containsProperly`
  unfold containsProperly at h
  by_cases hall : allInInterior f.testLocs = true
  · have ho : outermost f.testLocs = some .I := (outermost_eq_I_iff _).mpr ⟨hne, (allInInterior_iff _).mp hall⟩
    by_cases hs : f.segInt = true
    · simp [hall, hs] at h
    · have hs' : f.segInt = false := by simpa using hs
      have hpn : f.proper = false ∧ f.nonProper = false := by
        rw [hs'] at hc
        have := hc.symm
        simpa [Bool.or_eq_false_iff] using this
      simp only [hall, hs', Bool.not_true, Bool.false_eq_true, if_false] at h
      unfold eval evalPoint
      simp only [ho, hs', hpn.1, hpn.2]
      by_cases hpi : sh.puntalIE = true
      · simp [hpi]
      · have hpi' : sh.puntalIE = false := by simpa using hpi
        simp only [hpi', Bool.false_eq_true, if_false, Bool.and_false, Bool.false_and]
        have : (some Loc3.I == some Loc3.E) = false := by decide
        simp only [this, Bool.false_eq_true, if_false]
        exact h
  · have : allInInterior f.testLocs = false := by simpa using hall
    simp [this] at h

/-- contains ⇒ covers (the full topological answers, where asked for, being in the same relation) -/
theorem contains_imp_covers (sh : Shape) (f : Facts) (fullContains fullCovers : Bool)
    (hf : fullContains = true → fullCovers = true)
    (h : eval true sh f fullContains = true) : eval false sh f fullCovers = true := by
  -- `eval` reads `requireInterior` only in `evalPoint` and is monotone in the full answer
  have mono : ∀ c1 c2 c3 c4 x : Bool,
      (if c1 then false else if c2 then false else if c3 then false else if c4 then fullContains else x) = true →
      (if c1 then false else if c2 then false else if c3 then false else if c4 then fullCovers else x) = true := by
    intro c1 c2 c3 c4 x
    -- with a guard true both sides are `false`; with `c4` the two full answers, related by `hf`; otherwise both are `x`
    cases c1 <;> cases c2 <;> cases c3 <;> cases c4 <;> first | exact id | exact hf
  unfold eval at h ⊢
  by_cases hpi : sh.puntalIE = true
  · simp only [hpi, if_true] at h ⊢
    unfold evalPoint at h ⊢
    by_cases ho : (outermost f.testLocs == some .E) = true
    · simp [ho] at h
    · simp [ho]
  · simp only [hpi, Bool.false_eq_true, if_false] at h ⊢
    exact mono _ _ _ _ _ h

/-- covers ⇒ intersects, for a non-empty test geometry -/
theorem covers_imp_intersects (sh : Shape) (f : Facts) (full : Bool) (hne : f.testLocs ≠ [])
    (h : eval false sh f full = true) : intersects sh f = true := by
  have ho : outermost f.testLocs ≠ some .E := by
    intro ho
    unfold eval evalPoint at h
    simp [ho] at h
  have hE : ¬ (.E ∈ f.testLocs) := fun hm => ho ((outermost_eq_E_iff _).mpr hm)
  have : anyInTarget f.testLocs = true := by
    rw [anyInTarget_iff]
    cases hl : f.testLocs with
    | nil => exact absurd hl hne
    | cons x r =>
      refine ⟨x, by simp, ?_⟩
      intro hx; subst hx; apply hE; rw [hl]; simp
  unfold intersects
  simp [this]

/-! ### non-vacuity: the hole-swallowing and the later-element situations -/

/-- a polygon with a hole (rings: shell, hole) and a test polygon inside the shell that swallows the hole: the shell's
point is outside the test polygon, the hole's inside — contains / covers / containsProperly are false -/
example : eval true ⟨false, false, true, true, false, 5⟩ ⟨[.I, .I], false, false, false, [.E, .I]⟩ true = false ∧
          containsProperly ⟨false, false, true, true, false, 5⟩ ⟨[.I, .I], false, false, false, [.E, .I]⟩ = false := by decide
/-- a MultiPolygon whose first element is outside the test polygon while a later one lies inside it, the test polygon's
own points outside the target: intersects is true -/
example : intersects ⟨false, false, true, true, false, 5⟩ ⟨[.E, .E], false, false, false, [.E, .I]⟩ = true := by decide
example : eval true ⟨false, false, true, true, false, 5⟩ ⟨[.I, .I], false, false, false, [.E, .E]⟩ false = true := by decide
example : outermost [.I, .B, .I] = some .B ∧ outermost [.B, .E, .I] = some .E ∧ outermost [] = none := by decide

section
open GeosModel.Relate

/-! ### the implication chain of the DE-9IM definitions behind containsProperly ⇒ contains ⇒ covers ⇒ intersects -/

/-- the same chain for the DE-9IM definitions the four answers stand for (containsProperly = `T**FF*FF*`) -/
theorem im_containsProperly_imp_contains (m : IM) (h : m.matchesPat "T**FF*FF*".toList = true) : m.isContains = true := by
  simp only [String.reduceToList, mp, ms_star, ms_F, Bool.and_true, Bool.and_eq_true] at h
  simp only [IM.isContains, Bool.and_eq_true]
  exact ⟨⟨h.1.1.1.1, h.1.2⟩, h.2⟩

theorem im_contains_imp_covers (m : IM) (h : m.isContains = true) : m.isCovers = true := by
  simp only [IM.isContains, IM.isCovers, IM.hasPointInCommon, Bool.and_eq_true] at h ⊢
  exact ⟨⟨by simp [h.1.1], h.1.2⟩, h.2⟩

theorem im_covers_imp_intersects (m : IM) (hv : m.valid) (h : m.isCovers = true) : m.isIntersects = true := by
  obtain ⟨⟨a1, _⟩, ⟨b1, _⟩, _, ⟨c1, _⟩, ⟨d1, _⟩, _⟩ := hv
  simp only [IM.isCovers, IM.hasPointInCommon, T_iff _ a1, T_iff _ b1, T_iff _ c1, T_iff _ d1,
    Bool.and_eq_true, Bool.or_eq_true, decide_eq_true_eq] at h
  simp only [IM.isIntersects, IM.isDisjoint, beqF _ a1, beqF _ b1, beqF _ c1, beqF _ d1,
    Bool.not_eq_true', Bool.and_eq_false_iff, Bool.not_eq_false', decide_eq_true_eq]
  omega

end

end GeosModel.PrepPoly
