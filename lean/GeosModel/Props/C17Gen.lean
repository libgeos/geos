import GeosModel.Model.Fix.Cxx
import GeosModel.Generated.GeometryFixer
import GeosModel.Proofs.Fix.Loops
import GeosModel.Proofs.Fix.Dispatch
/-!
# C17 — the regenerated decision functions of `GeometryFixer` are the dispatch model

`Generated/GeometryFixer.lean` is rewritten from `src/geom/util/GeometryFixer.cpp` by `translate/cxx2lean.py` (spec
`geometry_fixer`; parser extensions `translate/cxx_ext.py`) on every run, statement by statement (`MakeValid::build`:
`Props/C17GenMV.lean`).  Input pointers are the model's `Shape`, results are
`Option Res` (`nullptr` = `none`); `Model/Fix/Cxx.lean` says which field each C++ accessor reads.  The theorems prove the
regenerated functions equal to the hand-written model of `Model/Fix/Dispatch.lean` — the object of `fix_dispatch_total`,
`fix_dim_le`, `fix_no_collapse`, `collapse_kept_iff`, `fix_empty_atomic` (`Props/C17.lean`) — for **every** shape and both
keep-collapsed settings.  Geometric sub-operations are oracles (parameters of the regenerated definitions); each theorem
states what the model assumes of them as an explicit hypothesis:

* `fixRing shell` (buffer by zero) returns a geometry of the kind the shape records (`shellArea`);
* `polygonWithHoles` (everything `fixPolygonElement` does after the no-holes test) returns the kind `withHoles`;
* `ring->isValid()` of the rebuilt ring is the shape's `ringValid`;
* `unionOf` (the overlay union of the fixed elements of a MultiPolygon) returns a geometry of the type the shape records (`unionTy`);
* `getResultOf` (the recursive `getResult` of the element fixers in `fixCollection`) computes the model's `fix` of the element.
-/
namespace GeosModel.C17Gen
open GeosModel GeosModel.Fix GeosModel.Generated

theorem gen_fixPointElement_eq (e v : Bool) :
    GeometryFixer.fixPointElement (.point e v) = Fix.fixPointElement e v := by
  cases e <;> cases v <;> rfl

theorem gen_fixPoint_eq (e v : Bool) :
    GeometryFixer.fixPoint () (.point e v) = some (fix false (.point e v)) := by
  cases e <;> cases v <;> rfl

theorem gen_fixLineStringElement_eq (keep e : Bool) (c : Nat) :
    GeometryFixer.fixLineStringElement keep () (.line e c) = Fix.fixLineStringElement keep e c := by
  simp only [GeometryFixer.fixLineStringElement, Fix.fixLineStringElement, Shape.emptyFlag, Shape.clean, createPointAt, createLineStringOf, Id.run, pure, id]
  by_cases h : c ≤ 1
  · simp only [h, decide_true, if_true]
  · simp only [h, decide_false, if_false, Bool.false_eq_true, show (c == 0) = false by simp only [beq_eq_false_iff_ne]; omega]

theorem gen_fixLineString_eq (keep e : Bool) (c : Nat) :
    GeometryFixer.fixLineString keep () (.line e c) = some (fix keep (.line e c)) := by
  simp only [GeometryFixer.fixLineString, gen_fixLineStringElement_eq, fix, Fix.fixLineString]
  cases Fix.fixLineStringElement keep e c <;> rfl

/-- `fixLinearRingElement`: `isValid` is the validity oracle of the rebuilt ring; the model's `ringValid` is its value on
the ring the function builds -/
theorem gen_fixLinearRingElement_eq (isValidF : Option Res → Bool) (keep e v : Bool) (c : Nat)
    (hv : isValidF (some (.atom .linearRing false)) = v) :
    GeometryFixer.fixLinearRingElement isValidF keep () (.ring e c v) = Fix.fixLinearRingElement keep e c v := by
  simp only [GeometryFixer.fixLinearRingElement, Fix.fixLinearRingElement, Shape.emptyFlag, Shape.clean, createPointAt, createLineStringOf, createLinearRingOf, Id.run, pure, id]
  rcases Nat.lt_or_ge 1 c with h | h
  · -- whatever the code builds from two or more points is not empty
    have h0 : (c == 0) = false := by simp only [beq_eq_false_iff_ne]; omega
    have h1 : (c == 1) = false := by simp only [beq_eq_false_iff_ne]; omega
    simp only [h0, h1, hv, resCoords, Res.isEmpty]
    by_cases h3 : c ≤ 3 <;> cases keep <;> cases v <;> simp [h, h3]
  · have h3 : c ≤ 3 := by omega
    cases keep <;> simp [Nat.not_lt.2 h, h3]

theorem gen_fixLinearRing_eq (isValidF : Option Res → Bool) (keep e v : Bool) (c : Nat)
    (hv : isValidF (some (.atom .linearRing false)) = v) :
    GeometryFixer.fixLinearRing isValidF keep () (.ring e c v) = some (fix keep (.ring e c v)) := by
  simp only [GeometryFixer.fixLinearRing, gen_fixLinearRingElement_eq isValidF keep e v c hv, fix]
  cases Fix.fixLinearRingElement keep e c v <;> rfl

/-- `fixPolygonElement`, up to `fixHoles`: with the buffer-by-zero oracle returning a geometry of kind `a` and the
with-holes oracle one of kind `w`, the regenerated control flow is the model's -/
theorem gen_fixPolygonElement_eq (fixRingF : Shape → Option Res) (withHolesF : Shape → Option Res → Option Res)
    (keep se : Bool) (a w : Area) (c n : Nat)
    (hr : fixRingF (.polygon se a c n w) = some a.res)
    (hw : withHolesF (.polygon se a c n w) (some a.res) = some w.res) :
    GeometryFixer.fixPolygonElement fixRingF withHolesF keep () (.polygon se a c n w)
      = Fix.fixPolygonElement keep se a c n w := by
  -- the shell result is empty exactly for `Area.empty`; the rest is the same control flow
  simp only [GeometryFixer.fixPolygonElement, Fix.fixPolygonElement, hr, hw, resIsEmpty, Area.res_isEmpty, Shape.nHoles,
    createLineOfShell, Shape.shellAsLine, gen_fixLineStringElement_eq, Id.run, pure, id]

theorem gen_fixPolygon_eq (fixRingF : Shape → Option Res) (withHolesF : Shape → Option Res → Option Res)
    (keep se : Bool) (a w : Area) (c n : Nat)
    (hr : fixRingF (.polygon se a c n w) = some a.res)
    (hw : withHolesF (.polygon se a c n w) (some a.res) = some w.res) :
    GeometryFixer.fixPolygon fixRingF withHolesF keep () (.polygon se a c n w) = some (fix keep (.polygon se a c n w)) := by
  simp only [GeometryFixer.fixPolygon, gen_fixPolygonElement_eq fixRingF withHolesF keep se a w c n hr hw, fix]
  cases Fix.fixPolygonElement keep se a c n w <;> rfl

/-- the hypotheses on the oracles, for a shape -/
def OraclesAgree (isValidF : Option Res → Bool) (fixRingF : Shape → Option Res) (withHolesF : Shape → Option Res → Option Res) :
    Shape → Prop
  | .ring _ _ v => isValidF (some (.atom .linearRing false)) = v
  | .polygon se a c n w => fixRingF (.polygon se a c n w) = some a.res ∧ withHolesF (.polygon se a c n w) (some a.res) = some w.res
  | _ => True

/-- **`GeometryFixer::getResult`, atomic inputs**: the regenerated dispatch + per-type functions compute the model's `fix` -/
theorem gen_getResult_atomic (isValidF : Option Res → Bool) (fixRingF : Shape → Option Res)
    (withHolesF : Shape → Option Res → Option Res) (mp ml my gc : Shape → Option Res) (keep : Bool) (s : Shape)
    (hs : s.ty = .point ∨ s.ty = .lineString ∨ s.ty = .linearRing ∨ s.ty = .polygon)
    (ho : OraclesAgree isValidF fixRingF withHolesF s) :
    GeometryFixer.getResult isValidF fixRingF withHolesF mp ml my gc keep () s = .ok (some (fix keep s)) := by
  -- on a constructor the dispatch reduces to the call of the per-type function
  cases s with
  | point e v => exact congrArg Except.ok (gen_fixPoint_eq e v)
  | line e c => exact congrArg Except.ok (gen_fixLineString_eq keep e c)
  | ring e c v => exact congrArg Except.ok (gen_fixLinearRing_eq isValidF keep e v c ho)
  | polygon se a c n w => exact congrArg Except.ok (gen_fixPolygon_eq fixRingF withHolesF keep se a w c n ho.1 ho.2)
  | _ => simp [Shape.ty] at hs

/-- **`GeometryFixer::getResult`, Multi* and collections**: an input without elements is cloned (the model's empty result of
the same type), any other goes to the element loop of its own type (`fixMultiPoint`, `fixMultiLineString`,
`fixMultiPolygon`, `fixCollection` — the parameters `mp ml my gc` here; the regenerated loops are bridged below,
`gen_fix…Loop_eq`) -/
theorem gen_getResult_multi (isValidF : Option Res → Bool) (fixRingF : Shape → Option Res)
    (withHolesF : Shape → Option Res → Option Res) (mp ml my gc : Shape → Option Res) (keep : Bool) (s : Shape) :
    GeometryFixer.getResult isValidF fixRingF withHolesF mp ml my gc keep () s
      = .ok (match s with
        | .multiPoint ps => if ps.isEmpty then some (fix keep s) else mp s
        | .multiLine ls => if ls.isEmpty then some (fix keep s) else ml s
        | .multiPolygon ps _ => if ps.isEmpty then some (fix keep s) else my s
        | .collection gs => if gs.isEmpty then some (fix keep s) else gc s
        | _ => (GeometryFixer.getResult isValidF fixRingF withHolesF mp ml my gc keep () s).toOption.join) := by
  cases s with
  | multiPoint ps => cases ps <;> rfl
  | multiLine ps => cases ps <;> rfl
  | multiPolygon ps u => cases ps <;> rfl
  | collection ps => cases ps <;> rfl
  | _ => rfl

/-- `getResult` never throws on the eight types of the model (the `default:` branch is for curved types) -/
theorem gen_getResult_total (isValidF : Option Res → Bool) (fixRingF : Shape → Option Res)
    (withHolesF : Shape → Option Res → Option Res) (mp ml my gc : Shape → Option Res) (keep : Bool) (s : Shape) :
    ∃ r, GeometryFixer.getResult isValidF fixRingF withHolesF mp ml my gc keep () s = .ok r :=
  ⟨_, gen_getResult_multi isValidF fixRingF withHolesF mp ml my gc keep s⟩

/-! ## the element loops (regenerated as `…Loop`) and the knot -/

/-- `fixCollection`: every element goes through a fixer of its own with the SAME keep-collapsed setting (`getResultOf` is the
recursive `elemFixer.getResult()`; the static `fix` in its place is `getResultOf (g, false)` — finding F5, see the example below) -/
theorem gen_fixCollectionLoop_eq (getResultF : Fixer → Option Res) (keep : Bool) (gs : List Shape) (hne : gs ≠ [])
    (hrec : ∀ g, getResultF (g, keep) = some (fix keep g)) :
    GeometryFixer.fixCollectionLoop getResultF keep () (.collection gs) = some (fix keep (.collection gs)) := by
  simp only [GeometryFixer.fixCollectionLoop]
  rw [forIn_elemAt _ rfl (stepCollect (some ∘ fix keep)) _ _ (by
    intro a _ i b hi; simp only [hi, Fixer.mk', Fixer.setKeepCollapsed, hrec, stepCollect, Function.comp_apply]), forIn_collect]
  simp only [Shape.elems, List.nil_append, ← List.map_map, pure_bind, createGeometryCollectionOf_some, fix,
    List.isEmpty_eq_false_iff.2 hne, fixList_eq_map]
  rfl

/-- `fixMultiPoint`: the loop over the (point) elements is the model's `filterMap` of `fixPointElement` -/
theorem gen_fixMultiPointLoop_eq (keep : Bool) (ps : List Shape) (hne : ps ≠ []) (hp : ∀ p ∈ ps, p.isPointLike = true) :
    GeometryFixer.fixMultiPointLoop keep () (.multiPoint ps) = some (fix keep (.multiPoint ps)) := by
  simp only [GeometryFixer.fixMultiPointLoop]
  rw [forIn_elemAt _ rfl (stepFilter Shape.pointElem) _ _ (by
    intro a ha i b hi
    simp only [hi]
    cases a with
    | point e v => cases e <;> cases v <;> rfl
    | _ => cases hp _ ha), forIn_filter]
  simp only [Shape.elems, List.nil_append, pure_bind, createMultiPointOf_some, fix, List.isEmpty_eq_false_iff.2 hne]
  rfl

/-- `fixMultiLineString`: survivors of `fixLineStringElement`, one survivor returned as itself, a GeometryCollection when a
survivor is not a LineString (a kept collapse), a MultiLineString otherwise -/
theorem gen_fixMultiLineStringLoop_eq (keep : Bool) (ls : List Shape) (hne : ls ≠ []) (hp : ∀ l ∈ ls, l.isLineLike = true) :
    GeometryFixer.fixMultiLineStringLoop keep () (.multiLine ls) = some (fix keep (.multiLine ls)) := by
  simp only [GeometryFixer.fixMultiLineStringLoop]
  rw [forIn_elemAt _ rfl (stepLines (Shape.lineElem keep)) _ _ (by
    intro a ha i b hi
    simp only [hi]
    cases a with
    | line e c =>
      simp only [gen_fixLineStringElement_eq, Shape.lineElem, Shape.emptyFlag, stepLines]
      cases e
      · cases hr : Fix.fixLineStringElement keep false c with
        | none => simp
        | some r => cases hb : r.ty != Ty.lineString <;> simp [resTy, hb]
      · simp [Fix.fixLineStringElement]
    | _ => cases hp _ ha), forIn_lines]
  simp only [fix, List.isEmpty_eq_false_iff.2 hne, Shape.elems]
  generalize List.filterMap (Shape.lineElem keep) ls = fixed
  match fixed with
  | [] => rfl
  | [one] => rfl
  | a :: b :: r =>
    simp only [List.nil_append, pure_bind, Bool.false_or, createGeometryCollectionOf_some, createMultiLineStringOf_some]
    rw [if_neg (by simp [Vec.size]), if_neg Bool.false_ne_true]
    split <;> rfl

/-- `fixMultiPolygon`: `unionOf` is the overlay union of the fixed elements; the model records the type it returns -/
theorem gen_fixMultiPolygonLoop_eq (fixRingF : Shape → Option Res) (withHolesF : Shape → Option Res → Option Res)
    (unionF : Option Res → Option Res) (iv : Option Res → Bool) (keep : Bool) (ps : List Shape) (u : Ty) (hne : ps ≠ [])
    (hp : ∀ p ∈ ps, p.isPolygonLike = true ∧ OraclesAgree iv fixRingF withHolesF p)
    (hu : ∀ rs : List Res, rs ≠ [] → unionF (some (.coll rs)) = some (.atom u false)) :
    GeometryFixer.fixMultiPolygonLoop fixRingF withHolesF unionF keep () (.multiPolygon ps u) = some (fix keep (.multiPolygon ps u)) := by
  simp only [GeometryFixer.fixMultiPolygonLoop]
  rw [forIn_elemAt _ rfl (stepFilter fun p => (Shape.polyElem keep p).filter fun r => !r.isEmpty) _ _ (by
      intro a ha i b hi
      simp only [hi]
      have hpl := hp a ha
      cases a with
      | polygon se a c n w =>
        simp only [gen_fixPolygonElement_eq fixRingF withHolesF keep se a w c n hpl.2.1 hpl.2.2, Shape.polyElem, stepFilter]
        cases hr : Fix.fixPolygonElement keep se a c n w with
        | none => simp
        | some r => cases he : r.isEmpty <;> simp [resIsEmpty, he, Option.filter]
      | _ => cases hpl.1), forIn_filter]
  simp only [fix, List.isEmpty_eq_false_iff.2 hne, Shape.elems]
  rw [← List.filter_filterMap]
  generalize List.filter (fun r => !r.isEmpty) (List.filterMap (Shape.polyElem keep) ps) = fixed
  cases fixed with
  | nil => rfl
  | cons x xs =>
    simp only [List.nil_append, pure_bind, createGeometryCollectionOf_some, hu (x :: xs) (List.cons_ne_nil _ _)]
    rfl

/-- what one level of `getResult` needs of its input: the elements of a Multi* are of the right kind, the oracles agree with
the shape's recorded facts -/
def Level (iv : Option Res → Bool) (fixRingF : Shape → Option Res) (withHolesF : Shape → Option Res → Option Res)
    (unionF : Option Res → Option Res) : Shape → Prop
  | .multiPoint ps => ∀ p ∈ ps, p.isPointLike = true
  | .multiLine ls => ∀ l ∈ ls, l.isLineLike = true
  | .multiPolygon ps u => (∀ p ∈ ps, p.isPolygonLike = true ∧ OraclesAgree iv fixRingF withHolesF p)
      ∧ (∀ rs : List Res, rs ≠ [] → unionF (some (.coll rs)) = some (.atom u false))
  | .collection _ => True
  | s => OraclesAgree iv fixRingF withHolesF s

/-- **`GeometryFixer::getResult` = `fix`, one level**: the regenerated `getResult`, with the four regenerated loops in place of
its loop oracles, computes the model's `fix keep s` for every shape — provided the recursive call inside `fixCollection`
does (`hrec`), i.e. by induction on the nesting depth the whole regenerated fixer is the model. -/
theorem gen_getResult_eq_fix (iv : Option Res → Bool) (fixRingF : Shape → Option Res)
    (withHolesF : Shape → Option Res → Option Res) (unionF : Option Res → Option Res) (getResultF : Fixer → Option Res)
    (keep : Bool) (s : Shape) (hl : Level iv fixRingF withHolesF unionF s)
    (hrec : ∀ g, getResultF (g, keep) = some (fix keep g)) :
    GeometryFixer.getResult iv fixRingF withHolesF
      (GeometryFixer.fixMultiPointLoop keep ()) (GeometryFixer.fixMultiLineStringLoop keep ())
      (GeometryFixer.fixMultiPolygonLoop fixRingF withHolesF unionF keep ()) (GeometryFixer.fixCollectionLoop getResultF keep ())
      keep () s = .ok (some (fix keep s)) := by
  cases s with
  | multiPoint ps =>
    cases ps with
    | nil => rfl
    | cons p ps => exact congrArg Except.ok (gen_fixMultiPointLoop_eq keep (p :: ps) (List.cons_ne_nil _ _) hl)
  | multiLine ls =>
    cases ls with
    | nil => rfl
    | cons l ls => exact congrArg Except.ok (gen_fixMultiLineStringLoop_eq keep (l :: ls) (List.cons_ne_nil _ _) hl)
  | multiPolygon ps u =>
    cases ps with
    | nil => rfl
    | cons p ps =>
      exact congrArg Except.ok
        (gen_fixMultiPolygonLoop_eq fixRingF withHolesF unionF iv keep (p :: ps) u (List.cons_ne_nil _ _) hl.1 hl.2)
  | collection gs =>
    cases gs with
    | nil => rfl
    | cons g gs => exact congrArg Except.ok (gen_fixCollectionLoop_eq getResultF keep (g :: gs) (List.cons_ne_nil _ _) hrec)
  | _ => exact gen_getResult_atomic _ _ _ _ _ _ _ keep _ (by simp [Shape.ty]) hl

/-- the regression reference of finding F5: with the static `fix` inside `fixCollection` (the recursive call made with
keep-collapsed off) the same regenerated loop yields `fixDropping` on the witness — and not `fix` -/
example : GeometryFixer.fixCollectionLoop (fun f => some (fix false f.1)) true () (.collection [.line false 1])
    = some (fixDropping true (.collection [.line false 1])) := by
  simp [GeometryFixer.fixCollectionLoop, Shape.numGeometries, Shape.elemAt, Shape.elems, Fixer.mk', Fixer.setKeepCollapsed, Vec.push,
    createGeometryCollectionOf, Vec.results]
  rfl

/-! non-vacuity of the oracle hypotheses: constant oracles that satisfy them for a concrete polygon / ring -/
example : GeometryFixer.getResult (fun _ => true) (fun _ => some (Area.res .polygon)) (fun _ _ => some (Area.res .multiPolygon))
    (fun _ => none) (fun _ => none) (fun _ => none) (fun _ => none) true () (.polygon false .polygon 5 2 .multiPolygon)
    = .ok (some (.atom .multiPolygon false)) :=
  gen_getResult_atomic _ _ _ _ _ _ _ true _ (by simp [Shape.ty]) ⟨rfl, rfl⟩
example : GeometryFixer.getResult (fun _ => false) (fun _ => none) (fun _ _ => none)
    (fun _ => none) (fun _ => none) (fun _ => none) (fun _ => none) false () (.ring false 7 false)
    = .ok (some (.atom .lineString false)) :=
  gen_getResult_atomic _ _ _ _ _ _ _ false _ (by simp [Shape.ty]) rfl

end GeosModel.C17Gen
