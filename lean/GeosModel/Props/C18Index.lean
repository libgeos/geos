import GeosModel.Proofs.Simplify.VertexIndex
import GeosModel.Proofs.Simplify.VertexIndexBuild
import GeosModel.Proofs.Simplify.Jump
/-!
# C18 — two decision cores of the simplifiers, modelled function by function and tied by direct streams

* `index::VertexSequencePackedRtree` (Model/Simplify/VertexIndex.lean; stream `vsindex`): the vertex index `RingHull` asks
  "is any vertex inside this corner triangle's box?" and `TPVWSimplifier::Edge` uses for coverage simplification.
  Theorems: a query never returns a removed or outside item (any state); for a well-formed tree it returns *every* item that was
  not removed and lies in the box; `remove` keeps well-formedness (this is where `isItemsNodeEmpty` / `isNodeEmpty` must answer
  `true` only for really empty nodes), the tree `build` produces is well-formed for every non-empty coordinate list, so the
  answer is exact after any sequence of removals (`vsindex_end_to_end`).  (The driver additionally evaluates the decidable
  well-formedness check on every tree it builds; that is a cross-check of the executable model, not an assumption.)
* `simplify::ComponentJumpChecker` (Model/Simplify/Jump.lean; stream `jump`): `hasJump` is `true` exactly when SOME other
  component with its point in the section's box has differing crossing parities — independent of the order of the components.
-/
namespace GeosModel.VSPR

/-- **no false positives**, in any state of the tree: what `query` returns is an item index, not removed, inside the box -/
theorem vsindex_query_sound (t : Tree) (q : Env) (i : Nat) (h : i ∈ query t q) :
    i < t.items.length ∧ isRemoved t i = false ∧ Env.containsPt q (item t i).1 (item t i).2 = true :=
  queryNode_sound t q _ _ i h

/-- **no false negatives** for a well-formed tree -/
theorem vsindex_query_complete (t : Tree) (q : Env) (hw : WF t) (i : Nat) (hi : i < t.items.length)
    (hr : isRemoved t i = false) (hq : Env.containsPt q (item t i).1 (item t i).2 = true) : i ∈ query t q := by
  have h := mem_queryNode_anc t q hw.1 hw.2 i hi hr hq (t.levelOffset.length - 1) (by have := hw.1.1; omega)
  rwa [anc_top t hw.1 i hi] at h

/-- the decidable check the driver runs on the tree it has built implies well-formedness -/
theorem vsindex_wf_check_sound (t : Tree) (h : wfCheck t = true) : WF t := by
  unfold wfCheck at h
  simp only [Bool.and_eq_true, decide_eq_true_eq] at h
  exact ⟨h.1, invC_inv t h.2⟩

/-- **`remove` keeps well-formedness** (and marks exactly the given item) -/
theorem vsindex_remove_wf (t : Tree) (k : Nat) (hw : WF t) (hk : k < t.items.length) :
    WF (remove t k) ∧ (remove t k).items = t.items ∧
      ∀ i, isRemoved (remove t k) i = if i = k then true else isRemoved t i :=
  ⟨⟨shape_remove t k hw.1, inv_remove t k hw.1 hw.2 hk⟩, items_remove t k, isRemoved_remove t k⟩

/-- **exactness after any history of removals**: the query answers are precisely the items inside the box that were
neither removed before nor by one of the `remove` calls -/
theorem vsindex_query_exact (t : Tree) (hw : WF t) (ks : List Nat) (hk : ∀ k ∈ ks, k < t.items.length) (q : Env) (i : Nat) :
    i ∈ query (ks.foldl remove t) q ↔
      i < t.items.length ∧ isRemoved t i = false ∧ ks.contains i = false ∧ Env.containsPt q (item t i).1 (item t i).2 = true := by
  have hw' := wf_removes t hw ks hk
  have hitems := items_removes t ks
  have hitem : ∀ j, item (ks.foldl remove t) j = item t j := by intro j; unfold item; rw [hitems]
  constructor
  · intro h
    have := vsindex_query_sound _ q i h
    rw [hitems, isRemoved_removes, hitem] at this
    simp only [Bool.or_eq_false_iff] at this
    exact ⟨this.1, this.2.1.1, this.2.1.2, this.2.2⟩
  · rintro ⟨h1, h2, h3, h4⟩
    apply vsindex_query_complete _ q hw' i
    · rw [hitems]; exact h1
    · rw [isRemoved_removes]; simp only [h2, Bool.false_or]; exact h3
    · rw [hitem]; exact h4

/-- **the constructor establishes well-formedness**, for every non-empty coordinate list (the loops of `computeLevelOffsets`,
`fillItemBounds`, `fillLevelBounds`, `createBounds`) -/
theorem vsindex_build_wf (items : List (Int × Int)) (h : items ≠ []) : WF (build items) := by
  have hn : 1 ≤ items.length := List.length_pos_iff.mpr h
  refine ⟨shape_build items h, ?_⟩
  have c := chain_go (items.length + 1) items.length 0 hn (by omega)
  have hlo : computeLevelOffsets items.length = 0 :: levelOffsetsGo (items.length + 1) items.length 0 := rfl
  rw [← hlo] at c
  have hz : (computeLevelOffsets items.length).getD 0 0 = 0 := rfl
  generalize hL : computeLevelOffsets items.length = lo at c hz
  have hlen := c.len
  obtain ⟨_, jleaf, jnode⟩ := J_fold items hn lo c _ (J_items items hn lo c) (lo.length - 1) (Nat.le_refl _)
  have hb : (build items).bounds = (List.range (lo.length - 1)).foldl (fun b k => fillLevelBounds lo (k + 1) b)
      (fillItemBoundsGo items (items.length + 1) 0 0 (List.replicate (lo.getLastD 0 + 1) none)) := by
    unfold build createBounds; simp only [hL]
  have hlo2 : (build items).levelOffset = lo := hL
  constructor
  · intro i hi _
    unfold bnd off item cap
    rw [hb, hlo2, hz, Nat.zero_add]
    exact jleaf i hi
  · intro l cc hl hcc x y hxy
    unfold bnd off at hxy ⊢
    unfold levelSize off at hcc
    rw [hlo2] at hl hcc hxy ⊢
    rw [hb] at hxy ⊢
    exact jnode l (by omega) cc (by omega) x y hxy

/-- **end to end**: build the index over any non-empty coordinate list, remove any items in any order, ask any box —
the answer is exactly the set of positions that were not removed and whose coordinate lies in the box -/
theorem vsindex_end_to_end (items : List (Int × Int)) (h : items ≠ []) (ks : List Nat) (hk : ∀ k ∈ ks, k < items.length)
    (q : Env) (i : Nat) :
    i ∈ query (ks.foldl remove (build items)) q ↔
      i < items.length ∧ ks.contains i = false ∧ Env.containsPt q (items.getD i (0, 0)).1 (items.getD i (0, 0)).2 = true := by
  have hw := vsindex_build_wf items h
  have hit : (build items).items = items := rfl
  rw [vsindex_query_exact (build items) hw ks (by rw [hit]; exact hk) q i, hit]
  have hitem : item (build items) i = items.getD i (0, 0) := rfl
  rw [hitem]
  constructor
  · rintro ⟨h1, _, h3, h4⟩; exact ⟨h1, h3, h4⟩
  · rintro ⟨h1, h3, h4⟩
    refine ⟨h1, ?_, h3, h4⟩
    show (List.replicate items.length false).getD i true = false
    simp [List.getD_eq_getElem?_getD, h1]

/-- **the way `RingHull::hasIntersectingVertex` and `TPVWSimplifier::Edge` use the index is lossless**: for a well-formed tree,
looking for a vertex with property `P` among the answers of `query(box)` finds one exactly when some vertex that was not
removed has `P` — for every `P` that implies lying in the box (a vertex inside the corner triangle lies inside the
triangle's envelope) -/
theorem vsindex_any_via_query (t : Tree) (hw : WF t) (q : Env) (P : Nat → Bool)
    (hP : ∀ i, P i = true → Env.containsPt q (item t i).1 (item t i).2 = true) :
    (query t q).any P = (List.range t.items.length).any (fun i => !isRemoved t i && P i) := by
  rw [Bool.eq_iff_iff, List.any_eq_true, List.any_eq_true]
  constructor
  · rintro ⟨i, hi, hp⟩
    have := vsindex_query_sound t q i hi
    exact ⟨i, List.mem_range.2 this.1, by simp [this.2.1, hp]⟩
  · rintro ⟨i, hi, hp⟩
    simp only [Bool.and_eq_true, Bool.not_eq_true'] at hp
    exact ⟨i, vsindex_query_complete t q hw i (List.mem_range.1 hi) hp.1 (hP i hp.2), hp.2⟩

/-! non-vacuity: a two-level tree (17 items, the shape of a 17-coordinate ring) is well-formed as built; removing the closing
vertex (what `RingHull::init` does) empties the second leaf only, and a query still finds the vertices under the first leaf -/
private def pts17 : List (Int × Int) := (List.range 17).map fun i => (Int.ofNat i, Int.ofNat (i * i % 7))

example : wfCheck (build pts17) = true := by decide
example : (build pts17).levelOffset = [0, 2, 3] := by decide
example : query (remove (build pts17) 16) (some ⟨0, 3, 0, 10⟩) = [0, 1, 2, 3] := by decide
example : (remove (build pts17) 16).bounds.map Env.isNull = [false, true, false, false] := by decide

end GeosModel.VSPR

namespace GeosModel.Jump
open GeosModel.Kernel GeosModel.RayCount

/-- **meaning of `hasJump(line, start, end, seg)`**: some *other* component has its point in the bounding box of the section and
sees different crossing parities for the section and for the flattening segment -/
theorem jump_section_iff (comps : List (Nat × Pt)) (self : Nat) (line : List Pt) (start stop : Nat) (seg : Seg) :
    hasJumpSection comps self line start stop seg = true ↔
      ∃ c ∈ comps, c.1 ≠ self ∧ Env.containsPt (sectionEnv line start stop) c.2.x c.2.y = true ∧
        crossingCount c.2 (sectionSegs line start stop) % 2 ≠ crossingCount c.2 [seg] % 2 := by
  unfold hasJumpSection
  simp only [hasJumpLoop_iff, Jumps, hasJumpAtComponent, bne_iff_ne, ne_eq]

/-- the same for the ring-endpoint overload `hasJump(line, seg1, seg2, seg)` -/
theorem jump_segs_iff (comps : List (Nat × Pt)) (self : Nat) (seg1 seg2 seg : Seg) :
    hasJumpSegs comps self seg1 seg2 seg = true ↔
      ∃ c ∈ comps, c.1 ≠ self ∧ Env.containsPt (envOf [seg1.1, seg1.2, seg2.1, seg2.2]) c.2.x c.2.y = true ∧
        crossingCount c.2 [seg1, seg2] % 2 ≠ crossingCount c.2 [seg] % 2 := by
  unfold hasJumpSegs
  simp only [hasJumpLoop_iff, Jumps, hasJumpAtComponent, bne_iff_ne, ne_eq]

/-- **what the parity test means**: if no component point lies on the section or on the flattening segment `(a, b)` (`b` = last
vertex of the section), `hasJump` is `true` exactly when some other component has its point in the section's box and *inside
the closed curve formed by the section and the flattening segment* (even–odd rule, `Kernel.locateInRing`, the specification
C07 proves `RayCrossingCounter` against): flattening would move that component to the other side of the line -/
theorem jump_section_iff_inside (comps : List (Nat × Pt)) (self : Nat) (line : List Pt) (start stop : Nat) (a b : Pt)
    (hb : (sectionPts line start stop).getLast? = some b)
    (hoff : ∀ c ∈ comps, ∀ e ∈ edges (sectionPts line start stop ++ [a]), onSegment e.1 e.2 c.2 = false) :
    hasJumpSection comps self line start stop (a, b) = true ↔
      ∃ c ∈ comps, c.1 ≠ self ∧ Env.containsPt (sectionEnv line start stop) c.2.x c.2.y = true ∧
        locateInRing c.2 (sectionPts line start stop ++ [a]) = Loc.interior := by
  unfold hasJumpSection
  rw [hasJumpLoop_iff]
  constructor
  · rintro ⟨c, hc, h1, h2, h3⟩
    refine ⟨c, hc, h1, h2, ?_⟩
    unfold sectionSegs at h3
    rw [hasJumpAtComponent_iff_inside c.2 _ a b hb (hoff c hc)] at h3
    simpa using h3
  · rintro ⟨c, hc, h1, h2, h3⟩
    refine ⟨c, hc, h1, h2, ?_⟩
    unfold sectionSegs
    rw [hasJumpAtComponent_iff_inside c.2 _ a b hb (hoff c hc)]
    simpa using h3

/-- **the order of the components is irrelevant** (holes in any order, elements in any order) -/
theorem jump_order_irrelevant (c1 c2 : List (Nat × Pt)) (h : c1.Perm c2) (self : Nat) (line : List Pt) (start stop : Nat)
    (seg : Seg) : hasJumpSection c1 self line start stop seg = hasJumpSection c2 self line start stop seg :=
  hasJumpLoop_perm _ _ _ _ _ _ h

theorem jump_segs_order_irrelevant (c1 c2 : List (Nat × Pt)) (h : c1.Perm c2) (self : Nat) (seg1 seg2 seg : Seg) :
    hasJumpSegs c1 self seg1 seg2 seg = hasJumpSegs c2 self seg1 seg2 seg :=
  hasJumpLoop_perm _ _ _ _ _ _ h

/-- further components can only add jumps: the answer for `c1 ++ c2` is the disjunction of the answers -/
theorem jump_components_append (c1 c2 : List (Nat × Pt)) (self : Nat) (line : List Pt) (start stop : Nat) (seg : Seg) :
    hasJumpSection (c1 ++ c2) self line start stop seg =
      (hasJumpSection c1 self line start stop seg || hasJumpSection c2 self line start stop seg) := by
  simp only [hasJumpSection, hasJumpLoop_eq_any, List.any_append]

/-- a section that already is its flattening segment never jumps anything -/
theorem jump_single_segment (comps : List (Nat × Pt)) (self : Nat) (env : Env) (seg : Seg) :
    hasJumpLoop self env [seg] seg comps = false := by
  cases h : hasJumpLoop self env [seg] seg comps with
  | false => rfl
  | true =>
    obtain ⟨c, _, hj⟩ := (hasJumpLoop_iff _ _ _ _ _).1 h
    have := hasJumpAtComponent_self c.2 seg
    have h3 : hasJumpAtComponent c.2 [seg] seg = true := hj.2.2
    rw [this] at h3
    exact absurd h3 (by simp)

/-! non-vacuity: the shell section (0,0) (6,-1) (10,-5) flattened to (0,0)–(10,-5); component 1 lies below the base segment
(not jumped), component 2 inside the bump (jumped): the answer is `true` whatever the order -/
private def lineA : List Pt := [⟨0, 0⟩, ⟨60, -10⟩, ⟨100, -50⟩, ⟨100, -120⟩, ⟨0, -120⟩, ⟨0, 0⟩]
example : hasJumpSection [(0, ⟨60, -10⟩), (1, ⟨22, -40⟩), (2, ⟨54, -20⟩)] 0 lineA 0 2 (⟨0, 0⟩, ⟨100, -50⟩) = true := by decide
example : hasJumpSection [(0, ⟨60, -10⟩), (2, ⟨54, -20⟩), (1, ⟨22, -40⟩)] 0 lineA 0 2 (⟨0, 0⟩, ⟨100, -50⟩) = true := by decide
example : hasJumpSection [(0, ⟨60, -10⟩), (1, ⟨22, -40⟩)] 0 lineA 0 2 (⟨0, 0⟩, ⟨100, -50⟩) = false := by decide

end GeosModel.Jump
