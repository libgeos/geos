import GeosModel.Proofs.Kernel.FilterGrid
import GeosModel.Proofs.Kernel.RayCountCorrect
import GeosModel.Proofs.Kernel.SegSegCorrect
import GeosModel.Proofs.Kernel.Parity
import GeosModel.Proofs.Kernel.DDGrid
import GeosModel.Proofs.Kernel.CCWTriangle
import GeosModel.Proofs.Kernel.PolyLocateCorrect
import GeosModel.Proofs.Kernel.IndexedLocateCorrect
import GeosModel.Proofs.Kernel.PointLocatorCorrect
/-!
# C07 — orientation, point-in-ring and segment intersection are exact on grid inputs

Specifications: `Base/Kernel` (`det`, `orient`, `onSegment`, `segRel`, `crosses`, `locateInRing`, `locateInPolygon`,
`area2`), exact over `Int`.  Models (`Model/Kernel/*`): the floating-point filter and the double-double fallback
over round-to-nearest-even dyadic arithmetic (`Filter`), `RayCrossingCounter` (`RayCount`),
`LineIntersector::computeIntersect` (`SegSeg`), `Orientation::isCCW` (`CCW`), the point-in-polygon locators
`SimplePointInAreaLocator` / `IndexedPointInAreaLocator` (`PolyLocate`, sections 2b) and `algorithm::PointLocator`
(`PointLocator`, section 2c), each following the C++ branch by branch.  Every theorem below quantifies over all inputs (unbounded integers / all dyadic
doubles), with the grid hypothesis stated where it is needed.
-/
namespace GeosModel.C07
open GeosModel.Kernel GeosModel.Filter GeosModel.RayCount GeosModel.SegSeg GeosModel.CCW

/-! ## 1. the orientation filter -/

/-- an integer of magnitude at most `2^53`, times any power of two, is exactly representable:
round-to-nearest-even leaves it unchanged -/
theorem representable_int (n k : Int) (h : n.natAbs ≤ 2 ^ 53) : roundNE (Dy.mk' n k) = Dy.mk' n k :=
  roundNE_mk' n k h

/-- on the grid (coordinates of at most `2^25` units): differences ≤ `2^26`, products ≤ `2^52`,
the two two-term sums ≤ `2^53` -/
theorem grid_ops_exact {a b c : Pt} (ha : OnGrid gridBound a) (hb : OnGrid gridBound b) (hc : OnGrid gridBound c) :
    (a.x - c.x).natAbs ≤ 2 ^ 26 ∧ (b.y - c.y).natAbs ≤ 2 ^ 26 ∧ (a.y - c.y).natAbs ≤ 2 ^ 26 ∧ (b.x - c.x).natAbs ≤ 2 ^ 26 ∧
    ((a.x - c.x) * (b.y - c.y)).natAbs ≤ 2 ^ 52 ∧ ((a.y - c.y) * (b.x - c.x)).natAbs ≤ 2 ^ 52 ∧
    ((a.x - c.x) * (b.y - c.y) - (a.y - c.y) * (b.x - c.x)).natAbs ≤ 2 ^ 53 ∧
    ((a.x - c.x) * (b.y - c.y) + (a.y - c.y) * (b.x - c.x)).natAbs ≤ 2 ^ 53 :=
  Filter.grid_ops_exact ha hb hc

/-- every intermediate of the machine filter (rounding after every operation) is the exact integer value,
for every unit `2^k` and every error coefficient -/
theorem filter_intermediates_exact (coef : Dy) (k : Int) {a b c : Pt}
    (ha : OnGrid gridBound a) (hb : OnGrid gridBound b) (hc : OnGrid gridBound c) :
    let t := filterTrace roundNE coef (ofGrid k a.x) (ofGrid k a.y) (ofGrid k b.x) (ofGrid k b.y) (ofGrid k c.x) (ofGrid k c.y)
    t.detleft = Dy.mk' ((a.x - c.x) * (b.y - c.y)) (k + k) ∧
    t.detright = Dy.mk' ((a.y - c.y) * (b.x - c.x)) (k + k) ∧
    t.det = Dy.mk' (det a b c) (k + k) ∧
    t.detsum = Dy.mk' ((a.x - c.x) * (b.y - c.y) + (a.y - c.y) * (b.x - c.x)) (k + k) :=
  filterTrace_grid coef k ha hb hc

/-- **filter_sound_grid**: on the grid the filter either fails or returns the exact orientation.
This holds for *every* error coefficient: on the grid the constant `3.33e-16` can only make the filter
defer more or less often, never answer wrongly. -/
theorem filter_sound_grid (coef : Dy) (k : Int) {a b c : Pt}
    (ha : OnGrid gridBound a) (hb : OnGrid gridBound b) (hc : OnGrid gridBound c) :
    filterGrid roundNE coef k a b c = FAILURE ∨ filterGrid roundNE coef k a b c = orient a b c := by
  rw [filterGrid_eq_shadow coef k ha hb hc]
  exact filterShadow_sound roundNE coef k a b c

/-- the machine filter on the grid *is* its exact-`Int` shadow -/
theorem filter_eq_shadow_grid (coef : Dy) (k : Int) {a b c : Pt}
    (ha : OnGrid gridBound a) (hb : OnGrid gridBound b) (hc : OnGrid gridBound c) :
    filterGrid roundNE coef k a b c = filterShadow roundNE coef k a b c :=
  filterGrid_eq_shadow coef k ha hb hc

/-- collinear grid points: the filter answers 0 or defers (it never reports a turn) -/
theorem filter_zero_grid (coef : Dy) (k : Int) {a b c : Pt}
    (ha : OnGrid gridBound a) (hb : OnGrid gridBound b) (hc : OnGrid gridBound c) (hd : det a b c = 0) :
    filterGrid roundNE coef k a b c = FAILURE ∨ filterGrid roundNE coef k a b c = 0 := by
  have := filter_sound_grid coef k ha hb hc
  unfold orient at this
  rw [hd, Int.sign_zero] at this
  exact this

/-- **the filter only ever defers**: the full `orientationIndex` returns the filter's answer whenever the
filter does not fail — which on the grid is the exact orientation — and otherwise exactly the result of the
double-double evaluation -/
theorem orientationIndex_grid (k : Int) {a b c : Pt}
    (ha : OnGrid gridBound a) (hb : OnGrid gridBound b) (hc : OnGrid gridBound c) :
    (filterGrid roundNE errCoef k a b c ≠ FAILURE → orientationIndexGrid roundNE k a b c = orient a b c) ∧
    (filterGrid roundNE errCoef k a b c = FAILURE →
      orientationIndexGrid roundNE k a b c =
        orientationIndexDD roundNE (ofGrid k a.x) (ofGrid k a.y) (ofGrid k b.x) (ofGrid k b.y) (ofGrid k c.x) (ofGrid k c.y)) := by
  have hs := filter_sound_grid errCoef k ha hb hc
  have horient : orient a b c ≤ 1 := by
    unfold orient
    rcases Int.lt_trichotomy (det a b c) 0 with h | h | h
    · rw [Int.sign_eq_neg_one_of_neg h]; decide
    · rw [h]; decide
    · rw [Int.sign_eq_one_of_pos h]
  unfold orientationIndexGrid orientationIndex orientationIndexFilter
  unfold filterGrid at hs ⊢
  constructor
  · intro hne
    rcases hs with h | h
    · exact absurd h hne
    · simp only [h, horient, if_true]
  · intro hf
    simp only [hf, FAILURE]
    rfl

/-- **dd_exact_grid**: on the whole `2^25` grid and for every unit `2^k` every operation of the double-double
path (`DD::selfAdd`, `DD::selfMultiply` with the Veltkamp split by `2^27 + 1`) is exact, the low words vanish
and the path returns the exact orientation -/
theorem dd_exact_grid (k : Int) {a b c : Pt}
    (ha : OnGrid gridBound a) (hb : OnGrid gridBound b) (hc : OnGrid gridBound c) :
    orientationIndexDD roundNE (ofGrid k a.x) (ofGrid k a.y) (ofGrid k b.x) (ofGrid k b.y) (ofGrid k c.x) (ofGrid k c.y)
      = orient a b c :=
  dd_exact_grid25 k ha hb hc

/-- **the modelled `Orientation::index` is exact on the grid**: filter plus double-double fallback, over
round-to-nearest-even arithmetic, return the sign of the exact determinant for all grid points with
coordinates of at most `2^25` units and every unit `2^k` -/
theorem orientationIndex_exact_grid (k : Int) {a b c : Pt}
    (ha : OnGrid gridBound a) (hb : OnGrid gridBound b) (hc : OnGrid gridBound c) :
    orientationIndexGrid roundNE k a b c = orient a b c := by
  obtain ⟨h1, h2⟩ := orientationIndex_grid k ha hb hc
  by_cases hf : filterGrid roundNE errCoef k a b c = FAILURE
  · rw [h2 hf]; exact dd_exact_grid25 k ha hb hc
  · exact h1 hf

/-- hence the modelled index is antisymmetric on the grid -/
theorem orientationIndex_antisym_grid (k : Int) {a b c : Pt}
    (ha : OnGrid gridBound a) (hb : OnGrid gridBound b) (hc : OnGrid gridBound c) :
    orientationIndexGrid roundNE k b a c = - orientationIndexGrid roundNE k a b c := by
  rw [orientationIndex_exact_grid k hb ha hc, orientationIndex_exact_grid k ha hb hc, orient_swap12]

/-- **orientation_antisym** (arbitrary doubles, arbitrary error coefficient): for any rounding function that
is odd (`rnd (-x) = -(rnd x)`) swapping the first two points negates the filter's answer, and the filter
fails for one order iff it fails for the other.  No other property of the rounding is used. -/
theorem orientation_antisym (rnd : Dy → Dy) (hodd : ∀ x, rnd (Dy.neg x) = Dy.neg (rnd x))
    (coef ax ay bx by' cx cy : Dy) :
    orientationIndexFilterC rnd coef bx by' ax ay cx cy
      = negIdx (orientationIndexFilterC rnd coef ax ay bx by' cx cy) :=
  filter_antisym rnd hodd coef ax ay bx by' cx cy

/-- round-to-nearest-even is odd, so the machine filter is antisymmetric on all doubles -/
theorem orientation_antisym_roundNE (ax ay bx by' cx cy : Dy) :
    orientationIndexFilter roundNE bx by' ax ay cx cy
      = negIdx (orientationIndexFilter roundNE ax ay bx by' cx cy) :=
  filter_antisym roundNE roundNE_neg errCoef ax ay bx by' cx cy

/-- the specification itself is antisymmetric -/
theorem orient_antisym (a b c : Pt) : orient b a c = - orient a b c := orient_swap12 a b c

/-! ## 2. ray crossing -/

/-- **rayCount_correct**: on every closed ring of `Int` points and for every point, the ported
`RayCrossingCounter::locatePointInRing` (with its early exit) equals the specification -/
theorem rayCount_correct (p : Pt) (ring : List Pt) (hc : Closed ring) :
    locatePointInRing p ring = locateInRing p ring :=
  locatePointInRing_eq p ring hc

/-- the answer is BOUNDARY exactly when the point lies on some segment of the ring -/
theorem onRing_iff (p : Pt) (ring : List Pt) (hc : Closed ring) :
    locatePointInRing p ring = .boundary ↔ ∃ e ∈ edges ring, onSegment e.1 e.2 p = true := by
  rw [rayCount_correct p ring hc, PolyLocate.locateInRing_boundary_iff, List.any_eq_true]

/-- off the ring, INTERIOR means an odd number of edges satisfying the half-open rule `Kernel.crosses` -/
theorem interior_iff_odd (p : Pt) (ring : List Pt) (hc : Closed ring)
    (hoff : (edges ring).any (fun e => onSegment e.1 e.2 p) = false) :
    locatePointInRing p ring = .interior ↔ ((edges ring).filter (fun e => crosses p e.1 e.2)).length % 2 = 1 := by
  rw [rayCount_correct p ring hc, PolyLocate.locateInRing_off p ring hoff, PolyLocate.crossCount]
  split <;> simp [*]

/-- per edge: the half-open rule is the strict crossing with the ray perturbed upwards by `1/n` -/
theorem crosses_iff_perturbed (p a b : Pt) (hoff : onSegment a b p = false) (n : Int) (hn2 : 2 ≤ n)
    (hn : (b.x - a.x).natAbs < n) :
    crosses p a b = true ↔ strictCross (perturbUp n p) (Pt.scale n a) (Pt.scale n b) :=
  Kernel.crosses_iff_perturbed p a b hoff n hn2 hn

/-- **locateInRing_parity**: for a point not on the ring and every `ε = 1/n` with `n ≥ ringScale ring`, the
edges counted by the crossing rule are exactly the edges strictly crossed by the ray from `p + (0, ε)`;
in particular the parities agree.  (That odd parity of strict crossings *is* topological interior —
the Jordan curve theorem for polygons — is the definition of interior used throughout and is not proved.) -/
theorem locateInRing_parity (p : Pt) (ring : List Pt)
    (hoff : (edges ring).any (fun e => onSegment e.1 e.2 p) = false) (n : Int) (hn : ringScale ring ≤ n) :
    ((edges ring).filter (fun e => crosses p e.1 e.2)).length % 2 =
      ((edges ring).filter (fun e => decide (strictCross (perturbUp n p) (Pt.scale n e.1) (Pt.scale n e.2)))).length % 2 := by
  rw [crossing_edges_eq_perturbed p ring hoff n hn]

/-! ## 2b. point in polygon with holes -/

/-- **envelope_reject_sound**: the envelope shortcuts of the locators never change an answer — a point outside the
bounding box of a closed ring is EXTERIOR by the even–odd specification (no edge contains it; the edges crossing its
ray are none, or — box to the right — all the edges changing side of the ray's level, an even number) -/
theorem envelope_reject_sound (p : Pt) (ring : List Pt) (hc : Closed ring)
    (h : PolyLocate.envContains ring p = false) : locateInRing p ring = .exterior :=
  PolyLocate.outside_env_exterior p ring hc h

/-- **polygon_locate_correct**: the ported `SimplePointInAreaLocator::locatePointInSurface` (envelope reject, shell
test, loop over the holes with per-hole envelope test and early exits) equals the specification
`Kernel.locateInPolygon` for every polygon with closed rings and every point that is not at once interior to one hole
and on the boundary of another (no valid polygon has such a point) -/
theorem polygon_locate_correct (p : Pt) (rings : List (List Pt)) (hc : ∀ r ∈ rings, Closed r)
    (hsep : PolyLocate.HolesSeparateAt p rings.tail) :
    PolyLocate.locatePointInPolygon p rings = locateInPolygon p rings :=
  PolyLocate.locatePointInPolygon_eq p rings hc hsep

/-- the hypotheses are met by a polygon with two holes whose envelopes overlap (a corner triangle and a square in the
free half of the triangle's envelope), at a point inside the square -/
example :
    let shell : List Pt := [⟨0, 0⟩, ⟨20, 0⟩, ⟨20, 20⟩, ⟨0, 20⟩, ⟨0, 0⟩]
    let tri : List Pt := [⟨2, 2⟩, ⟨2, 18⟩, ⟨18, 2⟩, ⟨2, 2⟩]
    let sq : List Pt := [⟨12, 12⟩, ⟨14, 12⟩, ⟨14, 14⟩, ⟨12, 14⟩, ⟨12, 12⟩]
    (∀ r ∈ [shell, tri, sq], Closed r) ∧ PolyLocate.envContains tri ⟨13, 13⟩ = true ∧
    locateInRing ⟨13, 13⟩ tri = .exterior ∧ locateInRing ⟨13, 13⟩ sq = .interior ∧
    PolyLocate.locatePointInPolygon ⟨13, 13⟩ [shell, tri, sq] = .exterior := by decide +kernel

/-- **indexed_locate_correct**: the ported `IndexedPointInAreaLocator::locate` — every ring segment whose y-range
contains `p.y`, fed to one `RayCrossingCounter` in *any* order the interval index happens to visit them, no early
exit — equals the specification for every polygon with closed rings whose holes lie in the shell and of which at
most one contains `p`.  Ingredients proved on the way: the counter's result is invariant under permutation of the
visit (`visit_perm`), and the interval query drops only segments that contribute nothing (`visit_filter`). -/
theorem indexed_locate_correct (p : Pt) (shell : List Pt) (holes : List (List Pt)) (visited : List (Pt × Pt))
    (hperm : visited.Perm ((PolyLocate.allSegs (shell :: holes)).filter (PolyLocate.inYRange p)))
    (hc : ∀ r ∈ shell :: holes, Closed r)
    (hin : PolyLocate.HolesInShellAt p shell holes) (hone : PolyLocate.AtMostOneHoleAt p holes) :
    getLocation (PolyLocate.visit p visited) = locateInPolygon p (shell :: holes) :=
  PolyLocate.locateIndexed_eq p shell holes visited hperm hc hin hone

/-- the interval query is lossless: a segment whose y-range misses `p.y` changes nothing in the counter -/
theorem interval_query_lossless (p : Pt) (es : List (Pt × Pt)) :
    PolyLocate.visit p (es.filter (PolyLocate.inYRange p)) = PolyLocate.visit p es :=
  PolyLocate.visit_filter p es

/-- hypotheses of `indexed_locate_correct` met at a point inside the second hole of the two-hole polygon above -/
example :
    let shell : List Pt := [⟨0, 0⟩, ⟨20, 0⟩, ⟨20, 20⟩, ⟨0, 20⟩, ⟨0, 0⟩]
    let tri : List Pt := [⟨2, 2⟩, ⟨2, 18⟩, ⟨18, 2⟩, ⟨2, 2⟩]
    let sq : List Pt := [⟨12, 12⟩, ⟨14, 12⟩, ⟨14, 14⟩, ⟨12, 14⟩, ⟨12, 12⟩]
    locateInRing ⟨13, 13⟩ shell = .interior ∧ locateInRing ⟨13, 13⟩ tri = .exterior ∧ locateInRing ⟨13, 13⟩ sq = .interior ∧
    ([tri, sq].filter (fun h => locateInRing ⟨13, 13⟩ h == .interior)).length ≤ 1 ∧
    PolyLocate.locateIndexed ⟨13, 13⟩ [shell, tri, sq] = .exterior := by decide +kernel

/-! ## 2c. the general-purpose `algorithm::PointLocator` -/

/-- **pointLocator_ring_correct**: the ported `PointLocator::locateInPolygonRing` (envelope reject, boundary scan
`PointLocation::isOnLine`, then `PointLocation::isInRing`) equals the specification on every closed ring, for every point -/
theorem pointLocator_ring_correct (p : Pt) (ring : List Pt) (hc : Closed ring) :
    PointLocator.locateInPolygonRing p ring = locateInRing p ring :=
  PointLocator.locateInPolygonRing_eq p ring hc

/-- **pointLocator_polygon_correct**: the ported `PointLocator::locate(p, Polygon)` (shell first, then the holes in order
with early exits) equals `Kernel.locateInPolygon` under the hypotheses of `polygon_locate_correct` -/
theorem pointLocator_polygon_correct (p : Pt) (rings : List (List Pt)) (hc : ∀ r ∈ rings, Closed r)
    (hsep : PolyLocate.HolesSeparateAt p rings.tail) :
    PointLocator.locatePolygon p rings = locateInPolygon p rings :=
  PointLocator.locatePolygon_eq p rings hc hsep

/-- the two polygon locators agree on all closed rings, with no hypothesis on the holes -/
theorem pointLocator_agrees_with_simple (p : Pt) (rings : List (List Pt)) (hc : ∀ r ∈ rings, Closed r) :
    PointLocator.locatePolygon p rings = PolyLocate.locatePointInPolygon p rings :=
  PointLocator.locatePolygon_eq_simple p rings hc

/-- **the order of the two ring tests is essential**: `isInRing` is true on the ring, so with the ray-crossing test
placed before the boundary scan the ring locator never answers BOUNDARY — it says INTERIOR wherever the specification
says INTERIOR or BOUNDARY (a point on a hole ring would then be EXTERIOR of the polygon) -/
theorem pointLocator_order_essential (p : Pt) (ring : List Pt) (hc : Closed ring) :
    PointLocator.locateInPolygonRingSwapped p ring ≠ .boundary ∧
    PointLocator.locateInPolygonRingSwapped p ring =
      (if locateInRing p ring = .exterior then .exterior else .interior) :=
  ⟨PointLocator.swapped_never_boundary p ring hc, PointLocator.swapped_eq p ring hc⟩

/-- `PointLocation::isOnLine` is the exact "some segment of the chain contains the point", for every chain -/
theorem isOnLine_exact (p : Pt) (l : List Pt) :
    isOnLine p l = (edges l).any (fun e => onSegment e.1 e.2 p) :=
  PointLocator.isOnLine_eq_any p l

/-- **pointLocator_line**: `PointLocator::locate(p, LineString)` answers BOUNDARY exactly at the first / last vertex of a
chain that is not closed, otherwise INTERIOR exactly on the segments of the chain; the envelope reject changes nothing -/
theorem pointLocator_line (p : Pt) (pts : List Pt) :
    PointLocator.locateLine p pts =
      if PointLocator.lineClosed pts = false ∧ (pts.head? = some p ∨ pts.getLast? = some p) then .boundary
      else if (edges pts).any (fun e => onSegment e.1 e.2 p) then .interior else .exterior :=
  PointLocator.locateLine_eq p pts

/-- **pointLocator_collection_mod2**: on MULTI* / GEOMETRYCOLLECTION (nested, with empty elements) the walk
`computeLocation` / `updateLocationInfo` and the final test are the Mod-2 rule over the locations of the non-empty
atomic elements -/
theorem pointLocator_collection_mod2 (p : Pt) (es : List PointLocator.Geo) :
    PointLocator.locate p (.coll es) =
      let ls := PointLocator.leafLocsList p es
      if ls.count .boundary % 2 = 1 then .boundary
      else if 0 < ls.count .boundary ∨ .interior ∈ ls then .interior else .exterior :=
  PointLocator.locate_coll p es

-- a square with a square hole: on the hole ring the polygon answer is BOUNDARY, the swapped ring test would make it EXTERIOR
example :
    let shell : List Pt := [⟨0, 0⟩, ⟨20, 0⟩, ⟨20, 20⟩, ⟨0, 20⟩, ⟨0, 0⟩]
    let hole : List Pt := [⟨6, 6⟩, ⟨14, 6⟩, ⟨14, 14⟩, ⟨6, 14⟩, ⟨6, 6⟩]
    PointLocator.locatePolygon ⟨10, 6⟩ [shell, hole] = .boundary ∧ PointLocator.locatePolygon ⟨14, 14⟩ [shell, hole] = .boundary ∧
    PointLocator.locatePolygon ⟨10, 10⟩ [shell, hole] = .exterior ∧ PointLocator.locatePolygon ⟨3, 3⟩ [shell, hole] = .interior ∧
    PointLocator.locatePolygon ⟨0, 7⟩ [shell, hole] = .boundary ∧
    PointLocator.locateInPolygonRingSwapped ⟨10, 6⟩ hole = .interior := by decide +kernel
-- two lines sharing an end point: Mod-2 makes the shared end INTERIOR, the free ends BOUNDARY
example :
    let g : PointLocator.Geo := .coll [.line [⟨0, 0⟩, ⟨4, 0⟩], .coll [.line [⟨4, 0⟩, ⟨4, 4⟩], .point none]]
    PointLocator.locate ⟨4, 0⟩ g = .interior ∧ PointLocator.locate ⟨0, 0⟩ g = .boundary ∧
    PointLocator.locate ⟨2, 0⟩ g = .interior ∧ PointLocator.locate ⟨2, 1⟩ g = .exterior := by decide +kernel

/-! ## 3. segment / segment -/

/-- **segseg_classification**: for all `Int` segments (degenerate ones included) the meaning of the ported
`computeIntersect` result — NO / POINT (proper or not) / COLLINEAR, a collinear result whose two points
coincide being one point — is the specification `Kernel.segRel` -/
theorem segseg_classification (p1 p2 q1 q2 : Pt) :
    (computeIntersect p1 p2 q1 q2).classify = segRel p1 p2 q1 q2 :=
  classify_eq_segRel p1 p2 q1 q2

/-- for segments of positive length the raw result code is the specification -/
theorem segseg_code_nondegenerate (p1 p2 q1 q2 : Pt) (hp : p1 ≠ p2) (hq : q1 ≠ q2) :
    (computeIntersect p1 p2 q1 q2).rawClass = segRel p1 p2 q1 q2 :=
  rawClass_eq_segRel p1 p2 q1 q2 hp hq

/-- the unrestricted statement "the raw result code is the specification" -/
def C07_segseg_code_full : Prop :=
  ∀ p1 p2 q1 q2 : Pt, (computeIntersect p1 p2 q1 q2).rawClass = segRel p1 p2 q1 q2

/-- … is false of the code: a zero-length segment lying on another segment is reported as
COLLINEAR_INTERSECTION (with two identical points), although the common set is a single point -/
theorem segseg_code_full_false : ¬ C07_segseg_code_full := by
  intro h
  have := h ⟨0, 0⟩ ⟨2, 0⟩ ⟨1, 0⟩ ⟨1, 0⟩
  revert this
  decide

/-- there is an intersection iff the segments have a common point -/
theorem hasIntersection_iff (p1 p2 q1 q2 : Pt) :
    (computeIntersect p1 p2 q1 q2).code ≠ 0 ↔ segRel p1 p2 q1 q2 ≠ .disjoint := by
  -- `classify` answers `.disjoint` exactly in its `code = 0` branch; every other branch is another constructor
  rw [← segseg_classification]
  unfold LI.classify
  split
  · rename_i h; simp [h]
  · rename_i h; simp [h]
  · rename_i h0 h1
    constructor
    · intro _
      split
      · split <;> simp
      · simp
    · intro _; exact h0

/-- `isProper` ⇔ the segments cross in a single point interior to both -/
theorem isProper_iff (p1 p2 q1 q2 : Pt) :
    (computeIntersect p1 p2 q1 q2).proper = true ↔ segRel p1 p2 q1 q2 = .point true :=
  proper_iff p1 p2 q1 q2

/-- the reported endpoint intersections are real: each lies on both segments -/
theorem reported_endpoints_common (p1 p2 q1 q2 : Pt) :
    ∀ x ∈ (computeIntersect p1 p2 q1 q2).reported, onSegment p1 p2 x = true ∧ onSegment q1 q2 x = true :=
  reported_on_both p1 p2 q1 q2

/-- a proper intersection carries the exact rational point of `CGAlgorithmsDD::intersection`, which has a
non-zero denominator, lies on both lines and inside both segments' bounding boxes (so the envelope clamp
of `LineIntersector::intersection` is consistent with the true point) -/
theorem proper_point_in_envelopes (p1 p2 q1 q2 : Pt) (h : (computeIntersect p1 p2 q1 q2).proper = true) :
    ∃ r, (computeIntersect p1 p2 q1 q2).rat = some r ∧ r = intersectionRat p1 p2 q1 q2 ∧ r.w ≠ 0 ∧
      r.inBox p1 p2 = true ∧ r.inBox q1 q2 = true ∧ r.onLine p1 p2 = true ∧ r.onLine q1 q2 = true := by
  rcases computeIntersect_cases p1 p2 q1 q2 with e | ⟨_, e⟩ | ⟨_, _, _, _, e⟩ | ⟨h12, h34, e⟩
  · rw [e] at h; exact absurd h Bool.false_ne_true
  · rw [e, collinear_not_proper] at h; exact absurd h Bool.false_ne_true
  · rw [e] at h; exact absurd h Bool.false_ne_true
  · obtain ⟨hw, hb1, hb2, hl1, hl2⟩ := proper_point p1 p2 q1 q2 h12 h34
    exact ⟨_, by rw [e], rfl, hw, hb1, hb2, hl1, hl2⟩

/-- the specification is symmetric in its two segments -/
theorem segRel_symmetric (p1 p2 q1 q2 : Pt) : segRel q1 q2 p1 p2 = segRel p1 p2 q1 q2 :=
  segRel_symm p1 p2 q1 q2

/-! ## 4. signed area -/

/-- reversing a ring negates its signed area; rotating a closed ring keeps it -/
theorem area2_reverse_rotate (ring : List Pt) :
    area2 ring.reverse = - area2 ring ∧
    (ring.head? = ring.getLast? → area2 (rotate1 ring) = area2 ring) :=
  ⟨Kernel.area2_reverse ring, Kernel.area2_rotate1 ring⟩

/-- a simple ring: closed, at least a triangle, consecutive edges meet only in their shared vertex, all other
pairs of edges are disjoint -/
def simpleRingB (ring : List Pt) : Bool :=
  let es := edges ring
  decide (Closed ring) && decide (4 ≤ ring.length) &&
  (List.range es.length).all (fun j => (List.range j).all (fun i =>
    match es[i]?, es[j]? with
    | some e, some f =>
      if j = i + 1 ∨ (i = 0 ∧ j + 1 = es.length) then segRel e.1 e.2 f.1 f.2 == .point false
      else segRel e.1 e.2 f.1 f.2 == .disjoint
    | _, _ => true))

def SimpleRing (ring : List Pt) : Prop := simpleRingB ring = true

instance (ring : List Pt) : Decidable (SimpleRing ring) := by unfold SimpleRing; exact inferInstance

/-- the full statement for ring orientation (not proved): on every simple ring of non-zero area the ported
extremal-vertex method agrees with the sign of the signed area -/
def C07_isCCW_full : Prop :=
  ∀ ring : List Pt, SimpleRing ring → area2 ring ≠ 0 → isCCW ring = ccwSpec ring

/-- **isCCW_exact_partial (triangles only)**: for every ring `[a, b, c, a]` of non-zero area the ported
`Orientation::isCCW` returns the sign of the signed area `Kernel.area2`.  Missing for `C07_isCCW_full`:
rings with more than three vertices (checked by correspondence on generated simple rings). -/
theorem isCCW_exact_partial (a b c : Pt) (h : area2 [a, b, c, a] ≠ 0) :
    isCCW [a, b, c, a] = ccwSpec [a, b, c, a] :=
  isCCW_triangle a b c h

/-! ## non-vacuity -/

-- grid points at the bound satisfy the hypothesis; the filter answers on a clear turn and defers on a tie
example : OnGrid gridBound ⟨2 ^ 25, -(2 ^ 25)⟩ := by decide +kernel
example : filterGrid roundNE errCoef 0 ⟨0, 0⟩ ⟨4, 0⟩ ⟨0, 3⟩ = 1 := by decide +kernel
example : filterGrid roundNE errCoef (-500) ⟨0, 0⟩ ⟨33554432, 33554431⟩ ⟨33554431, 33554430⟩ = -1 := by decide +kernel
example : orient ⟨0, 0⟩ ⟨33554432, 33554431⟩ ⟨33554431, 33554430⟩ = -1 := by decide +kernel
example : filterGrid roundNE errCoef 7 ⟨0, 0⟩ ⟨4, 4⟩ ⟨2, 2⟩ = FAILURE := by decide +kernel
example : orientationIndexGrid roundNE 7 ⟨0, 0⟩ ⟨4, 4⟩ ⟨2, 2⟩ = 0 := by decide +kernel
example : OnGrid (2 ^ 24) ⟨2 ^ 24, -(2 ^ 24)⟩ := by decide +kernel
-- the extreme span 2^26, where SPLIT·d needs the shifted exponent
example : filterGrid roundNE errCoef 3 ⟨2 ^ 25, 2 ^ 25⟩ ⟨-(2 ^ 25), -(2 ^ 25)⟩ ⟨0, 0⟩ = FAILURE := by decide +kernel
example : orientationIndexGrid roundNE 3 ⟨2 ^ 25, 2 ^ 25⟩ ⟨-(2 ^ 25), -(2 ^ 25)⟩ ⟨0, 0⟩ = 0 := by decide +kernel
example : area2 [⟨0, 0⟩, ⟨4, 0⟩, ⟨0, 3⟩, ⟨0, 0⟩] = 12 := by decide +kernel
example : isCCW [⟨0, 0⟩, ⟨4, 0⟩, ⟨0, 3⟩, ⟨0, 0⟩] = true := by decide +kernel
example : isCCW [⟨0, 0⟩, ⟨0, 3⟩, ⟨4, 0⟩, ⟨0, 0⟩] = false := by decide +kernel
example : SimpleRing [⟨0, 0⟩, ⟨4, 0⟩, ⟨0, 3⟩, ⟨0, 0⟩] := by decide +kernel
example : ¬ SimpleRing [⟨0, 0⟩, ⟨4, 4⟩, ⟨4, 0⟩, ⟨0, 4⟩, ⟨0, 0⟩] := by decide +kernel
-- rounding really rounds: 2^53 + 1 is not representable and goes to the even neighbour
example : roundNE ⟨2 ^ 53 + 1, 0⟩ = ⟨2 ^ 52, 1⟩ := by decide +kernel
example : roundNE ⟨2 ^ 53 + 3, 0⟩ = ⟨2 ^ 52 + 2, 1⟩ := by decide +kernel
-- a closed ring, a point inside, on a vertex, on a horizontal edge, level with a vertex outside
example : Closed [⟨0, 0⟩, ⟨4, 0⟩, ⟨4, 4⟩, ⟨0, 4⟩, ⟨0, 0⟩] := by decide +kernel
example : locatePointInRing ⟨1, 1⟩ [⟨0, 0⟩, ⟨4, 0⟩, ⟨4, 4⟩, ⟨0, 4⟩, ⟨0, 0⟩] = .interior := by decide +kernel
example : locatePointInRing ⟨4, 4⟩ [⟨0, 0⟩, ⟨4, 0⟩, ⟨4, 4⟩, ⟨0, 4⟩, ⟨0, 0⟩] = .boundary := by decide +kernel
example : locatePointInRing ⟨2, 4⟩ [⟨0, 0⟩, ⟨4, 0⟩, ⟨4, 4⟩, ⟨0, 4⟩, ⟨0, 0⟩] = .boundary := by decide +kernel
example : locatePointInRing ⟨-1, 4⟩ [⟨0, 0⟩, ⟨4, 0⟩, ⟨4, 4⟩, ⟨0, 4⟩, ⟨0, 0⟩] = .exterior := by decide +kernel
-- the three result codes, a proper crossing with a non-lattice point, a T-junction
example : (computeIntersect ⟨0, 0⟩ ⟨3, 1⟩ ⟨0, 1⟩ ⟨2, 0⟩).proper = true := by decide +kernel
example : (computeIntersect ⟨0, 0⟩ ⟨3, 1⟩ ⟨0, 1⟩ ⟨2, 0⟩).rat = some ⟨-6, -2, -5⟩ := by decide +kernel
example : (computeIntersect ⟨0, 0⟩ ⟨4, 0⟩ ⟨2, 0⟩ ⟨2, 5⟩).reported = [⟨2, 0⟩] := by decide +kernel
example : (computeIntersect ⟨0, 0⟩ ⟨4, 0⟩ ⟨2, 0⟩ ⟨6, 0⟩).rawClass = .overlap := by decide +kernel
example : (computeIntersect ⟨0, 0⟩ ⟨4, 0⟩ ⟨5, 0⟩ ⟨6, 0⟩).code = 0 := by decide +kernel

end GeosModel.C07
