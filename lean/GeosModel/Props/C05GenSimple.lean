import GeosModel.Proofs.Valid.GenBridge
import GeosModel.Proofs.Valid.SimplePair
import GeosModel.Generated.ValidSimplePair
/-!
# C05 — the regenerated per-pair decision of `IsSimpleOp` is the model, and the model is the reference's simplicity rule

`Generated/ValidSimplePair.lean` is rewritten from `src/operation/valid/IsSimpleOp.cpp` (`NonSimpleIntersectionFinder::findIntersection`,
`isIntersectionEndpoint`, `intersectionVertexIndex`) and `CoordinateXY::equals2D` by `translate/cxx2lean.py` (spec `valid_simple_pair`) on
every run.  Segment strings are instantiated with `Valid.LineStr` (identity, `isClosed()`, points) — ALL line strings and segment
indices; the `LineIntersector` is any type whose observers report the exact classification (`ValidGen.LISimpleExact`, satisfiable:
`LIw.exact`; the real intersector's exactness on the grid is C02's subject).  `gen_findIntersection_eq` proves the regenerated
function equal to the hand-written model `Valid.findIntersection` (Model/Valid/SimplePair.lean);
`gen_findIntersection_eq_not_simplePair` adds `Valid.findIntersection_eq_not_simplePair`: under the Mod-2 rule the code generated
from the current source reports an intersection exactly when the reference evaluator's `simplePair` forbids the pair.
-/
namespace GeosModel.C05GenSimple
open GeosModel GeosModel.Kernel GeosModel.Valid GeosModel.Generated GeosModel.ValidGen

theorem gen_equals2D_eq (a b : Pt) : ValidSimplePair.equals2D a.x a.y (xy b) = (a == b) := by
  unfold ValidSimplePair.equals2D
  apply Bool.eq_iff_iff.mpr
  rw [Pt.beq_iff]
  cases a; cases b
  simp [Cxx.ne]

/-- `intersectionVertexIndex` for an intersector that has just computed the pair and reports the touch point `x` -/
theorem gen_intersectionVertexIndex_eq {LI : Type} (liGet : LI → Nat → Cxx.XY Int) (liEnd : LI → Nat → Nat → Cxx.XY Int) (l : LI) (seg : Nat)
    (x e : Pt) (hg : liGet l 0 = xy x) (he : liEnd l seg 0 = xy e) :
    ValidSimplePair.intersectionVertexIndex liGet liEnd l seg = if x == e then 0 else 1 := by
  unfold ValidSimplePair.intersectionVertexIndex
  simp [hg, he, gen_equals2D_eq]

theorem gen_isIntersectionEndpoint_eq {LI : Type} (liGet : LI → Nat → Cxx.XY Int) (liEnd : LI → Nat → Nat → Cxx.XY Int) (l : LI) (seg : Nat)
    (L : LineStr) (k : Nat) (x : Pt) (hL : 1 ≤ L.pts.length) (hg : liGet l 0 = xy x) (he : liEnd l seg 0 = xy (L.seg k).p) :
    ValidSimplePair.isIntersectionEndpoint (fun s : LineStr => s.pts.length) liGet liEnd L k l seg = Valid.isIntersectionEndpoint (L.seg k) x := by
  unfold ValidSimplePair.isIntersectionEndpoint Valid.isIntersectionEndpoint Valid.intersectionVertexIndex
  rw [gen_intersectionVertexIndex_eq liGet liEnd l seg x _ hg he]
  have hn : (L.seg k).n + 1 = L.pts.length := by simp [LineStr.seg]; omega
  have hk : (L.seg k).k = k := rfl
  rw [hn, hk]
  by_cases h : (x == (L.seg k).p) = true <;> simp [h]

theorem gen_findIntersection_eq {LI : Type}
    (liCompute : LI → Cxx.XY Int → Cxx.XY Int → Cxx.XY Int → Cxx.XY Int → LI) (liHas liInterior : LI → Bool) (liNum : LI → Nat)
    (liGet : LI → Nat → Cxx.XY Int) (liEnd : LI → Nat → Nat → Cxx.XY Int) (hli : LISimpleExact liCompute liHas liInterior liNum liGet liEnd)
    (cei : Bool) (li0 : LI) (A B : LineStr) (i j : Nat) (hA : 1 ≤ A.pts.length) (hB : 1 ≤ B.pts.length)
    (hone : segRel (A.seg i).p (A.seg i).q (B.seg j).p (B.seg j).q = .point false → ∃ x, (A.seg i).meet (B.seg j) = [x]) :
    (ValidSimplePair.findIntersection (fun a b : LineStr => a.lid == b.lid) (fun s => s.pts.length) (fun s => s.closed)
        liCompute liHas liInterior liNum liGet liEnd cei li0 A i B j (xy (A.seg i).p) (xy (A.seg i).q) (xy (B.seg j).p) (xy (B.seg j).q)).1
      = Valid.findIntersection cei (A.seg i) (B.seg j) := by
  unfold ValidSimplePair.findIntersection Valid.findIntersection
  cases hrel : segRel (A.seg i).p (A.seg i).q (B.seg j).p (B.seg j).q with
  | disjoint => simp [hli.has, hrel]
  | overlap =>
    by_cases hi : liInterior (liCompute li0 (xy (A.seg i).p) (xy (A.seg i).q) (xy (B.seg j).p) (xy (B.seg j).q)) = true <;>
      simp [hli.has, hli.num, hrel, hi]
  | point proper =>
    cases proper with
    | true => simp [hli.has, hli.interiorProper _ _ _ _ _ hrel, hrel]
    | false =>
      obtain ⟨x, hx⟩ := hone hrel
      -- what the intersector reports for the touch point `x` (`hg`, `hI`, `hH`, `hNm`) and the two end-point tests (`e0`, `e1`) are
      -- rewritten to the model's terms; the fields the C++ reads from the strings are those of the segments `s`, `t`; after that the
      -- two decision chains are the same tests in the same order, which the last `simp` checks
      have hx' : meet (A.seg i).p (A.seg i).q (B.seg j).p (B.seg j).q = [x] := by rw [← lmeet_eq]; exact hx
      have hg := hli.get li0 _ _ _ _ x hrel hx'
      have e0 := gen_isIntersectionEndpoint_eq liGet liEnd _ 0 A i x hA hg (hli.end0 li0 _ _ _ _)
      have e1 := gen_isIntersectionEndpoint_eq liGet liEnd _ 1 B j x hB hg (hli.end1 li0 _ _ _ _)
      have hI := hli.interiorTouch li0 _ _ _ _ x hrel hx'
      have hH := hli.has li0 (A.seg i).p (A.seg i).q (B.seg j).p (B.seg j).q
      have hNm := hli.num li0 (A.seg i).p (A.seg i).q (B.seg j).p (B.seg j).q
      simp only [hx, e0, e1]
      have h1 : (A.lid == B.lid) = ((A.seg i).lid == (B.seg j).lid) := rfl
      have h2 : A.closed = (A.seg i).closed := rfl
      have h3 : B.closed = (B.seg j).closed := rfl
      have h4 : (A.seg i).k = i := rfl
      have h5 : (B.seg j).k = j := rfl
      rw [h1, h2, h3]
      generalize A.seg i = s at *
      generalize B.seg j = t at *
      subst h4 h5
      rw [hrel] at hH hNm
      simp [hH, hNm, hI, Valid.isInteriorIntersection, apply_ite Prod.fst]

/-- **the regenerated per-pair decision of `IsSimpleOp` is the reference's simplicity rule** (Mod-2 boundary rule): for coherent pairs of
distinct segments of de-duplicated lines, the code generated from the current `IsSimpleOp.cpp` finds an intersection exactly when
`Valid.simplePair` forbids the pair -/
theorem gen_findIntersection_eq_not_simplePair {LI : Type}
    (liCompute : LI → Cxx.XY Int → Cxx.XY Int → Cxx.XY Int → Cxx.XY Int → LI) (liHas liInterior : LI → Bool) (liNum : LI → Nat)
    (liGet : LI → Nat → Cxx.XY Int) (liEnd : LI → Nat → Nat → Cxx.XY Int) (hli : LISimpleExact liCompute liHas liInterior liNum liGet liEnd)
    (li0 : LI) (A B : LineStr) (i j : Nat) (hA : 1 ≤ A.pts.length) (hB : 1 ≤ B.pts.length)
    (hone : segRel (A.seg i).p (A.seg i).q (B.seg j).p (B.seg j).q = .point false → ∃ x, (A.seg i).meet (B.seg j) = [x])
    (hw : LPairWF (A.seg i) (B.seg j)) :
    (ValidSimplePair.findIntersection (fun a b : LineStr => a.lid == b.lid) (fun s => s.pts.length) (fun s => s.closed)
        liCompute liHas liInterior liNum liGet liEnd true li0 A i B j (xy (A.seg i).p) (xy (A.seg i).q) (xy (B.seg j).p) (xy (B.seg j).q)).1
      = !simplePair (A.seg i) (B.seg j) := by
  rw [gen_findIntersection_eq liCompute liHas liInterior liNum liGet liEnd hli true li0 A B i j hA hB hone,
    Valid.findIntersection_eq_not_simplePair _ _ hw]

/-! non-vacuity: the regenerated code run with the exact intersector `LIw`: a T-junction of two lines (non-simple), two lines meeting end
to end (simple), the same with one of them closed (non-simple under the Mod-2 rule), a ring closing on itself (simple) -/
def runSimple (A B : LineStr) (i j : Nat) : Bool :=
  (ValidSimplePair.findIntersection (fun a b : LineStr => a.lid == b.lid) (fun s => s.pts.length) (fun s => s.closed)
      LIw.compute (fun l => l.rel != .disjoint) LIw.interior LIw.num LIw.get LIw.endpoint true {} A i B j
      (xy (A.seg i).p) (xy (A.seg i).q) (xy (B.seg j).p) (xy (B.seg j).q)).1
example : runSimple ⟨0, false, [⟨0, 0⟩, ⟨10, 0⟩]⟩ ⟨1, false, [⟨5, 0⟩, ⟨5, 5⟩]⟩ 0 0 = true := by decide
example : runSimple ⟨0, false, [⟨0, 0⟩, ⟨10, 0⟩]⟩ ⟨1, false, [⟨10, 0⟩, ⟨15, 5⟩]⟩ 0 0 = false := by decide
example : runSimple ⟨0, false, [⟨0, 0⟩, ⟨10, 0⟩]⟩ ⟨1, true, [⟨10, 0⟩, ⟨15, 5⟩, ⟨15, -5⟩, ⟨10, 0⟩]⟩ 0 0 = true := by decide
example : runSimple ⟨0, true, [⟨0, 0⟩, ⟨10, 0⟩, ⟨0, 10⟩, ⟨0, 0⟩]⟩ ⟨0, true, [⟨0, 0⟩, ⟨10, 0⟩, ⟨0, 10⟩, ⟨0, 0⟩]⟩ 0 2 = false := by decide

end GeosModel.C05GenSimple
