import GeosModel.Proofs.Kernel.GenBridge
import GeosModel.Proofs.Kernel.SegSegCorrect
import GeosModel.Props.C07
/-!
# C07 — the regenerated planar kernels are the models the theorems of `Props/C07.lean` are about

`Generated/KernelC07.lean` is rewritten on every run by `translate/cxx2lean.py` (spec `kernel_c07`) from the current
`Coordinate.h`, `Envelope.h/.cpp`, `RayCrossingCounter.cpp`, `PointLocation.cpp`, `SimplePointInAreaLocator.cpp`, `Orientation.cpp`,
`CGAlgorithmsDD.h/.cpp`, `DD.h/.cpp` and `LineIntersector.h`, statement by statement (constants `FAILURE/RIGHT/LEFT/STRAIGHT`, `Orientation::COLLINEAR`,
`NO/POINT/COLLINEAR_INTERSECTION`, `DD::SPLIT` are read from the headers; the texts of the `DD` constructors and of the default
`CoordinateXY` are checked).  Every theorem below proves a regenerated function equal to the hand-written model for **all**
arguments:

* over exact integers (`R := Int`, points `xy p`), with the exact orientation sign `Kernel.orient` in the place of
  `Orientation::index` / `CGAlgorithmsDD::orientationIndex(p1, p2, q)` — the ray-crossing counter, the envelope and
  on-segment tests, `SimplePointInAreaLocator::locatePointInSurface`, `LineIntersector::computeIntersect` with
  `computeCollinearIntersection` (models `RayCount`, `PolyLocate`, `SegSeg`);
* over dyadic rationals rounded by an **arbitrary** function `rnd` after every `+ − ×` (`R := Rd rnd`; `rnd = roundNE` is
  IEEE binary64) — `orientationIndexFilter`, `DD::selfAdd`, `DD::selfMultiply`, the operators `+ − *` and `< >` on `DD`,
  `OrientationDD` and `CGAlgorithmsDD::orientationIndex` (model `Filter`).

The last section composes the bridge with `C07.orientationIndex_exact_grid`: the regenerated `orientationIndex`, run on
round-to-nearest-even arithmetic, returns the exact orientation on the `2^25` grid.
-/
namespace GeosModel.C07Gen
open GeosModel GeosModel.Kernel GeosModel.Filter GeosModel.Generated GeosModel.C07Bridge

/-! ## coordinates and envelopes (exact integers) -/

-- the C++ comparison operators and `std::min` / `std::max` on the exact carrier, in every proof below (so that rewrites of the
-- C++ between `a > b ? a : b`, `std::max(a, b)`, `b < a`, … do not matter)
attribute [local simp] Cxx.min_int Cxx.max_int Cxx.gt Cxx.ge Cxx.ne Int.min_def Int.max_def

/-- `CoordinateXY::equals2D` -/
theorem gen_equals2D_eq (a b : Pt) : KernelC07.equals2D (R := Int) a.x a.y (xy b) = decide (a = b) := by
  cases a; cases b
  simp [KernelC07.equals2D, Cxx.ne]

/-- `operator==(CoordinateXY, CoordinateXY)` -/
theorem gen_xyEq_eq (a b : Pt) : KernelC07.xyEq (R := Int) (xy a) (xy b) = decide (a = b) := by
  simp [KernelC07.xyEq, gen_equals2D_eq]

attribute [local simp] gen_equals2D_eq gen_xyEq_eq

/-- `Envelope::intersects(p1, p2, q)` is the box test of `PointLocation::isOnSegment` … -/
theorem gen_envIntersectsPt_eq (p1 p2 q : Pt) :
    KernelC07.envIntersectsPt (R := Int) (xy p1) (xy p2) (xy q) = RayCount.envIntersectsPt p1 p2 q := by
  simp [KernelC07.envIntersectsPt, RayCount.envIntersectsPt, Bool.and_assoc]

/-- … and of `computeCollinearIntersection` -/
theorem gen_envPt_eq (p1 p2 q : Pt) :
    KernelC07.envIntersectsPt (R := Int) (xy p1) (xy p2) (xy q) = SegSeg.envPt p1 p2 q := by
  -- `SegSeg.envPt` and `RayCount.envIntersectsPt` are the same text
  exact gen_envIntersectsPt_eq p1 p2 q

/-- `Envelope::intersects(p1, p2, q1, q2)` -/
theorem gen_envIntersectsSeg_eq (p1 p2 q1 q2 : Pt) :
    KernelC07.envIntersectsSeg (R := Int) (xy p1) (xy p2) (xy q1) (xy q2) = SegSeg.envIntersects p1 p2 q1 q2 := by
  simp [KernelC07.envIntersectsSeg, SegSeg.envIntersects]

/-! ## ray crossing counter, point location (exact integers) -/

/-- `RayCrossingCounter::countSegment`: the two members after the call are the model's state -/
theorem gen_countSegment_eq (p : Pt) (st : RayCount.RCC) (p1 p2 : Pt) :
    KernelC07.countSegment (R := Int) orientXY (xy p) st.onSeg st.count (xy p1) (xy p2)
      = ((RayCount.countSegment p st p1 p2).onSeg, (RayCount.countSegment p st p1 p2).count) := by
  cases st
  -- the same five tests in the same order; the C++ assigns `minx/maxx` and flips `sign` in place where the model has an `if`
  -- inside the comparison, and that reshuffling of nested `if`s is all that is left after `simp`
  simp [KernelC07.countSegment, RayCount.countSegment] <;> grind

/-- `RayCrossingCounter::getLocation` -/
theorem gen_getLocation_eq (st : RayCount.RCC) :
    KernelC07.getLocation st.onSeg st.count = RayCount.getLocation st := by
  simp [KernelC07.getLocation, RayCount.getLocation]

/-- `RayCrossingCounter::isPointInPolygon`: not EXTERIOR -/
theorem gen_isPointInPolygon_eq (st : RayCount.RCC) :
    KernelC07.isPointInPolygon st.onSeg st.count = (RayCount.getLocation st != .exterior) := by
  simp [KernelC07.isPointInPolygon, gen_getLocation_eq]

/-- `PointLocation::isOnSegment` -/
theorem gen_isOnSegment_eq (p p0 p1 : Pt) :
    KernelC07.isOnSegment (R := Int) orientXY (xy p) (xy p0) (xy p1) = RayCount.isOnSegment p p0 p1 := by
  simp [KernelC07.isOnSegment, RayCount.isOnSegment, gen_envIntersectsPt_eq, gen_equals2D_eq, BEq.comm (a := (0 : Int))]

/-- `Orientation::index(p1, p2, q)` delegates to `CGAlgorithmsDD::orientationIndex(p1, p2, q)` with the arguments in order -/
theorem gen_orientationIndexOf_eq {R : Type} [Cxx.Ord R] (f : Cxx.XY R → Cxx.XY R → Cxx.XY R → Int) (p1 p2 q : Cxx.XY R) :
    KernelC07.orientationIndexOf f p1 p2 q = f p1 p2 q := by
  simp [KernelC07.orientationIndexOf]

/-! ## the loops: ring, line, holes (exact integers) -/

/-- `RayCrossingCounter::isOnSegment()` reads the member -/
theorem gen_rccIsOnSegment_eq (b : Bool) : KernelC07.rccIsOnSegment b = b := by
  simp [KernelC07.rccIsOnSegment]

/-- `RayCrossingCounter::locatePointInRing(p, ring)`: a fresh counter, every consecutive pair of the sequence through
`countSegment`, stop at the first segment the point is on, `getLocation` — the model `RayCount.locatePointInRing`
(whose equality with the specification on closed rings is `rayCount_correct`), for every sequence of every length -/
theorem gen_locatePointInRing_eq (p : Pt) (ring : List Pt) :
    KernelC07.locatePointInRing (R := Int) orientXY (xy p) (ring.map xy) = RayCount.locatePointInRing p ring := by
  cases ring with
  | nil => simp [KernelC07.locatePointInRing, RayCount.locatePointInRing, RayCount.locLoop, KernelC07.rccMk]; rfl
  | cons a rest =>
  have hgen : ∀ (q u v : Cxx.XY Int) (b : Bool) (n : Nat), KernelC07.countSegment orientXY q b n u v
      = ((RayCount.countSegment (unxy q) ⟨b, n⟩ (unxy u) (unxy v)).onSeg, (RayCount.countSegment (unxy q) ⟨b, n⟩ (unxy u) (unxy v)).count) := by
    intro q u v b n; rw [← gen_countSegment_eq]; rfl
  have hloc : ∀ (b : Bool) (n : Nat), KernelC07.getLocation b n = RayCount.getLocation ⟨b, n⟩ := fun b n => gen_getLocation_eq ⟨b, n⟩
  have hB := locLoop_fold p rest a RayCount.RCC.init rfl
  simp only [List.map_cons, RayCount.RCC.init] at hB
  -- unfold the `do` block: a `forIn` over `List.range' 1 rest.length`, then `getLocation` of the state it leaves
  simp [KernelC07.locatePointInRing, KernelC07.rccMk]
  -- whatever the regenerated loop body looks like: if it does what `ringStep` does, the loop is the fold over the segments
  rw [← List.length_map (f := xy), forIn_range_pairs_of_body ⟨0, 0⟩ ringStep (xy a) (rest.map xy) _ _ (by
    intro i s
    simp [ringStep, KernelC07.seqAt, hgen, hloc, KernelC07.rccIsOnSegment]), hB]
  -- the loop leaves `⟨xy p, onSeg, count⟩` with `onSeg = false` written out, the model the state itself: eta for `RCC`
  have heta : ∀ r : RayCount.RCC, r.onSeg = false → (⟨false, r.count⟩ : RayCount.RCC) = r := by
    rintro ⟨_, _⟩ rfl; rfl
  by_cases h : (RayCount.locLoop p ⟨false, 0⟩ (a :: rest)).onSeg = true
  · simp [h, RayCount.locatePointInRing, RayCount.RCC.init]
  · have h' : (RayCount.locLoop p ⟨false, 0⟩ (a :: rest)).onSeg = false := by simpa using h
    simp [h', hloc, heta _ h', RayCount.locatePointInRing, RayCount.RCC.init]

/-- `PointLocation::locateInRing(p, ring)` delegates -/
theorem gen_locateInRing_eq (p : Pt) (ring : List Pt) :
    KernelC07.locateInRing (R := Int) orientXY (xy p) (ring.map xy) = RayCount.locatePointInRing p ring := by
  simp [KernelC07.locateInRing, gen_locatePointInRing_eq]

/-- `PointLocation::isOnLine(p, line)` -/
theorem gen_isOnLine_eq (p : Pt) (ring : List Pt) :
    KernelC07.isOnLine (R := Int) orientXY (xy p) (ring.map xy) = RayCount.isOnLine p ring := by
  cases ring with
  | nil => simp [KernelC07.isOnLine, RayCount.isOnLine]
  | cons a rest =>
    have hB := isOnLine_fold p a rest
    simp only [List.map_cons] at hB
    have hgen : ∀ u v : Cxx.XY Int, KernelC07.isOnSegment orientXY (xy p) u v = RayCount.isOnSegment p (unxy u) (unxy v) := by
      intro u v; rw [← gen_isOnSegment_eq]; rfl
    simp [KernelC07.isOnLine]
    -- whatever the regenerated loop body looks like: if it does what `lineStep` does, the loop is the fold over the segments
    rw [← List.length_map (f := xy), forIn_range_pairs_of_body ⟨0, 0⟩ (lineStep p) (xy a) (rest.map xy) _ _ (by
      intro i s; simp [lineStep, KernelC07.seqAt, hgen]), hB]
    cases RayCount.isOnLine p (a :: rest) <;> rfl

/-- `SimplePointInAreaLocator::locatePointInSurface(p, surface)`: with a polygon given as the list of its rings (the surface's
envelope that of the shell, a ring's envelope that of its vertices, both ring locators the model's `locatePointInRing`) the
regenerated skeleton — empty test, envelope reject, shell test, hole loop with per-hole envelope test and early exits — is
`PolyLocate.locatePointInPolygon`, the object of `polygon_locate_correct` -/
theorem gen_locatePointInSurface_eq (p : Pt) (rings : List (List Pt)) :
    KernelC07.locatePointInSurface (R := Int) (Sf := List (List Pt)) (Cv := List Pt) (En := List Pt)
        (fun s => s.isEmpty) (fun s => s.headD []) (fun e q => PolyLocate.envContains e (unxy q)) (fun s => s.headD [])
        (fun q c => RayCount.locatePointInRing (unxy q) c) (fun s => s.tail.length) (fun s i => s.tail.getD i []) (fun c => c)
        (fun q c => RayCount.locatePointInRing (unxy q) c) (xy p) rings
      = PolyLocate.locatePointInPolygon p rings := by
  cases rings with
  | nil => simp [KernelC07.locatePointInSurface, PolyLocate.locatePointInPolygon]
  | cons shell holes =>
    simp [KernelC07.locatePointInSurface, PolyLocate.locatePointInPolygon]
    -- whatever the regenerated loop body looks like: if it does what `holeStep` does, the loop is the fold over the holes
    rw [forIn_range_elems_of_body [] (holeStep p) holes _ _ (by
      intro i s
      rcases hl : RayCount.locatePointInRing p (holes[i]?.getD []) <;>
        cases he : PolyLocate.envContains (holes[i]?.getD []) p <;> simp [holeStep, hl, he]), holesLoop_fold p holes]
    by_cases he : PolyLocate.envContains shell p = false
    · simp [he]
    · rcases hl : RayCount.locatePointInRing p shell <;> simp [he]
      rcases PolyLocate.holesLoop p holes <;> rfl

/-! ## `LineIntersector` (exact integers) -/

/-- `zmGetOrInterpolateCopy(p, ·, ·)` has the x and y of `p` (Z/M are outside the model) -/
theorem gen_zmGetOrInterpolateCopy_eq (p a b : Cxx.XY Int) : KernelC07.zmGetOrInterpolateCopy p a b = p := by
  simp [KernelC07.zmGetOrInterpolateCopy]

/-- `LineIntersector::computeCollinearIntersection`: result code and the two `intPt` members (previous values `i0`, `i1`
where the C++ assigns nothing) -/
theorem gen_computeCollinearIntersection_eq (i0 i1 : Cxx.XY Int) (p1 p2 q1 q2 : Pt) :
    KernelC07.computeCollinearIntersection (R := Int) i0 i1 (xy p1) (xy p2) (xy q1) (xy q2)
      = ((SegSeg.computeCollinearIntersection p1 p2 q1 q2).code,
         ((SegSeg.computeCollinearIntersection p1 p2 q1 q2).pts.map xy).getD 0 i0,
         ((SegSeg.computeCollinearIntersection p1 p2 q1 q2).pts.map xy).getD 1 i1) := by
  -- both sides are the same chain of tests on the four in-envelope flags
  simp only [KernelC07.computeCollinearIntersection, SegSeg.computeCollinearIntersection, gen_envPt_eq, gen_xyEq_eq,
    gen_zmGetOrInterpolateCopy_eq, Bool.and_eq_true, decide_eq_true_eq, and_assoc]
  iterate 6
    refine ite_eq_apply (fun m : SegSeg.LI => (m.code, (m.pts.map xy).getD 0 i0, (m.pts.map xy).getD 1 i1))
      (fun _ => rfl) fun _ => ?_
  rfl

/-- `LineIntersector::computeIntersect`: the result code, `isProperVar` and the `intPt` members are those of the model
(`liMembers`), for every previous state of the members and whatever `intersection(p1, p2, q1, q2)` returns -/
theorem gen_computeIntersect_eq (inter : Cxx.XY Int → Cxx.XY Int → Cxx.XY Int → Cxx.XY Int → Cxx.XY Int)
    (pv0 : Bool) (i0 i1 : Cxx.XY Int) (p1 p2 q1 q2 : Pt) :
    KernelC07.computeIntersect (R := Int) orientXY inter pv0 i0 i1 (xy p1) (xy p2) (xy q1) (xy q2)
      = liMembers (KernelC07.xyMk (inter (xy p1) (xy p2) (xy q1) (xy q2)).x (inter (xy p1) (xy p2) (xy q1) (xy q2)).y) i0 i1
          (SegSeg.computeIntersect p1 p2 q1 q2) := by
  -- the four orientation indices as variables, on both sides; then the two sides are the same chain of tests
  simp only [KernelC07.computeIntersect]
  generalize ha : orientXY (xy p1) (xy p2) (xy q1) = a
  generalize hb : orientXY (xy p1) (xy p2) (xy q2) = b
  generalize hc : orientXY (xy q1) (xy q2) (xy p1) = c
  generalize hd : orientXY (xy q1) (xy q2) (xy p2) = d
  rw [orientXY_xy] at ha hb hc hd
  simp only [SegSeg.computeIntersect, ha, hb, hc, hd, gen_envIntersectsSeg_eq, xy_x, xy_y, gen_equals2D_eq,
    gen_computeCollinearIntersection_eq, Bool.or_eq_true, Bool.and_eq_true, decide_eq_true_eq, beq_iff_eq, and_assoc, or_assoc]
  iterate 3 refine ite_eq_apply (liMembers _ i0 i1) (fun _ => rfl) fun _ => ?_
  refine ite_eq_apply (liMembers _ i0 i1) (fun _ => ?_) fun _ => ?_
  · simp only [liMembers, SegSeg.collinear_not_proper]; rfl
  refine ite_eq_apply (liMembers _ i0 i1) (fun hz => ?_) fun _ => rfl
  -- the endpoint branch: the C++ ends with a test of `Qp2 == 0` that cannot fail, the model with `p2`
  iterate 7 refine ite_eq_apply (fun p : Pt => liMembers _ i0 i1 ⟨1, false, [p], none⟩) (fun _ => rfl) fun _ => ?_
  rw [if_pos (by omega)]; rfl

/-! ## orientation: filter and double-double arithmetic (dyadic rationals, any rounding) -/

section
variable (rnd : Dy → Dy)

/-- `CGAlgorithmsDD::orientationIndexFilter` (including the value of its literal `3.3306690621773724e-16`) -/
theorem gen_orientationIndexFilter_eq (pax pay pbx pby pcx pcy : Dy) :
    KernelC07.orientationIndexFilter (R := Rd rnd) ⟨pax⟩ ⟨pay⟩ ⟨pbx⟩ ⟨pby⟩ ⟨pcx⟩ ⟨pcy⟩
      = Filter.orientationIndexFilter rnd pax pay pbx pby pcx pcy := by
  -- the arithmetic is the same term by term (`filterTrace`); what differs is how comparisons are spelled: the C++ tests
  -- `abs(det) >= error` and returns `(det > 0) - (det < 0)` through `Dy.lt`, i.e. the sign of the mantissa of a difference
  -- with zero (`sub_zero_left_m`, `sub_zero_right_m`), the model through `Dy.ge` and `signIdx`; `grind` matches the sign cases
  simp [KernelC07.orientationIndexFilter, Filter.orientationIndexFilter, orientationIndexFilterC, filterTrace, signIdx, FAILURE,
    errCoef_literal, Dy.lt, sub_zero_left_m, sub_zero_right_m] <;> grind

/-- `DD::selfAdd(double, double)`: the members `hi`, `lo` after the call -/
theorem gen_selfAdd_eq (x : DD) (yhi ylo : Dy) :
    KernelC07.selfAdd (R := Rd rnd) ⟨x.hi⟩ ⟨x.lo⟩ ⟨yhi⟩ ⟨ylo⟩
      = (⟨(DD.selfAdd rnd x yhi ylo).hi⟩, ⟨(DD.selfAdd rnd x yhi ylo).lo⟩) := by
  rfl

/-- `DD::selfMultiply(double, double)` (including `DD::SPLIT`) -/
theorem gen_selfMultiply_eq (x : DD) (yhi ylo : Dy) :
    KernelC07.selfMultiply (R := Rd rnd) ⟨x.hi⟩ ⟨x.lo⟩ ⟨yhi⟩ ⟨ylo⟩
      = (⟨(DD.selfMultiply rnd x yhi ylo).hi⟩, ⟨(DD.selfMultiply rnd x yhi ylo).lo⟩) := by
  rfl

/-- `operator+(DD, DD)` via `DD::selfAdd(const DD&)` -/
theorem gen_ddAdd_eq (x y : DD) : KernelC07.ddAdd (ddv rnd x) (ddv rnd y) = ddv rnd (DD.add rnd x y) := by
  simp [KernelC07.ddAdd, KernelC07.selfAddDD, KernelC07.ddMk, gen_selfAdd_eq, DD.add, ddv]

/-- `operator*(DD, DD)` via `DD::selfMultiply(const DD&)` -/
theorem gen_ddMul_eq (x y : DD) : KernelC07.ddMul (ddv rnd x) (ddv rnd y) = ddv rnd (DD.mul rnd x y) := by
  simp [KernelC07.ddMul, KernelC07.selfMultiplyDD, KernelC07.ddMk, gen_selfMultiply_eq, DD.mul, ddv]

/-- `operator-(DD, DD)` via `DD::selfSubtract(const DD&)`: `selfAdd(-1*d.hi, -1*d.lo)` -/
theorem gen_ddSub_eq (x y : DD) : KernelC07.ddSub (ddv rnd x) (ddv rnd y) = ddv rnd (DD.sub rnd x y) := by
  simp [KernelC07.ddSub, KernelC07.selfSubtractDD, KernelC07.ddMk, gen_selfAdd_eq, DD.sub, ddv, negOne_literal]

/-- `OrientationDD` with `DD::operator<`, `DD::operator>` against `DD(0.0)` -/
theorem gen_orientationDD_eq (d : DD) : KernelC07.orientationDD (ddv rnd d) = Filter.orientationDD d := by
  simp [KernelC07.orientationDD, KernelC07.ddLt, KernelC07.ddGt, KernelC07.ddOfDouble, Filter.orientationDD,
    Dy.lt, Dy.eqv, Dy.isNeg, Dy.isPos, Dy.isZero, sub_zero_left_m, sub_zero_right_m, Dy.mk']

/-- `CGAlgorithmsDD::orientationIndex(p1x, p1y, p2x, p2y, qx, qy)` on finite arguments (every dyadic rational is finite):
the filter's answer unless it is `FAILURE`, else the double-double evaluation — never an exception -/
theorem gen_orientationIndex_eq (p1x p1y p2x p2y qx qy : Dy) :
    KernelC07.orientationIndex (R := Rd rnd) (fun _ => true) ⟨p1x⟩ ⟨p1y⟩ ⟨p2x⟩ ⟨p2y⟩ ⟨qx⟩ ⟨qy⟩
      = .ok (Filter.orientationIndex rnd p1x p1y p2x p2y qx qy) := by
  simp [KernelC07.orientationIndex, Filter.orientationIndex, orientationIndexDD, gen_orientationIndexFilter_eq, ddOfDouble_eq,
    gen_ddAdd_eq, gen_ddMul_eq, gen_ddSub_eq, gen_orientationDD_eq]
  split <;> rfl

/-- … and a non-finite `q` (whatever "finite" means for the carrier) makes it throw before anything is computed -/
theorem gen_orientationIndex_throws (isFinite : Rd rnd → Bool) (p1x p1y p2x p2y qx qy : Rd rnd)
    (h : isFinite qx = false ∨ isFinite qy = false) :
    KernelC07.orientationIndex (R := Rd rnd) isFinite p1x p1y p2x p2y qx qy = .error "IllegalArgumentException" := by
  rcases h with h | h <;> simp [KernelC07.orientationIndex, h] <;> rfl

/-- `CGAlgorithmsDD::orientationIndex(p1, p2, q)` passes the six ordinates in order -/
theorem gen_orientationIndexXY_eq (isFinite : Rd rnd → Bool) (p1 p2 q : Cxx.XY (Rd rnd)) :
    KernelC07.orientationIndexXY isFinite p1 p2 q = KernelC07.orientationIndex isFinite p1.x p1.y p2.x p2.y q.x q.y := by
  simp [KernelC07.orientationIndexXY]

end

/-! ## the regenerated orientation index is exact on the grid -/

/-- **the current C++ text of `CGAlgorithmsDD::orientationIndex`**, read with IEEE round-to-nearest-even after every
`+ − ×`, returns the exact sign of the determinant for all grid points (coordinates of at most `2^25` units, any unit `2^k`) -/
theorem gen_orientationIndex_exact_grid (k : Int) {a b c : Pt}
    (ha : OnGrid gridBound a) (hb : OnGrid gridBound b) (hc : OnGrid gridBound c) :
    KernelC07.orientationIndexXY (R := Rd roundNE) (fun _ => true)
        ⟨⟨ofGrid k a.x⟩, ⟨ofGrid k a.y⟩⟩ ⟨⟨ofGrid k b.x⟩, ⟨ofGrid k b.y⟩⟩ ⟨⟨ofGrid k c.x⟩, ⟨ofGrid k c.y⟩⟩
      = .ok (orient a b c) := by
  rw [gen_orientationIndexXY_eq, gen_orientationIndex_eq]
  exact congrArg _ (C07.orientationIndex_exact_grid k ha hb hc)

/-! ## non-vacuity: the regenerated code runs -/

-- a left turn decided by the filter, a tie that goes through the double-double path, a non-finite argument
example : KernelC07.orientationIndexFilter (R := Rd roundNE) ⟨ofGrid 0 0⟩ ⟨ofGrid 0 0⟩ ⟨ofGrid 0 4⟩ ⟨ofGrid 0 0⟩ ⟨ofGrid 0 0⟩ ⟨ofGrid 0 3⟩ = 1 := by
  decide
example : KernelC07.orientationIndexFilter (R := Rd roundNE) ⟨ofGrid 7 0⟩ ⟨ofGrid 7 0⟩ ⟨ofGrid 7 4⟩ ⟨ofGrid 7 4⟩ ⟨ofGrid 7 2⟩ ⟨ofGrid 7 2⟩ = 2 := by
  decide
example : KernelC07.orientationIndex (R := Rd roundNE) (fun _ => true) ⟨ofGrid 7 0⟩ ⟨ofGrid 7 0⟩ ⟨ofGrid 7 4⟩ ⟨ofGrid 7 4⟩ ⟨ofGrid 7 2⟩ ⟨ofGrid 7 2⟩
    = .ok 0 := by
  rw [gen_orientationIndex_eq]; decide +kernel
example : KernelC07.orientationIndex (R := Rd roundNE) (fun x => x.v.m != 7) ⟨ofGrid 0 0⟩ ⟨ofGrid 0 0⟩ ⟨ofGrid 0 4⟩ ⟨ofGrid 0 0⟩ ⟨ofGrid 0 7⟩ ⟨ofGrid 0 3⟩
    = .error "IllegalArgumentException" := gen_orientationIndex_throws _ _ _ _ _ _ _ _ (Or.inl (by decide))
-- the counter: a crossing, a vertex hit, a horizontal edge through the point
example : KernelC07.countSegment (R := Int) orientXY (xy ⟨1, 1⟩) false 0 (xy ⟨4, 0⟩) (xy ⟨4, 4⟩) = (false, 1) := by decide
example : KernelC07.countSegment (R := Int) orientXY (xy ⟨4, 4⟩) false 0 (xy ⟨4, 0⟩) (xy ⟨4, 4⟩) = (true, 0) := by decide
example : KernelC07.countSegment (R := Int) orientXY (xy ⟨2, 4⟩) false 3 (xy ⟨4, 4⟩) (xy ⟨0, 4⟩) = (true, 3) := by decide
example : KernelC07.getLocation false 3 = .interior := by decide
-- the ring loop and the line loop (evaluated through the bridge: `for` over a range does not reduce in the kernel)
example : KernelC07.locatePointInRing (R := Int) orientXY (xy ⟨1, 1⟩) ([⟨0, 0⟩, ⟨4, 0⟩, ⟨4, 4⟩, ⟨0, 4⟩, ⟨0, 0⟩].map xy) = .interior := by
  rw [gen_locatePointInRing_eq]; decide
example : KernelC07.locatePointInRing (R := Int) orientXY (xy ⟨4, 4⟩) ([⟨0, 0⟩, ⟨4, 0⟩, ⟨4, 4⟩, ⟨0, 4⟩, ⟨0, 0⟩].map xy) = .boundary := by
  rw [gen_locatePointInRing_eq]; decide
example : KernelC07.isOnLine (R := Int) orientXY (xy ⟨2, 4⟩) ([⟨0, 0⟩, ⟨4, 0⟩, ⟨4, 4⟩, ⟨0, 4⟩].map xy) = true := by
  rw [gen_isOnLine_eq]; decide
-- the three result codes of the intersector, a proper crossing, a T-junction
example : (KernelC07.computeIntersect (R := Int) orientXY (fun _ _ _ _ => xy ⟨7, 7⟩) true (xy ⟨9, 9⟩) (xy ⟨8, 8⟩) (xy ⟨0, 0⟩) (xy ⟨3, 1⟩) (xy ⟨0, 1⟩) (xy ⟨2, 0⟩))
    = (1, true, xy ⟨7, 7⟩, xy ⟨8, 8⟩) := by decide
example : KernelC07.computeIntersect (R := Int) orientXY (fun _ _ _ _ => xy ⟨7, 7⟩) true (xy ⟨9, 9⟩) (xy ⟨8, 8⟩) (xy ⟨0, 0⟩) (xy ⟨4, 0⟩) (xy ⟨2, 0⟩) (xy ⟨2, 5⟩)
    = (1, false, xy ⟨2, 0⟩, xy ⟨8, 8⟩) := by decide
example : KernelC07.computeIntersect (R := Int) orientXY (fun _ _ _ _ => xy ⟨7, 7⟩) true (xy ⟨9, 9⟩) (xy ⟨8, 8⟩) (xy ⟨0, 0⟩) (xy ⟨4, 0⟩) (xy ⟨2, 0⟩) (xy ⟨6, 0⟩)
    = (2, false, xy ⟨2, 0⟩, xy ⟨4, 0⟩) := by decide
example : KernelC07.computeIntersect (R := Int) orientXY (fun _ _ _ _ => xy ⟨7, 7⟩) true (xy ⟨9, 9⟩) (xy ⟨8, 8⟩) (xy ⟨0, 0⟩) (xy ⟨4, 0⟩) (xy ⟨5, 0⟩) (xy ⟨6, 0⟩)
    = (0, false, xy ⟨9, 9⟩, xy ⟨8, 8⟩) := by decide

end GeosModel.C07Gen
