import GeosModel.Proofs.Valid.RuleOrder
import GeosModel.Proofs.Valid.GenBridge
import GeosModel.Generated.ValidRuleOrder
/-!
# C05 — the regenerated `IsValidOp` follows the rule order of the model (and of the reference evaluator)

`Generated/ValidRuleOrder.lean` is rewritten from `src/operation/valid/IsValidOp.cpp` / `IsValidOp.h` by `translate/cxx2lean.py` (spec
`valid_rule_order`) on every run: `hasInvalidError`, `isValidGeometry` and the `isValid` overloads for Point, LineString, LinearRing,
Polygon, MultiPolygon, GeometryCollection.  The individual checks are abstract procedures on the error slot `validErr`, the
geometry accessors abstract functions, the geometry type ids are read from `Geometry.h`.  The theorems prove, for EVERY
interpretation of the checks and accessors, that each overload started with a clean error slot returns `runRules` of the
hand-written order of `Model/Valid/RuleOrder.lean`: the checks in that order, each from a clean slot, the first error ends the
function (`false`, that error), no error gives (`true`, clean slot); and that `isValidGeometry` resets the slot, throws for a
null pointer and for curved types, accepts every empty geometry and dispatches on the type id.
-/
namespace GeosModel.C05GenOrder
open GeosModel GeosModel.Valid GeosModel.Generated GeosModel.ValidGen

variable {G A E : Type}

theorem gen_hasInvalidError_eq (e : Option E) : ValidRuleOrder.hasInvalidError e = e.isSome := rfl

theorem gen_isValidPoint_eq (coordsOf : G → G) (cSeq : Option E → G → Option E) (g : G) :
    ValidRuleOrder.isValidPoint coordsOf cSeq none g = runRules (pointOrder (cSeq none (coordsOf g))) :=
  checkSeq_eq [(cSeq · (coordsOf g))]

theorem gen_isValidLineString_eq (coordsOf : G → G) (cSeq : Option E → G → Option E) (cFew : Option E → G → Nat → Option E) (g : G) :
    ValidRuleOrder.isValidLineString coordsOf cSeq cFew none g =
      runRules (lineOrder (fun _ => cSeq none (coordsOf g)) (fun _ => cFew none g 2)) :=
  checkSeq_eq [(cSeq · (coordsOf g)), (cFew · g 2)]

theorem gen_isValidLinearRing_eq (coordsOf : G → G) (cSeq cClosed cSize cSimple : Option E → G → Option E) (g : G) :
    ValidRuleOrder.isValidLinearRing coordsOf cSeq cClosed cSize cSimple none g =
      runRules (ringOrder (fun _ => cSeq none (coordsOf g)) (fun _ => cClosed none g) (fun _ => cSize none g) (fun _ => cSimple none g)) :=
  checkSeq_eq [(cSeq · (coordsOf g)), (cClosed · g), (cSize · g), (cSimple · g)]

theorem gen_isValidPolygon_eq (mk : G → Bool → A) (c1 c2 c3 : Option E → G → Option E) (c4 : Option E → A → Option E)
    (c5 c6 : Option E → G → Option E) (c7 : Option E → A → Option E) (flag : Bool) (g : G) :
    ValidRuleOrder.isValidPolygon mk c1 c2 c3 c4 c5 c6 c7 flag none g =
      runRules (polygonOrder (fun _ => c1 none g) (fun _ => c2 none g) (fun _ => c3 none g) (fun _ => c4 none (mk g flag))
        (fun _ => c5 none g) (fun _ => c6 none g) (fun _ => c7 none (mk g flag))) :=
  checkSeq_eq [(c1 · g), (c2 · g), (c3 · g), (c4 · (mk g flag)), (c5 · g), (c6 · g), (c7 · (mk g flag))]

theorem gen_isValidCollection_eq (num : G → Nat) (nth : G → Nat → G) (rec : Option E → G → Bool × Option E) (g : G)
    (hrec : ∀ x, (rec none x).1 = (rec none x).2.isNone) :
    ValidRuleOrder.isValidCollection num nth rec none g = runRules (collectionOrder (num g) fun i => (rec none (nth g i)).2) := by
  unfold ValidRuleOrder.isValidCollection collectionOrder
  rw [← flatMap_single, ← List.append_nil (List.flatMap _ _), runRules_append]
  refine loop_then _ _ _ _ _ _ (fun i => ?_) (fun _ => rfl) rfl
  dsimp only
  rw [hrec]
  cases (rec none (nth g i)).2 <;> rfl

/-- loop by loop and check by check: each either ends the function with its first error, which is then also the first error of the
whole list, or leaves a clean slot for the next one -/
theorem gen_isValidMultiPolygon_eq (num : G → Nat) (nth : G → Nat → G) (mk : G → Bool → A) (c1 c2 c3 : Option E → G → Option E)
    (c4 : Option E → A → Option E) (c5 c6 cS : Option E → G → Option E) (c7 : Option E → A → Option E) (flag : Bool) (g : G) :
    ValidRuleOrder.isValidMultiPolygon num nth mk c1 c2 c3 c4 c5 c6 cS c7 flag none g =
      runRules (multiPolygonOrder (num g) (fun i => c1 none (nth g i)) (fun i => c2 none (nth g i)) (fun i => c3 none (nth g i))
        (fun _ => c4 none (mk g flag)) (fun i => c5 none (nth g i)) (fun i => c6 none (nth g i)) (fun _ => cS none g)
        (fun _ => c7 none (mk g flag))) := by
  unfold ValidRuleOrder.isValidMultiPolygon multiPolygonOrder
  simp only [List.append_assoc, List.cons_append, List.nil_append, runRules_append, runRules_cons, ← flatMap_single]
  refine loop_then _ _ _ _ _ _ (fun i => ?_) (fun _ => rfl) ?_
  · dsimp only
    cases c1 none (nth g i) with | some e => rfl | none => ?_
    cases c2 none (nth g i) with | some e => rfl | none => ?_
    cases c3 none (nth g i) <;> rfl
  dsimp only
  cases c4 none (mk g flag) with | some e => rfl | none => ?_
  rw [@if_neg (ValidRuleOrder.hasInvalidError (none : Option E) = true) _ Bool.false_ne_true]
  refine loop_then _ _ _ _ _ _ (fun i => ?_) (fun _ => rfl) ?_
  · dsimp only; cases c5 none (nth g i) <;> rfl
  dsimp only
  refine loop_then _ _ _ _ _ _ (fun i => ?_) (fun _ => rfl) ?_
  · dsimp only; cases c6 none (nth g i) <;> rfl
  dsimp only
  cases cS none g with | some e => rfl | none => ?_
  cases c7 none (mk g flag) <;> rfl

/-- the `switch` of `isValidGeometry` on the type id, with the results of the cases as variables: the cases exclude each other, so
the order in which the C++ lists them (and its explicit list of the curved types before the default) does not matter -/
theorem typeSwitch {α : Type} (sel : Int) (r0 r1 r2 r3 r4 r57 r6 u : α) :
    (if sel == 0 then r0 else if sel == 4 then r4 else if sel == 2 then r2 else if sel == 1 then r1 else if sel == 3 then r3
      else if sel == 6 then r6 else if sel == 5 then r57 else if sel == 7 then r57
      else if sel == 8 || sel == 9 || sel == 10 || sel == 11 || sel == 12 then u else u) =
    if sel = 0 then r0 else if sel = 1 then r1 else if sel = 2 then r2 else if sel = 3 then r3 else if sel = 4 then r4
      else if sel = 5 ∨ sel = 7 then r57 else if sel = 6 then r6 else u := by
  by_cases h : sel = 0 ∨ sel = 1 ∨ sel = 2 ∨ sel = 3 ∨ sel = 4 ∨ sel = 5 ∨ sel = 6 ∨ sel = 7
  · rcases h with rfl | rfl | rfl | rfl | rfl | rfl | rfl | rfl <;> rfl
  · simp only [not_or] at h
    simp only [beq_iff_eq, h, or_self, if_false, ite_self]

/-- `isValidGeometry`: the incoming error slot is discarded (`validErr.reset(nullptr)`); a null pointer throws; an empty geometry
is valid whatever its type; otherwise the type id selects the overload (MultiLineString and GeometryCollection share one);
curved types and unknown ids throw -/
theorem gen_isValidGeometry_eq (nonNull isEmpty : G → Bool) (typeId : G → Int) (num : G → Nat) (nth : G → Nat → G) (coordsOf : G → G)
    (mk : G → Bool → A) (cSeq cPoly : Option E → G → Option E) (cFew : Option E → G → Nat → Option E)
    (cClosed cSize cSimple cRC cRS : Option E → G → Option E) (cArea : Option E → A → Option E) (cHS cHN cSh : Option E → G → Option E)
    (cConn : Option E → A → Option E) (rec mpt : Option E → G → Bool × Option E) (flag : Bool) (e0 : Option E) (g : G) :
    ValidRuleOrder.isValidGeometry nonNull isEmpty typeId num nth coordsOf mk cSeq cPoly cFew cClosed cSize cSimple cRC cRS cArea cHS cHN cSh
        cConn rec mpt flag e0 g =
      if !nonNull g then .error "IllegalArgumentException"
      else if isEmpty g then .ok (true, none)
      else if typeId g = 0 then .ok (ValidRuleOrder.isValidPoint coordsOf cSeq none g)
      else if typeId g = 1 then .ok (ValidRuleOrder.isValidLineString coordsOf cSeq cFew none g)
      else if typeId g = 2 then .ok (ValidRuleOrder.isValidLinearRing coordsOf cSeq cClosed cSize cSimple none g)
      else if typeId g = 3 then .ok (ValidRuleOrder.isValidPolygon mk cPoly cRC cRS cArea cHS cHN cConn flag none g)
      else if typeId g = 4 then .ok (mpt none g)
      else if typeId g = 5 ∨ typeId g = 7 then .ok (ValidRuleOrder.isValidCollection num nth rec none g)
      else if typeId g = 6 then .ok (ValidRuleOrder.isValidMultiPolygon num nth mk cPoly cRC cRS cArea cHS cHN cSh cConn flag none g)
      else .error "UnsupportedOperationException" := by
  unfold ValidRuleOrder.isValidGeometry
  cases nonNull g
  · rfl
  cases isEmpty g
  · exact typeSwitch (typeId g) _ _ _ _ _ _ _ _
  · rfl

/-! non-vacuity: a run of the regenerated polygon sequence with concrete checks (the third check fails: the later ones are not consulted) -/
example : ValidRuleOrder.isValidPolygon (G := Nat) (A := Nat) (E := Nat) (fun g _ => g) (fun _ _ => none) (fun _ _ => none) (fun _ g => some (g + 9))
    (fun _ _ => some 5) (fun _ _ => some 2) (fun _ _ => none) (fun _ _ => some 4) false none 0 = (false, some 9) := by decide
example : ValidRuleOrder.isValidCollection (G := Nat) (E := Nat) (fun _ => 3) (fun _ i => i) (fun _ x => if x = 1 then (false, some 7) else (true, none)) none 0
    = (false, some 7) := by
  rw [gen_isValidCollection_eq _ _ _ _ (by intro x; by_cases h : x = 1 <;> simp [h])]
  decide

end GeosModel.C05GenOrder
