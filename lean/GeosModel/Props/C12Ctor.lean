import GeosModel.Model.Api.Construct
/-!
# C12, section C — the constructors that take ownership of their arguments

Theorems about `Model/Api/Construct.lean` (the decision core and the ownership choreography of
`GEOSGeom_createCollection_r`, `createPolygon_r`, `createCurvePolygon_r`, `createCompoundCurve_r` and the four constructors from
a coordinate sequence), which the stream `ctor-own` (harness/c12_own.h ↔ Driver/C12.lean) compares call by call with the
real functions: outcome, type id of the result and the fate of every argument (freed — seen by the sanitizer's free hook —,
moved — same address as the corresponding part of the result).

The ownership clause of the property ("nothing … leaks", with geos_c.h: ownership of the arguments is transferred
*whatever the outcome*) is, for these calls:

* `ctor_args_settled` — after the call, accepted or refused, every argument is freed, owned by the result, or was NULL:
  nothing is left as a bare pointer (`raw`: leaked) or in a local (`held`);
* `ctor_refused_frees_all` — a refused call has freed every non-null argument (nothing is moved into a result that does not exist);
* `ctor_accepted_moves_or_frees` — an accepted call owns or has freed every argument;
* `ctor_fates_length` — one fate per argument.

The variant "validate, then adopt in one loop" of `createCollection` (a plausible refactoring) returns the same outcome for
every argument list (`validateThenAdopt_same_outcome`) — results, error value and message cannot tell the two apart — but leaks
exactly the refused member and everything after it (`validateThenAdopt_leaks_from_refused`, `validateThenAdopt_settled_iff`).
Core Lean only.
-/
namespace GeosModel.Api.Construct

/-! ### fates -/

/-- a fate that is freed or null (what a refused call must leave behind) -/
def Fate.gone : Fate → Bool | .null | .freed => true | _ => false

theorem gone_settled (f : Fate) (h : f.gone = true) : f.settled = true := by
  cases f <;> first | rfl | cases h  -- the fate computes to `true`, or `h` is `false = true`

/-- in the hands of the constructor: adopted by a local, deleted already, or NULL — no bare pointer, nothing in a result yet -/
def Fate.inHand : Fate → Bool | .null | .held | .freed => true | _ => false

theorem inHand_adopt_init (m : Option Member) : (adopt (init m)).inHand = true := by
  cases m <;> rfl

theorem inHand_adoptOrDelete (p : Option Member → Bool) (m : Option Member) : (adoptOrDelete p m).inHand = true := by
  unfold adoptOrDelete; cases m <;> cases p _ <;> rfl

theorem del_init (m : Option Member) : del (init m) = unwind (adopt (init m)) := by
  cases m <;> rfl

theorem gone_unwind {f : Fate} (h : f.inHand = true) : (unwind f).gone = true := by
  cases f <;> first | rfl | cases h  -- the fate computes to `true`, or `h` is `false = true`

theorem settled_move {f : Fate} (h : f.inHand = true) : (move f).settled = true := by
  cases f <;> first | rfl | cases h  -- the fate computes to `true`, or `h` is `false = true`

theorem adopted (ms : List (Option Member)) :
    ((ms.map init).map adopt).length = ms.length ∧ ∀ f ∈ (ms.map init).map adopt, f.inHand = true :=
  ⟨by rw [List.length_map, List.length_map], by simp [inHand_adopt_init]⟩

theorem adoptedOrDeleted (p : Option Member → Bool) (ms : List (Option Member)) :
    (ms.map (adoptOrDelete p)).length = ms.length ∧ ∀ f ∈ ms.map (adoptOrDelete p), f.inHand = true :=
  ⟨List.length_map _, by simp [inHand_adoptOrDelete]⟩

/-! ### all constructors -/

/-- the shape every constructor's result has: it brought its `n` arguments in hand, one fate each, and then either left the
scope, which unwinds them all (every refusal, and `createPoint`, which copies the coordinates out), or moved them all into the
result -/
inductive Shape (n : Nat) : Result → Prop
  | unwound (o : Out) (st : List Fate) (hn : st.length = n) (h : ∀ f ∈ st, f.inHand = true) : Shape n ⟨o, st.map unwind⟩
  | moved (k : Int) (st : List Fate) (hn : st.length = n) (h : ∀ f ∈ st, f.inHand = true) : Shape n ⟨.ok k, st.map move⟩

theorem Shape.ite {n : Nat} {c : Prop} [Decidable c] {a b : Result} (ha : Shape n a) (hb : Shape n b) :
    Shape n (if c then a else b) := by
  split <;> assumption

theorem run_shape (c : Ctor) : Shape c.nargs c.run := by
  have h1 : ∀ f ∈ [adopt .raw], f.inHand = true := fun f hf => by rw [List.mem_singleton.mp hf]; rfl
  have un (o : Out) : Shape 1 ⟨o, [adopt .raw].map unwind⟩ := .unwound o _ rfl h1
  have mv (k : Int) : Shape 1 ⟨.ok k, [adopt .raw].map move⟩ := .moved k _ rfl h1
  cases c with
  | coll t ms =>
    obtain ⟨hn, h⟩ := adopted ms
    exact .ite (.unwound _ _ hn h) (.ite (.moved _ _ hn h) (.unwound _ _ hn h))
  | poly s hs =>
    obtain ⟨hn, h⟩ := adopted (s :: hs)
    refine .ite ?_ (.ite (.unwound _ _ hn h) (.moved _ _ hn h))
    rw [show ((s :: hs).map init).map del = (((s :: hs).map init).map adopt).map unwind by simp [del_init]]
    exact .unwound _ _ hn h
  | cpoly s hs =>
    obtain ⟨hn, h⟩ := adoptedOrDeleted isCurveArg (s :: hs)
    exact .ite (.unwound _ _ hn h) (.ite (.unwound _ _ hn h) (.moved _ _ hn h))
  | ccurve ms =>
    obtain ⟨hn, h⟩ := adoptedOrDeleted isSimpleCurveArg ms
    exact .ite (.unwound _ _ hn h) (.ite (.unwound _ _ hn h) (.moved _ _ hn h))
  | point n => exact .ite (un _) (un _)
  | line n => exact .ite (un _) (mv _)
  | ring n cl => exact .ite (un _) (.ite (mv _) (.ite (un _) (.ite (un _) (mv _))))
  | circ n => exact .ite (un _) (mv _)

theorem Shape.gone_of_err {n : Nat} {r : Result} (hr : Shape n r) (h : r.out = .err) : r.fates.all Fate.gone = true := by
  cases hr with
  | unwound o st _ hst =>
    exact List.all_eq_true.mpr fun f hf => by
      obtain ⟨g, hg, rfl⟩ := List.mem_map.mp hf
      exact gone_unwind (hst g hg)
  | moved => cases h

theorem Shape.settled {n : Nat} {r : Result} (hr : Shape n r) : r.fates.all Fate.settled = true := by
  cases hr <;> rename_i st _ hst <;>
    refine List.all_eq_true.mpr fun f hf => ?_ <;> obtain ⟨g, hg, rfl⟩ := List.mem_map.mp hf
  · exact gone_settled _ (gone_unwind (hst g hg))
  · exact settled_move (hst g hg)

theorem Shape.length {n : Nat} {r : Result} (hr : Shape n r) : r.fates.length = n := by
  cases hr <;> rename_i st hn _ <;> exact (List.length_map _).trans hn

/-- **a refused call has freed everything it was given** (no argument is owned by a result that does not exist) -/
theorem ctor_refused_frees_all (c : Ctor) (h : c.run.out = .err) : c.run.fates.all Fate.gone = true :=
  (run_shape c).gone_of_err h

/-- **whatever the outcome, no argument is leaked or left in a local**: every argument of every ownership-taking constructor
is freed, owned by the result, or was NULL -/
theorem ctor_args_settled (c : Ctor) : c.run.fates.all Fate.settled = true :=
  (run_shape c).settled

/-- one fate per argument -/
theorem ctor_fates_length (c : Ctor) : c.run.fates.length = c.nargs :=
  (run_shape c).length

/-- the form quoted by harness/c12_own.h: the predicted line of the stream `ctor-own` never contains `L` (nor a pointer still
sitting in a local) -/
theorem ctor_consumes_every_argument (c : Ctor) : Fate.raw ∉ c.run.fates ∧ Fate.held ∉ c.run.fates := by
  have h := List.all_eq_true.mp (ctor_args_settled c)
  exact ⟨fun hm => (by cases h .raw hm), fun hm => (by cases h .held hm)⟩

/-- an accepted call owns or has freed every argument -/
theorem ctor_accepted_moves_or_frees (c : Ctor) (t : Int) (_h : c.run.out = .ok t) :
    ∀ f ∈ c.run.fates, f = .moved ∨ f = .freed ∨ f = .null := by
  intro f hf
  have := List.all_eq_true.mp (ctor_args_settled c) f hf
  cases f <;> simp_all [Fate.settled]  -- the settled fates are exactly `null`, `freed`, `moved`

/-! ### the variant "validate, then adopt" -/

theorem validateThenAdoptLoop_isSome (t : Int) (ms : List (Option Member)) :
    (validateThenAdoptLoop t ms).isSome = ms.all (memberOk t) := by
  induction ms with
  | nil => rfl
  | cons m rest ih =>
    simp only [validateThenAdoptLoop, List.all_cons]
    cases hm : memberOk t m <;> simp [ih]

/-- **results, error value and message cannot tell the variant from the code**: same outcome for every argument list -/
theorem validateThenAdopt_same_outcome (t : Int) (ms : List (Option Member)) :
    (createCollectionValidateThenAdopt t ms).out = (createCollection t ms).out := by
  have h := validateThenAdoptLoop_isSome t ms
  unfold createCollectionValidateThenAdopt createCollection
  cases hv : validateThenAdoptLoop t ms <;> rw [hv] at h <;> simp [← h]
  split <;> rfl

theorem settled_init (x : Option Member) : (init x).settled = (x == none) := by
  cases x <;> rfl

/-- the members before the first refused one were adopted and are unwound; from that one on they are still what `init` made of
them, so all is settled iff they are all NULL.  (A decomposition `l1 ++ m :: l2` as in the statement is unique: `m` is the first
refused member.) -/
theorem fatesAfterThrowAt_settled_iff (t : Int) (ms : List (Option Member)) :
    (fatesAfterThrowAt t ms).all Fate.settled = true ↔
      ∀ l1 m l2, ms = l1 ++ m :: l2 → l1.all (memberOk t) = true → memberOk t m = false → (m :: l2).all (· == none) = true := by
  induction ms with
  | nil => exact ⟨fun _ l1 m l2 h => (by cases l1 <;> cases h), fun _ => rfl⟩
  | cons a rest ih =>
    unfold fatesAfterThrowAt
    cases ha : memberOk t a
    · simp only [Bool.false_eq_true, ↓reduceIte, List.all_map]
      rw [show Fate.settled ∘ init = (· == none) from funext settled_init]
      refine ⟨fun hall l1 m l2 heq hl1 hm => ?_, fun hspec => hspec [] a rest rfl rfl ha⟩
      cases l1 with
      | nil => cases heq; exact hall
      | cons b l1' => cases heq; rw [List.all_cons, ha] at hl1; cases hl1
    · simp only [↓reduceIte, List.all_cons, gone_settled _ (gone_unwind (inHand_adopt_init a)), Bool.true_and]
      rw [ih]
      refine ⟨fun hspec l1 m l2 heq hl1 hm => ?_, fun hspec l1 m l2 heq hl1 hm =>
        hspec (a :: l1) m l2 (by rw [heq]; rfl) (by rw [List.all_cons, ha, hl1]; rfl) hm⟩
      cases l1 with
      | nil => cases heq; rw [ha] at hm; cases hm
      | cons b l1' =>
        cases heq
        rw [List.all_cons, ha] at hl1
        exact hspec l1' m l2 rfl hl1 hm

/-- **the variant leaks exactly from the first refused member on**: its arguments are all settled iff the first refused member
and everything after it are NULL (otherwise a non-null refused member, or one behind it, stays a bare pointer nobody owns) -/
theorem validateThenAdopt_settled_iff (t : Int) (ms : List (Option Member)) (h : ms.all (memberOk t) = false) :
    (createCollectionValidateThenAdopt t ms).fates.all Fate.settled = true ↔
      ∀ l1 m l2, ms = l1 ++ m :: l2 → l1.all (memberOk t) = true → memberOk t m = false → (m :: l2).all (· == none) = true := by
  have hs := validateThenAdoptLoop_isSome t ms
  rw [h] at hs
  unfold createCollectionValidateThenAdopt
  cases hv : validateThenAdoptLoop t ms with
  | none => simp only []; exact fatesAfterThrowAt_settled_iff t ms
  | some st => simp [hv] at hs

/-- concretely: a point, a line, a point offered as MULTIPOINT — the code frees all three, the variant leaks the line and the
point behind it -/
theorem validateThenAdopt_leaks_from_refused :
    let pt : Option Member := some ⟨.point, false, 0, 0⟩
    let ls : Option Member := some ⟨.lineString, false, 0, 1⟩
    (createCollection tMultiPoint [pt, ls, pt]) = ⟨.err, [.freed, .freed, .freed]⟩ ∧
    (createCollectionValidateThenAdopt tMultiPoint [pt, ls, pt]) = ⟨.err, [.freed, .raw, .raw]⟩ := by
  decide +kernel

/-! ### non-vacuity -/

example : (Ctor.coll tMultiLineString [some ⟨.lineString, false, 0, 1⟩, some ⟨.linearRing, false, 2, 2⟩]).run =
    ⟨.ok 5, [.moved, .moved]⟩ := by decide +kernel
example : (Ctor.poly (some ⟨.linearRing, true, 0, 0⟩) [some ⟨.linearRing, false, 1, 1⟩]).run = ⟨.err, [.freed, .freed]⟩ := by decide +kernel
example : (Ctor.poly (some ⟨.lineString, false, 0, 1⟩) [none]).run = ⟨.err, [.freed, .null]⟩ := by decide +kernel
example : (Ctor.cpoly (some ⟨.compoundCurve, false, 0, 0⟩) [some ⟨.point, false, 1, 1⟩]).run = ⟨.err, [.freed, .freed]⟩ := by decide +kernel
example : (Ctor.ccurve [some ⟨.lineString, false, 0, 1⟩, some ⟨.circularString, false, 1, 2⟩]).run = ⟨.ok 9, [.moved, .moved]⟩ := by decide +kernel
example : (Ctor.ccurve [some ⟨.lineString, false, 0, 1⟩, some ⟨.circularString, false, 5, 2⟩]).run = ⟨.err, [.freed, .freed]⟩ := by decide +kernel
example : (Ctor.ring 3 false).run = ⟨.err, [.freed]⟩ ∧ (Ctor.ring 4 true).run = ⟨.ok 2, [.moved]⟩ ∧ (Ctor.point 1).run = ⟨.ok 0, [.freed]⟩ := by decide +kernel

end GeosModel.Api.Construct
