import GeosModel.Proofs.Distance.SpecProofs
import GeosModel.Proofs.Distance.Frechet
import GeosModel.Proofs.Distance.BBProofs
import GeosModel.Model.Distance.BB
/-!
# C08 — distance functions return the true minimum distance across all variants

Property theorems about the exact specification `GeosModel.Distance` (Model/Distance/Spec.lean) and about the
branch-and-bound search `GeosModel.STR.nnLoop` (Model/Index/STR.lean).  Points have `Int` coordinates (a grid,
or doubles scaled to a common power of two), squared distances are exact rationals `Q = num/den`, and every
statement about "all points of a segment" quantifies over rational parameters `k/n ∈ [0,1]`, written
cross-multiplied over `Int` (`paramDist2 p a b k n = n²·|p − (a + (k/n)(b−a))|²`).

The implementation is tied to this specification by the correspondence stream `distance`
(harness/c08.cpp ↔ Driver/C08.lean), which evaluates these very definitions on every generated pair.
-/
namespace GeosModel.Distance
open GeosModel.Kernel GeosModel.STR

/-! ## point – segment -/

/-- **the clamp formula is the minimum over the segment**: `pointSeg2 p a b` is (i) a lower bound of the squared
distance from `p` to `a + t(b−a)` for every rational `t = k/n ∈ [0,1]` and (ii) attained for some such `t`. -/
theorem dist2_pointSeg_exact (p a b : Pt) :
    (∀ k n : Int, 0 < n → 0 ≤ k → k ≤ n →
      (pointSeg2 p a b).num * (n * n) ≤ paramDist2 p a b k n * (pointSeg2 p a b).den) ∧
    (∃ k n : Int, 0 < n ∧ 0 ≤ k ∧ k ≤ n ∧
      (pointSeg2 p a b).num * (n * n) = paramDist2 p a b k n * (pointSeg2 p a b).den) :=
  ⟨fun k n hn hk0 hkn => pointSeg2_le p a b k n hn hk0 hkn, pointSeg2_attained p a b⟩

/-- the point–segment distance is 0 exactly when the point is `a + (k/n)(b−a)` for some `0 ≤ k ≤ n` -/
theorem spec_zero_iff_intersects_pointSeg (p a b : Pt) : (pointSeg2 p a b).num = 0 ↔ OnSegQ p a b :=
  pointSeg2_zero_iff p a b

/-! ## segment – segment -/

/-- the segment–segment distance is 0 exactly when the exact predicate `Kernel.segRel` reports contact
(or an endpoint lies on the other segment) -/
theorem spec_zero_iff_intersects_segSeg (a b c d : Pt) :
    (segSeg2 a b c d).num = 0 ↔
      (segRel a b c d ≠ .disjoint ∨ OnSegQ a c d ∨ OnSegQ b c d ∨ OnSegQ c a b ∨ OnSegQ d a b) := by
  by_cases hd : segRel a b c d = .disjoint
  · rw [segSeg2_of_disjoint hd, min4_num_zero_iff (pointSeg2_num_nonneg _ _ _) (pointSeg2_num_nonneg _ _ _)
      (pointSeg2_num_nonneg _ _ _) (pointSeg2_num_nonneg _ _ _), pointSeg2_zero_iff, pointSeg2_zero_iff,
      pointSeg2_zero_iff, pointSeg2_zero_iff]
    simp only [hd, ne_eq, not_true_eq_false, false_or]
  · rw [segSeg2_of_not_disjoint hd]; exact ⟨fun _ => .inl hd, fun _ => rfl⟩

/-- **PARTIAL** (full statement: `dist2_segSeg_full`).  `segSeg2` is a lower bound of the squared distance
between `a + (k/n)(b−a)` and `c + (j/m)(d−c)` whenever the segments are in contact according to `segRel`
(then it is 0) *or the parameter pair lies on the boundary of the unit square* (one of the two points is an
endpoint); and when `segRel` says disjoint it is attained at such a boundary pair.
Missing for the full statement: (1) for disjoint segments, an interior parameter pair is never better than
the boundary — the convexity step (the quadratic `|u + s·p − t·q|²` restricted to the ray from an interior
point towards the lines' intersection / along the common direction decreases until it leaves the square);
(2) for `segRel ≠ disjoint`, existence of a common point with rational parameters (correctness of
`Kernel.segRel`, property C07). -/
theorem dist2_segSeg_exact_partial (a b c d : Pt) :
    (∀ k n j m : Int, 0 < n → 0 ≤ k → k ≤ n → 0 < m → 0 ≤ j → j ≤ m →
      (segRel a b c d ≠ .disjoint ∨ k = 0 ∨ k = n ∨ j = 0 ∨ j = m) →
      (segSeg2 a b c d).num * ((n * m) * (n * m)) ≤ biDist2 a b c d k n j m * (segSeg2 a b c d).den) ∧
    (segRel a b c d = .disjoint →
      ∃ k n j m : Int, 0 < n ∧ 0 ≤ k ∧ k ≤ n ∧ 0 < m ∧ 0 ≤ j ∧ j ≤ m ∧ (k = 0 ∨ k = n ∨ j = 0 ∨ j = m) ∧
        (segSeg2 a b c d).num * ((n * m) * (n * m)) = biDist2 a b c d k n j m * (segSeg2 a b c d).den) := by
  constructor
  · intro k n j m hn hk0 hkn hm hj0 hjm hcase
    by_cases hd : segRel a b c d = .disjoint
    · obtain ⟨h1, h2, h3, h4⟩ := min4_le (pointSeg2 a c d) (pointSeg2 b c d) (pointSeg2 c a b) (pointSeg2 d a b)
      rw [← segSeg2_of_disjoint hd] at h1 h2 h3 h4
      rcases hcase with h | rfl | rfl | rfl | rfl
      · exact absurd hd h
      · rw [biDist2_left0]; exact lower_scaled _ a c d h1 j m hm hj0 hjm n
      · rw [biDist2_left1]; exact lower_scaled _ b c d h2 j m hm hj0 hjm k
      · rw [biDist2_right0, Int.mul_comm n m]; exact lower_scaled _ c a b h3 k n hn hk0 hkn m
      · rw [biDist2_right1, Int.mul_comm n j]; exact lower_scaled _ d a b h4 k n hn hk0 hkn j
    · rw [segSeg2_of_not_disjoint hd, Q.ofInt, Int.zero_mul, Int.mul_one]
      exact biDist2_nonneg _ _ _ _ _ _ _ _
  · intro hd
    rcases min4_mem (pointSeg2 a c d) (pointSeg2 b c d) (pointSeg2 c a b) (pointSeg2 d a b) with h | h | h | h <;>
      rw [← segSeg2_of_disjoint hd] at h
    · obtain ⟨j, m, hm, hj0, hjm, heq⟩ := pointSeg2_attained a c d
      refine ⟨0, 1, j, m, by decide, by decide, by decide, hm, hj0, hjm, Or.inl rfl, ?_⟩
      rw [biDist2_left0, h]; simp only [Int.one_mul]; exact heq
    · obtain ⟨j, m, hm, hj0, hjm, heq⟩ := pointSeg2_attained b c d
      refine ⟨1, 1, j, m, by decide, by decide, by decide, hm, hj0, hjm, Or.inr (Or.inl rfl), ?_⟩
      rw [biDist2_left1, h]; simp only [Int.one_mul]; exact heq
    · obtain ⟨k, n, hn, hk0, hkn, heq⟩ := pointSeg2_attained c a b
      refine ⟨k, n, 0, 1, hn, hk0, hkn, by decide, by decide, by decide, Or.inr (Or.inr (Or.inl rfl)), ?_⟩
      rw [biDist2_right0, h]; simp only [Int.one_mul, Int.mul_one]; exact heq
    · obtain ⟨k, n, hn, hk0, hkn, heq⟩ := pointSeg2_attained d a b
      refine ⟨k, n, 1, 1, hn, hk0, hkn, by decide, by decide, by decide, Or.inr (Or.inr (Or.inr rfl)), ?_⟩
      rw [biDist2_right1, h]; simp only [Int.one_mul, Int.mul_one]; exact heq

/-! ## geometries -/

/-- **symmetry**: `dist2 A B` and `dist2 B A` (and the facet distances) are equal as rationals -/
theorem spec_symm (A B : IGeom) : OptEqv (dist2 A B) (dist2 B A) ∧ OptEqv (facetDist2 A B) (facetDist2 B A) :=
  ⟨by
    unfold dist2
    rw [intersects_symm B A]
    by_cases h : intersects A B = true
    · simp [h, OptEqv, Q.eqv]
    · simp only [h]; exact facetDist2_symm A B,
   facetDist2_symm A B⟩

/-- **exactly 0 when and only when they intersect**: the distance is 0 iff some facets are in contact
(`segSeg2 = 0`, see `spec_zero_iff_intersects_segSeg`) or a vertex of one lies in an area of the other -/
theorem spec_zero_iff_intersects (A B : IGeom) (q : Q) (h : dist2 A B = some q) :
    q.isZero = true ↔ intersects A B = true := by
  unfold dist2 at h
  by_cases hi : intersects A B = true
  · simp only [hi, if_true, Option.some.injEq] at h
    subst h
    simp [hi, Q.isZero, Q.ofInt]
  · simp only [hi] at h
    obtain ⟨hm, _⟩ := minOver_spec qLeOK _ q h
    refine ⟨fun hz => absurd ?_ hi, fun h' => absurd h' hi⟩
    have : (facetPairs A B).any Q.isZero = true := List.any_eq_true.mpr ⟨q, hm, hz⟩
    simp [intersects, this]

/-- when the geometries do not intersect the distance is realised by a pair of facets and no pair of facets
is closer (with `dist2_pointSeg_exact`: by a vertex and a point of a segment) -/
theorem spec_is_min (A B : IGeom) (q : Q) (h : dist2 A B = some q) (hi : intersects A B = false) :
    (∃ fa ∈ facets A, ∃ fb ∈ facets B, fdist fa fb = q) ∧
    ∀ fa ∈ facets A, ∀ fb ∈ facets B, Q.le q (fdist fa fb) = true := by
  unfold dist2 at h
  simp only [hi, Bool.false_eq_true, if_false] at h
  exact facetDist2_spec A B q h

/-- the distance is undefined exactly when one side has no points -/
theorem spec_none_iff (A B : IGeom) (hi : intersects A B = false) :
    dist2 A B = none ↔ (facets A = [] ∨ facets B = []) := by
  simp only [dist2, facetDist2, hi, Bool.false_eq_true, if_false, minOver_eq_none, facetPairs]
  cases facets A <;> simp +contextual

/-! ## Hausdorff -/

/-- **max–min**: the directed Hausdorff value `h` is the distance from some sample point to its nearest facet
of `B`, and every sample point has a facet of `B` within `h` -/
theorem hausdorff_def (ps : List Pt) (B : IGeom) (h : Q) (hh : directedH2 ps B = some h) (hB : facets B ≠ []) :
    (∃ p ∈ ps, (∃ f ∈ facets B, pointSeg2 p f.1 f.2 = h) ∧ ∀ f ∈ facets B, Q.le h (pointSeg2 p f.1 f.2) = true) ∧
    (∀ p ∈ ps, ∃ f ∈ facets B, Q.le (pointSeg2 p f.1 f.2) h = true) := by
  obtain ⟨⟨row, hrow, hmem, hmin⟩, hall⟩ := maxMin_spec qLeOK _ h hh
  obtain ⟨p, hp, rfl⟩ := List.mem_map.mp hrow
  refine ⟨⟨p, hp, List.mem_map.mp hmem, fun f hf => hmin _ (List.mem_map.mpr ⟨f, hf, rfl⟩)⟩, fun p hp => ?_⟩
  obtain ⟨x, hx, hle⟩ := hall (rowOf B p) (List.mem_map.mpr ⟨p, hp, rfl⟩) (mt List.map_eq_nil_iff.mp hB)
  obtain ⟨f, hf, rfl⟩ := List.mem_map.mp hx
  exact ⟨f, hf, hle⟩

/-- the symmetric Hausdorff value is the larger of the two directed ones -/
theorem hausdorff_two_sided (n : Nat) (A B : IGeom) (x y : Q)
    (hx : directedH2 (samplePts n A) B = some x) (hy : directedH2 (samplePts n B) A = some y) :
    ∃ h, hausdorff2 n A B = some h ∧ (h = x ∨ h = y) ∧ Q.le x h = true ∧ Q.le y h = true := by
  simp only [hausdorff2, hx, hy, optMax]
  by_cases hle : Q.le x y = true
  · exact ⟨y, by simp [hle], Or.inr rfl, hle, qLeOK.refl y⟩
  · exact ⟨x, by simp [hle], Or.inl rfl, qLeOK.refl x, (Q.le_total x y).resolve_left hle⟩

/-! ## Fréchet -/

/-- **the DP equals the recursive definition** (any order `le`, any distance `d`, sequences `p₀…p_n`, `q₀…q_m`) -/
theorem frechet_dp_correct {α D : Type} (le : D → D → Bool) (d : α → α → D) (pf qf : Nat → α) (n m : Nat) :
    frechetDP le d ((List.range (n + 1)).map pf) ((List.range (m + 1)).map qf) =
      some (frechetRec le (fun i j => d (pf i) (qf j)) n m) :=
  frechetDP_eq le d pf qf _ (fun _ _ => rfl) n m

/-- the instance the driver evaluates: squared Euclidean vertex distances -/
theorem frechet2_correct (pf qf : Nat → Pt) (n m : Nat) :
    frechet2 ((List.range (n + 1)).map pf) ((List.range (m + 1)).map qf) =
      some (frechetRec ile (fun i j => sqDist (pf i) (qf j)) n m) :=
  frechetDP_eq ile sqDist pf qf _ (fun _ _ => rfl) n m

theorem list_eq_map_range {α : Type} (l : List α) (x : α) :
    l = (List.range l.length).map (fun i => l.getD i x) := by
  apply List.ext_getElem
  · simp
  · intro i h1 h2
    simp [List.getD, List.getElem?_eq_getElem h1]

/-- the same for arbitrary non-empty vertex lists (indices read with `getD`) -/
theorem frechet2_correct_lists (p : Pt) (ps : List Pt) (q : Pt) (qs : List Pt) :
    frechet2 (p :: ps) (q :: qs) =
      some (frechetRec ile (fun i j => sqDist ((p :: ps).getD i p) ((q :: qs).getD j q)) ps.length qs.length) := by
  conv => lhs; rw [list_eq_map_range (p :: ps) p, list_eq_map_range (q :: qs) q]
  exact frechet2_correct (fun i => (p :: ps).getD i p) (fun j => (q :: qs).getD j q) ps.length qs.length

/-! ## branch and bound (CORE) -/

/-- **`bb_returns_min`** — the best-first branch-and-bound search of `TemplateSTRtreeDistance::nearestNeighbour`
(model: `STR.nearestRoot` / `nnLoop`, queue = sorted list).  For every tree, every total preorder `le` on
distances, every lower-bound function `lb` that is admissible (`lb(bounds of a branch) ≤ dist item` for each
live item below it) and fuel at least the number of tree nodes: the search returns a live item, with its exact
distance, that is no farther than any live item; it returns nothing only when no item is live.
(This is also the nearest-neighbour theorem left open for C15.) -/
theorem bb_returns_min {β ι D : Type} (le : D → D → Bool) (ok : LeOK le) (lb : β → D) (dist : ι → D)
    (r : Node β ι) (hadm : r.Adm le lb dist) (fuel : Nat) (hf : r.numNodes ≤ fuel) :
    match nearestRoot le lb dist fuel (some r) with
    | some (m, i) => (∃ e ∈ r.leaves, e.deleted = false ∧ e.item = i ∧ m = dist i) ∧
        ∀ e ∈ r.leaves, e.deleted = false → le m (dist e.item) = true
    | none => ∀ e ∈ r.leaves, e.deleted = true := by
  cases r with
  | leaf e =>
    simp only [nearestRoot, Node.leaves, List.mem_singleton, forall_eq, exists_eq_left]
    cases hd : e.deleted
    · exact ⟨⟨rfl, rfl, rfl⟩, fun _ => ok.refl _⟩
    · rfl
  | branch b ks =>
    have hinv : Inv le lb dist (leavesL ks) [(⟨lb b, .branch b ks⟩ : QE β ι D)] none := by
      refine ⟨by simp [Sorted], ?_, nofun, fun e he _ => ?_⟩
      · intro x hx
        cases List.mem_singleton.mp hx
        exact ⟨⟨rfl, hadm⟩, fun e he => he⟩
      · exact Or.inl ⟨_, List.mem_singleton.mpr rfl, he⟩
    exact nnLoop_spec ok (leavesL ks) fuel _ none (by simpa [qsize] using hf) hinv

/-- the same for the search inside the loop, started from any queue satisfying the invariant -/
theorem bb_loop_returns_min {β ι D : Type} (le : D → D → Bool) (ok : LeOK le) (lb : β → D) (dist : ι → D)
    (S : List (Entry β ι)) (f : Nat) (q : List (QE β ι D)) (best : Option (D × ι))
    (hf : qsize q ≤ f) (hinv : Inv le lb dist S q best) : Res le dist S (nnLoop le lb dist f q best) :=
  nnLoop_spec ok S f q best hf hinv

/-- in one dimension: the separation of two intervals is at most the distance of any two of their points -/
theorem gap_mul_self_le {lo1 hi1 lo2 hi2 x y : Int} (h1 : lo1 ≤ x) (h2 : x ≤ hi1) (g1 : lo2 ≤ y) (g2 : y ≤ hi2) :
    gap lo1 hi1 lo2 hi2 * gap lo1 hi1 lo2 hi2 ≤ (x - y) * (x - y) := by
  unfold gap
  split
  · rw [← Int.neg_mul_neg (x - y), Int.neg_sub]; exact Int.mul_self_le_mul_self (by omega) (by omega)
  · split
    · exact Int.mul_self_le_mul_self (by omega) (by omega)
    · simpa using mul_self_nonneg' (x - y)

/-- `Envelope::distance²` never exceeds the squared distance of two points taken from the two envelopes:
the bound the facet search uses is a lower bound -/
theorem env_distance_lower_bound (a b : Box) (p q : Pt) (hp : inBoxPt a p) (hq : inBoxPt b q) :
    boxBox2 a b ≤ sqDist p q := by
  obtain ⟨h1, h2, h3, h4⟩ := hp
  obtain ⟨g1, g2, g3, g4⟩ := hq
  exact Int.add_le_add (gap_mul_self_le h1 h2 g1 g2) (gap_mul_self_le h3 h4 g3 g4)

/-! ## non-vacuity -/

-- the three branches of the clamp formula
example : (pointSeg2 ⟨-3, 4⟩ ⟨0, 0⟩ ⟨10, 0⟩).num = 25 ∧ (pointSeg2 ⟨-3, 4⟩ ⟨0, 0⟩ ⟨10, 0⟩).den = 1 := by decide
example : (pointSeg2 ⟨13, 4⟩ ⟨0, 0⟩ ⟨10, 0⟩).num = 25 ∧ (pointSeg2 ⟨13, 4⟩ ⟨0, 0⟩ ⟨10, 0⟩).den = 1 := by decide
example : (pointSeg2 ⟨1, 3⟩ ⟨0, 0⟩ ⟨4, 2⟩).num = 100 ∧ (pointSeg2 ⟨1, 3⟩ ⟨0, 0⟩ ⟨4, 2⟩).den = 20 := by decide
-- crossing, touching and separate segments
example : (segSeg2 ⟨0, 0⟩ ⟨4, 4⟩ ⟨0, 4⟩ ⟨4, 0⟩).num = 0 := by decide
example : (segSeg2 ⟨0, 0⟩ ⟨4, 0⟩ ⟨2, 0⟩ ⟨2, 5⟩).num = 0 := by decide
example : Q.eqv (segSeg2 ⟨0, 0⟩ ⟨4, 0⟩ ⟨1, 3⟩ ⟨9, 7⟩) (Q.ofInt 9) = true := by decide
-- a point inside a polygon with a hole: distance 0 outside the hole, positive inside it
def demoPoly : IGeom := [.poly [[⟨0,0⟩, ⟨10,0⟩, ⟨10,10⟩, ⟨0,10⟩, ⟨0,0⟩], [⟨4,4⟩, ⟨6,4⟩, ⟨6,6⟩, ⟨4,6⟩, ⟨4,4⟩]]]
example : (dist2 [.pt ⟨2, 2⟩] demoPoly).map (·.num) = some 0 := by decide +kernel
example : (dist2 [.pt ⟨5, 5⟩] demoPoly).map (Q.eqv (Q.ofInt 1)) = some true := by decide +kernel
example : (dist2 [.pt ⟨13, 14⟩] demoPoly).map (Q.eqv (Q.ofInt 25)) = some true := by decide +kernel
example : (facetDist2 [.pt ⟨2, 2⟩] demoPoly).map (Q.eqv (Q.ofInt 4)) = some true := by decide +kernel
example : dist2 [] demoPoly = none := by decide
-- Hausdorff and Fréchet on small inputs
example : (hausdorff2 1 [.line [⟨0,0⟩, ⟨10,0⟩]] [.line [⟨0,3⟩, ⟨10,3⟩, ⟨10, 8⟩]]).map (Q.eqv (Q.ofInt 64)) = some true := by decide +kernel
example : frechet2 [⟨0,0⟩, ⟨10,0⟩] [⟨0,3⟩, ⟨10,3⟩, ⟨10,8⟩] = some 64 := by decide
example : frechetRec ile (fun i j => sqDist ([⟨0,0⟩, ⟨10,0⟩].getD i ⟨0,0⟩) ([⟨0,3⟩, ⟨10,3⟩, ⟨10,8⟩].getD j ⟨0,0⟩)) 1 2 = 64 := by
  simp [frechetRec, dmax, min3, ile, sqDist]

-- a tree with admissible bounds, a live minimum and a deleted closer item
def demoTree : Node Int Nat :=
  .branch 0 [.branch 1 [.leaf ⟨1, 10, false⟩, .leaf ⟨2, 11, true⟩], .branch 5 [.leaf ⟨5, 12, false⟩, .leaf ⟨7, 13, false⟩]]

def demoDist : Nat → Int | 10 => 4 | 11 => 1 | 12 => 6 | _ => 9

theorem demoTree_adm : demoTree.Adm ile id demoDist := by
  simp only [demoTree, Node.Adm, AdmL, leavesL, Node.leaves]; decide

example : nearestRoot ile id demoDist demoTree.numNodes (some demoTree) = some (4, 10) := by decide

end GeosModel.Distance
