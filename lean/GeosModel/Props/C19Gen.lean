import GeosModel.Model.LinRef.Project
import GeosModel.Generated.LinRef
import GeosModel.Proofs.CxxLoop
/-!
# C19 — the regenerated linear-referencing arithmetic is the model the C19 theorems are about

`Generated/LinRef.lean` is rewritten from the current C++ (`src/linearref/LinearLocation.cpp`, `LengthLocationMap.cpp`,
`LengthIndexedLine.cpp`, `LengthIndexOfPoint.cpp`, `src/geom/LineSegment.cpp`, `src/algorithm/Distance.cpp`,
`include/geos/geom/Coordinate.h`, `LineSegment.h`) by `translate/cxx2lean.py` (spec `linref`) on every run.  The C++ computes
with `double`; the regenerated definitions are generic over the carrier (`std::sqrt` is the abstract parameter `sqrt`) and
are instantiated here with exact rationals, the carrier of the theorems of `Props/C19.lean`, and proved equal to the
hand-written models of `Model/LinRef/Map.lean` and `Model/LinRef/Project.lean` — for all arguments.

Where the model takes pre-digested facts the connecting hypotheses are explicit:
* `len g = totalLen l` — `linearGeom->getLength()` is the model's total length;
* `(pos g).map (toItem sq) = items l` — the positions visited by `LinearIterator` (component, vertex, end-of-line flag,
  segment end points) are the model's `items`, a segment's length being `p1.distance(p0)`;
* `e g = endLoc l` — `LinearLocation::getEndLocation`; `fwd`, `res` — `getLocationForward`, `resolveHigher` as used by
  `getLocation`;
* `DoubleInfinity` exceeds every point–segment distance that occurs (the model uses `Option` for the initial +∞).
The `while (it.hasNext()) { …; it.next(); }` loops are regenerated as `for it in positions g do …`; each is matched with the
model's recursion over the items by `CxxLoop.forIn_rec`.
-/
namespace GeosModel.C19Gen
open GeosModel GeosModel.LinRef GeosModel.Generated GeosModel.CxxLoop

def xy (p : Cxx.XY Rat) : P2 Rat := ⟨p.x, p.y⟩
@[simp] theorem xy_x (p : Cxx.XY Rat) : (xy p).x = p.x := rfl
@[simp] theorem xy_y (p : Cxx.XY Rat) : (xy p).y = p.y := rfl
theorem xy_xyz (p : LinRefGen.XYZ Rat) : xy p.xy = ⟨p.x, p.y⟩ := rfl
@[simp] theorem rat_abs (a : Rat) : Cxx.Ring.abs a = if a < 0 then -a else a := rfl
@[simp] theorem rat_beq (a b : Rat) : (a == b) = decide (a = b) := by
  rw [Bool.eq_iff_iff]; simp

theorem gen_equals2D_eq (x y : Rat) (b : Cxx.XY Rat) : LinRefGen.equals2D x y b = (⟨x, y⟩ : P2 Rat).eq2 (xy b) := by
  simp [LinRefGen.equals2D, P2.eq2, Cxx.ne]

theorem gen_ptDistance_eq (sq : Rat → Rat) (x y : Rat) (b : Cxx.XY Rat) :
    LinRefGen.ptDistance sq x y b = dist sq ⟨x, y⟩ (xy b) := by
  simp [LinRefGen.ptDistance, dist, d2]

theorem gen_pointToSegment_eq (sq : Rat → Rat) (p A B : Cxx.XY Rat) :
    LinRefGen.pointToSegment sq p A B = pointToSegment sq (xy p) (xy A) (xy B) := by
  simp [LinRefGen.pointToSegment, LinRef.pointToSegment, gen_equals2D_eq, gen_ptDistance_eq, Cxx.ge, absv, xy,
    Rat.sub_eq_add_neg, Rat.zero_add]

theorem gen_projectionFactor_eq (p0 p1 p : Cxx.XY Rat) :
    LinRefGen.projectionFactor p0 p1 p = projectionFactor (xy p0) (xy p1) (xy p) := by
  simp [LinRefGen.projectionFactor, LinRef.projectionFactor, gen_equals2D_eq, xy]
  rfl

theorem gen_lsDistance_eq (sq : Rat → Rat) (p0 p1 p : Cxx.XY Rat) :
    LinRefGen.lsDistance sq p0 p1 p = pointToSegment sq (xy p) (xy p0) (xy p1) := by
  simp [LinRefGen.lsDistance, gen_pointToSegment_eq]

theorem gen_lsLength_eq (sq : Rat → Rat) (p0 p1 : Cxx.XY Rat) :
    LinRefGen.lsLength sq p0 p1 = dist sq (xy p0) (xy p1) := by
  simp [LinRefGen.lsLength, gen_ptDistance_eq, xy]

theorem gen_segmentNearestMeasure_eq (sq : Rat → Rat) (s : LinRefGen.Seg Rat) (p : LinRefGen.XYZ Rat) (start : Rat) :
    LinRefGen.segmentNearestMeasure sq s p start = segmentNearestMeasure sq (xy s.p0) (xy s.p1) (xy p.xy) start := by
  simp [LinRefGen.segmentNearestMeasure, LinRef.segmentNearestMeasure, gen_projectionFactor_eq, gen_lsLength_eq]

theorem gen_segmentFraction_eq (p0 p1 p : Cxx.XY Rat) :
    LinRefGen.segmentFraction p0 p1 p = segmentFraction (xy p0) (xy p1) (xy p) := by
  simp [LinRefGen.segmentFraction, LinRef.segmentFraction, gen_projectionFactor_eq, Cxx.gt]

/-- `LinearLocation::pointAlongSegmentByFraction` (x and y; the model has no z) -/
theorem gen_pointAlong_eq (p0 p1 : LinRefGen.XYZ Rat) (f : Rat) :
    xy (LinRefGen.pointAlongSegmentByFraction p0 p1 f).xy = pointAlong (xy p0.xy) (xy p1.xy) f := by
  simp [LinRefGen.pointAlongSegmentByFraction, LinRef.pointAlong, Cxx.ge]
  split
  · rfl
  · split <;> rfl

/-- `LinearLocation(c, s, f)` = member initialisation + `normalize()` (the constructor's shape is checked by the translator) -/
theorem gen_normalize_eq (c s : Nat) (f : Rat) :
    (⟨c, (LinRefGen.normalize s f).1, (LinRefGen.normalize s f).2⟩ : Loc Rat) = mkLoc c s f := by
  unfold LinRefGen.normalize mkLoc
  simp only [Id.run, pure, Cxx.gt, Cxx.rat_lt, Cxx.rat_ofInt, decide_eq_true_eq, Rat.intCast_ofNat, Cxx.rat_eq]
  by_cases h0 : f < 0
  · have h10 : ¬ (1 : Rat) < 0 := by decide
    simp [h0, h10]
  · by_cases h1 : 1 < f
    · simp [h0, h1]
    · by_cases h2 : (f == 1) = true <;> simp [h0, h1, h2]

theorem gen_isVertex_eq (a : Loc Rat) : LinRefGen.isVertex a.frac = a.isVertex := by
  simp [LinRefGen.isVertex, Loc.isVertex, Cxx.ge]

/-- one level of a three-way comparison that returns `-1`, `1` or the result `v` of the next level: its sign tests -/
theorem cmp_level_neg (p q : Prop) [Decidable p] [Decidable q] (v : Int) :
    decide ((if p then -1 else if q then 1 else v) < 0) = if p then true else if q then false else decide (v < 0) := by
  by_cases hp : p
  · simp [hp]
  · by_cases hq : q <;> simp [hp, hq]

theorem cmp_level_pos (p q : Prop) [Decidable p] [Decidable q] (h : p → ¬ q) (v : Int) :
    decide ((if p then -1 else if q then 1 else v) > 0) = if q then true else if p then false else decide (v > 0) := by
  by_cases hp : p
  · simp [hp, h hp]
  · by_cases hq : q <;> simp [hp, hq]

/-- `a.compareTo(b) < 0` is the model's strict order `Loc.lt` … -/
theorem gen_compareTo_lt (a b : Loc Rat) :
    decide (LinRefGen.compareTo a.comp a.seg a.frac b < 0) = a.lt b := by
  unfold LinRefGen.compareTo Loc.lt
  simp only [Id.run, pure, Cxx.gt, Cxx.rat_lt, decide_eq_true_eq]
  rw [cmp_level_neg, cmp_level_neg, cmp_level_neg]
  simp

/-- … and `a.compareTo(b) > 0` is `b < a` (so `compareTo = 0` exactly when neither holds) -/
theorem gen_compareTo_gt (a b : Loc Rat) :
    decide (LinRefGen.compareTo a.comp a.seg a.frac b > 0) = b.lt a := by
  unfold LinRefGen.compareTo Loc.lt
  simp only [Id.run, pure, Cxx.gt, Cxx.rat_lt, decide_eq_true_eq]
  rw [cmp_level_pos _ _ (fun h => Nat.lt_asymm h), cmp_level_pos _ _ (fun h => Nat.lt_asymm h),
    cmp_level_pos _ _ (fun h => Std.not_gt_of_lt h)]
  simp

theorem gen_compareLocationValues_lt (a : Loc Rat) (c v : Nat) (f : Rat) :
    decide (LinRefGen.compareLocationValues a.comp a.seg a.frac c v f < 0) = a.lt ⟨c, v, f⟩ := by
  unfold LinRefGen.compareLocationValues Loc.lt
  simp only [Id.run, pure, Cxx.gt, Cxx.rat_lt, decide_eq_true_eq]
  rw [cmp_level_neg, cmp_level_neg, cmp_level_neg]
  simp
variable {G : Type}

theorem gen_positiveIndex_eq (len : G → Rat) (g : G) (l : Line Rat) (hlen : len g = totalLen l) (i : Rat) :
    LinRefGen.positiveIndex len g i = positiveIndex l i := by
  simp [LinRefGen.positiveIndex, LinRef.positiveIndex, Cxx.ge, hlen]

theorem gen_clampIndex_eq (len : G → Rat) (g : G) (l : Line Rat) (hlen : len g = totalLen l) (i : Rat) :
    LinRefGen.clampIndex len g i = clampIndex l i := by
  simp [LinRefGen.clampIndex, LinRef.clampIndex, gen_positiveIndex_eq len g l hlen, LinRefGen.getStartIndex,
    LinRefGen.getEndIndex, Cxx.gt, hlen]

theorem gen_getLocation_eq (len : G → Rat) (fwd : Rat → Loc Rat) (g : G) (l : Line Rat) (hlen : len g = totalLen l)
    (hfwd : ∀ x, fwd x = getLocationForward l x) (x : Rat) :
    LinRefGen.getLocation len fwd g x = getLocation l x := by
  simp [LinRefGen.getLocation, LinRef.getLocation, hfwd, hlen]
  split <;> rfl

theorem gen_getLocationR_eq (len : G → Rat) (fwd : Rat → Loc Rat) (res : Loc Rat → Loc Rat) (g : G) (l : Line Rat)
    (hlen : len g = totalLen l) (hfwd : ∀ x, fwd x = getLocationForward l x) (hres : ∀ a, res a = resolveHigher l a)
    (x : Rat) (lower : Bool) :
    LinRefGen.getLocationR len fwd res g x lower = getLocationR l x lower := by
  simp [LinRefGen.getLocationR, LinRef.getLocationR, LinRef.getLocation, hfwd, hlen, hres]
  split <;> split <;> rfl

/-- a position of `LinearIterator` as an item of the model: a segment carries its length `p1.distance(p0)` -/
def toItem (sq : Rat → Rat) (p : LinRefGen.ItPos Rat) : Item Rat :=
  if p.eol then .eol p.c p.v else .seg p.c p.v (dist sq (xy p.p1.xy) (xy p.p0.xy))

theorem gen_getLocationForward_eq (pos : G → List (LinRefGen.ItPos Rat)) (sq : Rat → Rat) (e : G → Loc Rat) (g : G) (l : Line Rat)
    (hpos : (pos g).map (toItem sq) = items l) (hend : e g = endLoc l) (x : Rat) :
    LinRefGen.getLocationForward pos sq e g x = getLocationForward l x := by
  unfold LinRefGen.getLocationForward LinRef.getLocationForward
  rw [← hpos]
  simp only [Id.run, bind, pure, Cxx.rat_ofInt, Rat.intCast_zero, Cxx.rat_le, decide_eq_true_eq]
  split
  · rfl
  generalize hL : forIn (m := Id) (pos g) _ _ = L
  have key : L.1 = locFwdAux x 0 ((pos g).map (toItem sq)) := by
    rw [← hL]
    refine forIn_rec _ (fun tot l => locFwdAux x tot (l.map (toItem sq))) (fun b tot => b = (none, tot))
      (fun L d => L.1 = d) (fun _ => True) ?_ ?_ _ _ _ (fun _ _ => trivial) rfl
    · rintro _ _ rfl
      rfl
    · rintro it xs _ tot - rfl
      simp only [List.map_cons, toItem]
      cases he : it.eol
      · simp only [Bool.false_eq_true, ↓reduceIte, locFwdAux, gen_ptDistance_eq, xy_xyz, Cxx.rat_add, Cxx.rat_sub, Cxx.rat_div,
          Cxx.gt, Cxx.rat_lt, decide_eq_true_eq, Id.run, gen_normalize_eq]
        by_cases hc : x < tot + dist sq ⟨it.p1.x, it.p1.y⟩ ⟨it.p0.x, it.p0.y⟩
        · simp only [hc, ↓reduceIte]
        · simp only [hc, ↓reduceIte]
          exact ⟨_, rfl, rfl⟩
      · simp only [↓reduceIte, locFwdAux, Cxx.rat_eq, Id.run, gen_normalize_eq]
        by_cases hc : (tot == x) = true
        · simp only [hc, ↓reduceIte]
        · simp only [hc, Bool.false_eq_true, ↓reduceIte]
          exact ⟨_, rfl, rfl⟩
  rw [← key, hend]
  cases L.1 <;> rfl
theorem gen_getLength_eq (pos : G → List (LinRefGen.ItPos Rat)) (sq : Rat → Rat) (g : G) (l : Line Rat)
    (hpos : (pos g).map (toItem sq) = items l) (a : Loc Rat) :
    LinRefGen.getLength pos sq g a = getLength l a := by
  unfold LinRefGen.getLength LinRef.getLength
  rw [← hpos]
  simp only [Id.run, bind, pure, Cxx.rat_ofInt, Rat.intCast_zero]
  refine Ret.eq (after := id) (L := forIn (m := Id) (pos g) (none, (0 : Rat)) ?F) ?_
  refine forIn_rec _ (fun tot l => lenAux a tot (l.map (toItem sq))) (fun b tot => b = (none, tot)) (Ret id) (fun _ => True)
    ?_ ?_ _ _ _ (fun _ _ => trivial) rfl
  · rintro _ _ rfl
    exact Ret.cont _ _
  · rintro x xs _ tot - rfl
    simp only [List.map_cons, toItem]
    cases he : x.eol
    · simp only [Bool.not_false, Bool.false_eq_true, ↓reduceIte, lenAux, LinRefGen.getComponentIndex, LinRefGen.getSegmentIndex,
        LinRefGen.getSegmentFraction, gen_ptDistance_eq, xy_xyz, Cxx.rat_add, Cxx.rat_mul, Id.run, pure]
      by_cases hc : (a.comp == x.c && a.seg == x.v) = true
      · simp only [hc, ↓reduceIte]
        exact Ret.done _ _ _
      · simp only [hc, Bool.false_eq_true, ↓reduceIte]
        exact ⟨_, rfl, rfl⟩
    · simp only [Bool.not_true, Bool.false_eq_true, ↓reduceIte, lenAux, LinRefGen.getComponentIndex, Id.run, pure]
      by_cases hc : (a.comp == x.c) = true
      · simp only [hc, ↓reduceIte]
        exact Ret.done _ _ _
      · simp only [hc, Bool.false_eq_true, ↓reduceIte]
        exact ⟨_, rfl, rfl⟩
/-- the segments the iterator visits -/
def segsOf (l : List (LinRefGen.ItPos Rat)) : List (P2 Rat × P2 Rat) :=
  (l.filter (fun it => !it.eol)).map fun it => (xy it.p0.xy, xy it.p1.xy)

/-- `minDistance` of the code (initially `DoubleInfinity`) against the model's `Option` (initially `none`) -/
def InfRel (inf d : Rat) (o : Option Rat) : Prop := (o = none ∧ d = inf) ∨ o = some d

/-- `LengthIndexOfPoint::indexOfFromStart(inputPt, minIndex)` = the model's `indexLoop` over the visited segments, when
`DoubleInfinity` exceeds every point–segment distance that occurs -/
theorem gen_indexOfFromStart_eq (pos : G → List (LinRefGen.ItPos Rat)) (sq : Rat → Rat) (g : G) (inf : Rat)
    (p : LinRefGen.XYZ Rat) (m : Rat)
    (hinf : ∀ it ∈ pos g, it.eol = false → pointToSegment sq (xy p.xy) (xy it.p0.xy) (xy it.p1.xy) < inf) :
    LinRefGen.indexOfFromStart pos sq g inf p m = (indexLoop sq (xy p.xy) m (segsOf (pos g)) (none, m, 0)).2.1 := by
  unfold LinRefGen.indexOfFromStart
  simp only [Id.run, bind, pure, Cxx.rat_ofInt, Rat.intCast_zero]
  refine forIn_rec _ (fun c l => indexLoop sq (xy p.xy) m (segsOf l) c)
    (fun (s : Rat × Rat × Rat × LinRefGen.Seg Rat) c => InfRel inf s.1 c.1 ∧ c.2 = (s.2.1, s.2.2.1))
    (fun L d => L.2.1 = d.2.1) (fun it => it.eol = false → pointToSegment sq (xy p.xy) (xy it.p0.xy) (xy it.p1.xy) < inf)
    ?_ ?_ _ _ (none, m, 0) hinf ⟨Or.inl ⟨rfl, rfl⟩, rfl⟩
  · rintro s ⟨o, c⟩ ⟨_, rfl⟩
    rfl
  · rintro it xs ⟨d, pm, st, sg⟩ ⟨o, c⟩ hq ⟨hrel, rfl⟩
    cases he : it.eol
    · have hx := hq he
      simp only [segsOf, List.filter_cons, he, Bool.not_false, ↓reduceIte, List.map_cons, indexLoop, gen_lsDistance_eq,
        gen_segmentNearestMeasure_eq, gen_lsLength_eq, Cxx.rat_lt, Cxx.gt, Cxx.rat_add, Id.run]
      have hcl : closer o (pointToSegment sq (xy p.xy) (xy it.p0.xy) (xy it.p1.xy))
          = decide (pointToSegment sq (xy p.xy) (xy it.p0.xy) (xy it.p1.xy) < d) := by
        rcases hrel with ⟨h1, h2⟩ | h1
        · simp only at h1 h2; simp [h1, h2, closer, hx]
        · simp only at h1; simp [h1, closer]
      rw [hcl]
      generalize (decide (pointToSegment sq (xy p.xy) (xy it.p0.xy) (xy it.p1.xy) < d) &&
        decide (m < segmentNearestMeasure sq (xy it.p0.xy) (xy it.p1.xy) (xy p.xy) st)) = better
      cases better
      · exact ⟨_, rfl, hrel, rfl⟩
      · exact ⟨_, rfl, Or.inr rfl, rfl⟩
    · simp only [segsOf, List.filter_cons, he, Bool.not_true, Bool.false_eq_true, ↓reduceIte, Id.run]
      exact ⟨_, rfl, hrel, rfl⟩
/-! ### non-vacuity: the connecting hypotheses hold for a concrete line, and the regenerated code computes on it -/

/-- the positions `LinearIterator` visits on LINESTRING (0 0, 3 4, 3 10) -/
def pos3 : Unit → List (LinRefGen.ItPos Rat) := fun _ =>
  [⟨0, 0, false, ⟨0, 0, 0⟩, ⟨3, 4, 0⟩⟩, ⟨0, 1, false, ⟨3, 4, 0⟩, ⟨3, 10, 0⟩⟩, ⟨0, 2, true, ⟨3, 10, 0⟩, ⟨3, 10, 0⟩⟩]

/-- an exact square root on the two arguments that occur -/
def sq3 (x : Rat) : Rat := if x = 25 then 5 else if x = 36 then 6 else 0

example : (pos3 ()).map (toItem sq3) = items ([[5, 6]] : Line Rat) := by decide +kernel
example : LinRefGen.getLocationForward pos3 sq3 (fun _ => endLoc [[5, 6]]) () 8 = (⟨0, 1, 1/2⟩ : Loc Rat) := by
  rw [gen_getLocationForward_eq pos3 sq3 _ () [[5, 6]] (by decide +kernel) rfl]; decide +kernel
example : LinRefGen.getLength pos3 sq3 () ⟨0, 1, 1/2⟩ = 8 := by
  rw [gen_getLength_eq pos3 sq3 () [[5, 6]] (by decide +kernel)]; decide +kernel
example : LinRefGen.clampIndex (fun _ => (11 : Rat)) () (-3) = 8 ∧ totalLen ([[5, 6]] : Line Rat) = 11 := by
  constructor
  · rw [gen_clampIndex_eq (fun _ => (11 : Rat)) () [[5, 6]] (by decide +kernel)]; decide +kernel
  · decide +kernel

end GeosModel.C19Gen
