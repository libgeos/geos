import GeosModel.Proofs.LinRef.Top
import GeosModel.Proofs.LinRef.Extract
import GeosModel.Proofs.LinRef.Project
import GeosModel.Proofs.Lines.Merge
import GeosModel.Proofs.Lines.Noding
/-!
# C19 — linework operations preserve the point set and their structural contracts

## Part 1: linear referencing (`Model/LinRef/Map.lean`), exact arithmetic (`Rat`)

`Line Rat` = components × segment lengths; hypotheses everywhere: every component has a segment (`WF`),
lengths are non-negative (`NonNeg`).
-/
namespace GeosModel.LinRef

/-- `getLength (getLocation ℓ) = ℓ` for every `0 ≤ ℓ ≤ total`
(`LengthLocationMap::getLocation` followed by `LengthLocationMap::getLength`). -/
theorem loc_len_inverse (l : Line Rat) (hwf : l.WF = true) (hnn : l.NonNeg) (ℓ : Rat)
    (h0 : 0 ≤ ℓ) (h1 : ℓ ≤ totalLen l) : getLength l (getLocation l ℓ) = ℓ :=
  loc_len_inverse_of_wf l hwf ℓ h0 h1

/-- (1) a length beyond the end maps to the end location; (2) a negative length is measured
from the end; (3) a length at or before `-total` maps to the start location; (4) so for `-total ≤ ℓ < 0` the
location found lies at distance `total + ℓ` from the start. -/
theorem loc_clamp (l : Line Rat) (hwf : l.WF = true) (hnn : l.NonNeg) (ℓ : Rat) :
    (totalLen l < ℓ → getLocation l ℓ = endLoc l) ∧
    (ℓ < 0 → getLocation l ℓ = getLocationForward l (totalLen l + ℓ)) ∧
    (ℓ ≤ -totalLen l → getLocation l ℓ = startLoc) ∧
    (ℓ < 0 → -totalLen l ≤ ℓ → getLength l (getLocation l ℓ) = totalLen l + ℓ) := by
  have htn := totalLen_nonneg l hnn
  refine ⟨fun h => ?_, getLocation_of_neg l, fun h => ?_, fun hneg hge => ?_⟩
  · have h0 : 0 < ℓ := Std.lt_of_le_of_lt htn h
    rw [getLocation_of_nonneg l (Rat.le_of_lt h0), getLocationForward_pos l h0,
      locFwdAux_beyond ℓ (items l) 0 (itemsNonNeg_items l hnn 0) (by rw [← totalLen_eq]; exact h)]
    rfl
  · by_cases hneg : ℓ < 0
    · rw [getLocation_of_neg l hneg, getLocationForward_nonpos l (by grind)]
    · rw [getLocation_of_nonneg l (Rat.not_lt.mp hneg), getLocationForward_nonpos l (by grind)]
  · have h0 : 0 ≤ totalLen l + ℓ := by grind
    rw [getLocation_of_neg l hneg, ← getLocation_of_nonneg l h0]
    exact loc_len_inverse l hwf hnn _ h0 (by grind)

/-- forward search is monotone in the `compareTo` order, for *all* pairs of lengths (inside or outside the line) -/
theorem loc_forward_monotone (l : Line Rat) (ℓ1 ℓ2 : Rat) (h : ℓ1 ≤ ℓ2) :
    (getLocationForward l ℓ1).le (getLocationForward l ℓ2) := by
  by_cases z1 : 0 < ℓ1
  · have z2 := Std.lt_of_lt_of_le z1 h
    rw [getLocationForward_pos l z1, getLocationForward_pos l z2]
    cases hr1 : locFwdAux ℓ1 0 (items l) with
    | none =>
      rw [locFwdAux_none_mono ℓ1 ℓ2 (items l) 0 (Rat.le_of_lt z1) h hr1]
      exact Loc.le_refl _
    | some a1 =>
      cases hr2 : locFwdAux ℓ2 0 (items l) with
      | some a2 =>
        exact locFwdAux_mono ℓ1 ℓ2 (items l) 0 a1 a2 (okItems_itemsFrom 0 l) (Rat.le_of_lt z1) h hr1 hr2
      | none =>
        obtain ⟨it, hm, hc, hv, _, hf, _⟩ := locFwdAux_pos ℓ1 (items l) 0 a1 (Rat.le_of_lt z1) hr1
        exact le_endLoc l a1 it hm hc hv hf
  · rw [getLocationForward_nonpos l (Rat.not_lt.mp z1)]
    exact startLoc_le _ (getLocationForward_frac_nonneg l ℓ2)

/-- `getLocation` is monotone on lengths of the same kind (both measured from the start,
or both negative = measured from the end).  (Across the sign change it is not: −ε is near the end, 0 is the start.) -/
theorem loc_monotone (l : Line Rat) (ℓ1 ℓ2 : Rat) (h : ℓ1 ≤ ℓ2) (hs : 0 ≤ ℓ1 ∨ ℓ2 < 0) :
    (getLocation l ℓ1).le (getLocation l ℓ2) := by
  rcases hs with hs | hs
  · rw [getLocation_of_nonneg l hs, getLocation_of_nonneg l (Rat.le_trans hs h)]
    exact loc_forward_monotone l ℓ1 ℓ2 h
  · rw [getLocation_of_neg l (Std.lt_of_le_of_lt h hs), getLocation_of_neg l hs]
    exact loc_forward_monotone l _ _ (Rat.add_le_add_left.mpr h)

/-- piecewise length of extracted lines on a geometry with several components (cf. `stepLen`/`outLen` for one component) -/
def stepLenL (l : Line Rat) (p q : Loc Rat) : Rat :=
  (l.getD p.comp []).getD p.seg 0 * ((if q.seg = p.seg then q.frac else 1) - p.frac)

def pathLenL (l : Line Rat) : List (Loc Rat) → Rat
  | p :: q :: r => stepLenL l p q + pathLenL l (q :: r)
  | _ => 0

def outLenL (l : Line Rat) : List (List (Loc Rat)) → Rat
  | [] => 0
  | x :: r => pathLenL l x + outLenL l r

/-- the full statement of the substring-length clause: any lineal geometry (several components allowed).  Not proved. -/
def extract_length_full : Prop :=
  ∀ (l : Line Rat), l.WF = true → l.NonNeg → ∀ a b : Rat, 0 ≤ a → a ≤ b → b ≤ totalLen l →
    outLenL l (extractLine l a b) = b - a

/-- `extract_length` below, whatever the signs of the segment lengths -/
theorem extract_length_any_sign (comp : List Rat) (hne : comp ≠ []) (a b : Rat)
    (h0 : 0 ≤ a) (hab : a ≤ b) (hb : b ≤ totalLen [comp]) :
    (∀ line ∈ extractLine [comp] a b, ChainP (GoodStep comp) line) ∧ outLen comp (extractLine [comp] a b) = b - a := by
  obtain ⟨i, f, hs, hsn, hga⟩ := getLocation_single comp hne a h0 (Rat.le_trans hab hb)
  obtain ⟨j, g, he, hen, hgb⟩ := getLocation_single comp hne b (Rat.le_trans h0 hab) hb
  have hle : (⟨0, i, f⟩ : Loc Rat).le ⟨0, j, g⟩ := by
    rw [← hs, ← he]
    exact loc_monotone [comp] a b hab (Or.inl h0)
  have hext : extractLine [comp] a b = computeLinear [comp] ⟨0, i, f⟩ ⟨0, j, g⟩ := by
    simp only [extractLine, extractLocs, clampIndex_id [comp] a h0 (Rat.le_trans hab hb),
      clampIndex_id [comp] b (Rat.le_trans h0 hab) hb, getLocationR, resolveHigher_single, ite_self, hs, he, extract,
      show (⟨0, j, g⟩ : Loc Rat).lt ⟨0, i, f⟩ = false from hle, Bool.false_eq_true, if_false]
  rw [hext, ← hga, ← hgb]
  exact computeLinear_length comp hsn hen hle

/-- (PARTIAL: single-component lines, i.e. LineStrings; for MultiLineStrings the substring is covered
only by the `linref` correspondence and the `oracle` stream) — the line extracted by `LengthIndexedLine::extractLine(a, b)`
(`GEOSLineSubstring` with fractions a/total, b/total) for `0 ≤ a ≤ b ≤ total`:
(1) is a sequence of locations in which consecutive ones lie on one segment of the input, in order (`GoodStep`) — so no
input vertex is skipped and the pieces are straight —, and (2) its length, measured piece by piece from the segment
lengths (`outLen`/`stepLen`), is exactly `b − a`. -/
theorem extract_length (comp : List Rat) (hne : comp ≠ []) (hnn : ∀ s ∈ comp, 0 ≤ s) (a b : Rat)
    (h0 : 0 ≤ a) (hab : a ≤ b) (hb : b ≤ totalLen [comp]) :
    (∀ line ∈ extractLine [comp] a b, ChainP (GoodStep comp) line) ∧ outLen comp (extractLine [comp] a b) = b - a :=
  extract_length_any_sign comp hne a b h0 hab hb

/-- `LengthIndexedLine::clampIndex` on the *whole* index domain (the regenerated C++ is proved
equal to `clampIndex` by `C19Gen.gen_clampIndex_eq`): the result always lies in `[0, total]`; an index inside the line is
unchanged; a negative index is measured from the end; anything before the start is clamped to 0 (in particular
`-2·total < i < -total`, which must *not* be measured from the end a second time), anything beyond the end to `total`. -/
theorem clamp_index_contract (l : Line Rat) (hnn : l.NonNeg) (i : Rat) :
    0 ≤ clampIndex l i ∧ clampIndex l i ≤ totalLen l ∧
    (0 ≤ i → i ≤ totalLen l → clampIndex l i = i) ∧
    (i < 0 → -totalLen l ≤ i → clampIndex l i = totalLen l + i) ∧
    (i < -totalLen l → clampIndex l i = 0) ∧
    (totalLen l < i → clampIndex l i = totalLen l) := by
  have htn := totalLen_nonneg l hnn
  -- `clampIndex` is the clamp to `[0, total]` of `positiveIndex`, which is `i` or `total + i` according to the sign of `i`
  obtain ⟨c0, c1, cid, clo, chi⟩ := clamp_spec htn (positiveIndex l i)
  have ppos : 0 ≤ i → positiveIndex l i = i := fun h => if_pos h
  have pneg : i < 0 → positiveIndex l i = totalLen l + i := fun h => if_neg (Rat.not_le.mpr h)
  refine ⟨c0, c1, fun h0 h1 => ?_, fun h0 h1 => ?_, fun h => ?_, fun h => ?_⟩
  · exact (cid (by rw [ppos h0]; exact h0) (by rw [ppos h0]; exact h1)).trans (ppos h0)
  · exact (cid (by rw [pneg h0]; grind) (by rw [pneg h0]; grind)).trans (pneg h0)
  · exact clo (by rw [pneg (by grind)]; grind)
  · exact chi (by rw [ppos (Rat.le_trans htn (Rat.le_of_lt h))]; exact h)

/-- `clampIndex` is idempotent, so … -/
theorem clamp_index_idem (l : Line Rat) (hnn : l.NonNeg) (i : Rat) : clampIndex l (clampIndex l i) = clampIndex l i := by
  obtain ⟨h0, h1, hid, _⟩ := clamp_index_contract l hnn (clampIndex l i)
  obtain ⟨g0, g1, _⟩ := clamp_index_contract l hnn i
  exact hid g0 g1

/-- … `LengthIndexedLine::extractLine(a, b)` depends on its two indices only through their
clamped values, for all `a`, `b` (negative, beyond the end, reversed): together with `extract_length` the extracted line of a
LineString has length `clampIndex b − clampIndex a` whenever the clamped indices are in order. -/
theorem extract_line_clamps (l : Line Rat) (hnn : l.NonNeg) (a b : Rat) :
    extractLine l a b = extractLine l (clampIndex l a) (clampIndex l b) := by
  simp only [extractLine, extractLocs, clamp_index_idem l hnn]

theorem extract_length_clamped (comp : List Rat) (hne : comp ≠ []) (hnn : ∀ s ∈ comp, 0 ≤ s) (a b : Rat)
    (hab : clampIndex [comp] a ≤ clampIndex [comp] b) :
    outLen comp (extractLine [comp] a b) = clampIndex [comp] b - clampIndex [comp] a := by
  have hnn' := nonNeg_single hnn
  rw [extract_line_clamps [comp] hnn' a b]
  exact (extract_length comp hne hnn _ _ (clamp_index_contract [comp] hnn' a).1 hab (clamp_index_contract [comp] hnn' b).2.1).2

/-! non-vacuity: a line of length 10, `extractLine(-15, -2)` is the sub-line from 0 to 8 -/
example : clampIndex ([[4, 6]] : Line Rat) (-15) = 0 ∧ clampIndex ([[4, 6]] : Line Rat) (-2) = 8 ∧
    extractLine ([[4, 6]] : Line Rat) (-15) (-2) = [[⟨0, 0, 0⟩, ⟨0, 1, 0⟩, ⟨0, 1, 2/3⟩]] ∧
    outLen [4, 6] (extractLine ([[4, 6]] : Line Rat) (-15) (-2)) = 8 := by decide +kernel

/-! non-vacuity: substring of a three-segment line from 1/2 to 9/2 keeps both interior vertices -/
example : extractLine [[1, 2, 3]] (1/2 : Rat) (9/2) = [[⟨0, 0, 1/2⟩, ⟨0, 1, 0⟩, ⟨0, 2, 0⟩, ⟨0, 2, 1/2⟩]] ∧
    outLen [1, 2, 3] (extractLine [[1, 2, 3]] (1/2 : Rat) (9/2)) = 4 := by decide +kernel

/-- the full statement of the round-trip clause, for any lineal geometry: on every geometry whose segments have positive
length and on which the square roots taken by the code are exact, the point interpolated at the projected length of `p`
exists and is at least as close to `p` as every point of the geometry -/
def project_interpolate_full : Prop :=
  ∀ (sq : Rat → Rat) (g : Geo Rat) (p : P2 Rat), (∀ s ∈ g.flatMap pairs, GoodSeg sq p s) → g.flatMap pairs ≠ [] →
    ∃ q, interpolate sq g (project sq g p) = some q ∧
      ∀ s ∈ g.flatMap pairs, ∀ t, 0 ≤ t → t ≤ 1 → d2 p q ≤ d2 p (lerp s.1 s.2 t)

/-- (PARTIAL: one component — a LineString — without repeated points; exact arithmetic; the
code's `sqrt` is any function `sq` that is an exact, non-negative square root at the arguments that occur: the squared
segment lengths and the squared distances from `p` to the vertices, hypothesis `GoodSeg`).
`GEOSInterpolate(g, GEOSProject(g, p))` is a point of the line and no point of the line is closer to `p`. -/
theorem project_interpolate (sq : Rat → Rat) (pts : List (P2 Rat)) (p : P2 Rat)
    (hne : pairs pts ≠ []) (hg : ∀ s ∈ pairs pts, GoodSeg sq p s) :
    ∃ q, interpolate sq [pts] (project sq [pts] p) = some q ∧
      (∃ s ∈ pairs pts, ∃ t, 0 ≤ t ∧ t ≤ 1 ∧ q = lerp s.1 s.2 t) ∧
      ∀ s ∈ pairs pts, ∀ t, 0 ≤ t → t ≤ 1 → d2 p q ≤ d2 p (lerp s.1 s.2 t) :=
  project_interpolate_single sq pts p hne hg

/-- the square root used by the witness below: exact at 9, 16, 25, 64 -/
def sqW (x : Rat) : Rat := if x = 64 then 8 else if x = 16 then 4 else if x = 9 then 3 else if x = 25 then 5 else 0

/-- **the full statement is false for geometries with several components** (a finding, replayed on the implementation
by the `oracle_multi` stream): for MULTILINESTRING((0 0,4 0),(8 3,12 3)) and p = (8 0) the nearest point is the start (8 3)
of the second component, at length 4 = the end of the first component; `getLocationForward` resolves a length that
falls on a component boundary to the *end of the earlier* component, so the interpolated point is (4 0), at distance 4 > 3. -/
theorem project_interpolate_full_false : ¬ project_interpolate_full := by
  intro h
  have hg : ∀ s ∈ ([[⟨0, 0⟩, ⟨4, 0⟩], [⟨8, 3⟩, ⟨12, 3⟩]] : Geo Rat).flatMap pairs, GoodSeg sqW ⟨8, 0⟩ s := by
    intro s hs
    simp only [List.flatMap_cons, List.flatMap_nil, pairs, List.append_nil, List.cons_append, List.nil_append,
      List.mem_cons, List.not_mem_nil, or_false] at hs
    rcases hs with rfl | rfl <;> (unfold GoodSeg IsSqrt; decide +kernel)
  obtain ⟨q, hq, hn⟩ := h sqW [[⟨0, 0⟩, ⟨4, 0⟩], [⟨8, 3⟩, ⟨12, 3⟩]] ⟨8, 0⟩ hg (by decide +kernel)
  have hval : interpolate sqW ([[⟨0, 0⟩, ⟨4, 0⟩], [⟨8, 3⟩, ⟨12, 3⟩]] : Geo Rat)
      (project sqW [[⟨0, 0⟩, ⟨4, 0⟩], [⟨8, 3⟩, ⟨12, 3⟩]] ⟨8, 0⟩) = some ⟨4, 0⟩ := by decide +kernel
  rw [hval] at hq
  simp only [Option.some.injEq] at hq
  subst hq
  have := hn (⟨8, 3⟩, ⟨12, 3⟩) (by simp [pairs]) 0 (by decide +kernel) (by decide +kernel)
  revert this
  decide +kernel

/-! non-vacuity of `project_interpolate`: an L-shaped line with Pythagorean distances -/
example : (∀ s ∈ pairs ([⟨0, 0⟩, ⟨4, 0⟩, ⟨4, 3⟩] : List (P2 Rat)), GoodSeg sqW ⟨8, 0⟩ s) ∧
    project sqW [[⟨0, 0⟩, ⟨4, 0⟩, ⟨4, 3⟩]] (⟨8, 0⟩ : P2 Rat) = 4 ∧
    interpolate sqW [[⟨0, 0⟩, ⟨4, 0⟩, ⟨4, 3⟩]] (4 : Rat) = some ⟨4, 0⟩ := by
  refine ⟨?_, by decide +kernel, by decide +kernel⟩
  intro s hs
  simp only [pairs, List.mem_cons, List.not_mem_nil, or_false] at hs
  rcases hs with rfl | rfl <;> (unfold GoodSeg IsSqrt; decide +kernel)

/-- `LineSegment::segmentFraction` (the fraction `LocationIndexOfPoint` stores in a
`LinearLocation`) always lies in [0, 1], is the projection factor itself when that lies in [0, 1], and is 0 / 1 exactly
when the projection falls before the start / behind the end of the segment.  (The regenerated C++ is proved equal to
`segmentFraction` by `C19Gen.gen_segmentFraction_eq`.) -/
theorem segment_fraction_unit (p0 p1 p : P2 Rat) :
    0 ≤ segmentFraction p0 p1 p ∧ segmentFraction p0 p1 p ≤ 1 ∧
    (0 ≤ projectionFactor p0 p1 p → projectionFactor p0 p1 p ≤ 1 → segmentFraction p0 p1 p = projectionFactor p0 p1 p) ∧
    (projectionFactor p0 p1 p < 0 → segmentFraction p0 p1 p = 0) ∧
    (1 < projectionFactor p0 p1 p → segmentFraction p0 p1 p = 1) :=
  clamp_spec (lo := 0) (hi := 1) (by decide) (projectionFactor p0 p1 p)

example : segmentFraction (⟨0, 0⟩ : P2 Rat) ⟨4, 0⟩ ⟨1, 7⟩ = 1/4 ∧ segmentFraction (⟨0, 0⟩ : P2 Rat) ⟨4, 0⟩ ⟨9, 7⟩ = 1 ∧
    segmentFraction (⟨0, 0⟩ : P2 Rat) ⟨4, 0⟩ ⟨-2, 1⟩ = 0 := by decide +kernel

/-! non-vacuity: a two-component line with a zero-length component in between -/
example : let l : Line Rat := [[1, 2], [0], [3]]
    l.WF = true ∧ getLocation l (3/2) = ⟨0, 1, 1/4⟩ ∧ getLength l ⟨0, 1, 1/4⟩ = 3/2 ∧
    getLocation l 3 = ⟨0, 2, 0⟩ ∧ getLocation l (-1) = ⟨2, 0, 2/3⟩ ∧ getLocation l 7 = ⟨2, 1, 1⟩ ∧
    getLocation l (-100) = ⟨0, 0, 0⟩ := by decide +kernel

end GeosModel.LinRef

/-!
## Part 2: line merging (`Model/Lines/Merge.lean`)

The chaining algorithm itself (`mergeModel`) is executable but **not** proved; what is proved is the soundness of the
executable contract checker `mergeCheck`, which the driver runs on the output of GEOS (and of `mergeModel`) for every case:
`mergeCheck … = true` entails the logical contract `MergeOK`, from which the property's clauses follow.
-/
namespace GeosModel.Lines

/-- if the checker accepts a candidate output, the output satisfies the merge contract -/
theorem merge_check_sound (directed : Bool) (es : List Edge) (chains : List Chain)
    (h : mergeCheck directed es chains = true) : MergeOK directed es chains :=
  mergeOK_of_mergeCheck directed es chains h

/-- the multiset of underlying input lines is unchanged, hence (for *any* geometry attached
to the edges) the merged lines have the same point set, and (for any length function) the same total length -/
theorem merge_preserves_edges (directed : Bool) (es : List Edge) (chains : List Chain)
    (h : MergeOK directed es chains) :
    (chains.flatten.map (·.e)).Perm es ∧
    (∀ (P : Type) (on : Edge → P → Prop) (p : P), (∃ c ∈ chains, ∃ d ∈ c, on d.e p) ↔ (∃ e ∈ es, on e p)) ∧
    (∀ w : Edge → Rat, sumW w (chains.flatten.map (·.e)) = sumW w es) := by
  refine ⟨h.perm, ?_, fun w => sumW_perm w h.perm⟩
  intro P on p
  constructor
  · rintro ⟨c, hc, d, hd, ho⟩
    refine ⟨d.e, ?_, ho⟩
    apply h.perm.subset
    exact List.mem_map.mpr ⟨d, List.mem_flatten.mpr ⟨c, hc, hd⟩, rfl⟩
  · rintro ⟨e, he, ho⟩
    have := h.perm.symm.subset he
    obtain ⟨d, hd, rfl⟩ := List.mem_map.mp this
    obtain ⟨c, hc, hdc⟩ := List.mem_flatten.mp hd
    exact ⟨c, hc, d, hdc, ho⟩

/-- (undirected) — at a node of degree exactly two no output line stops, except a closed loop that
starts and ends there, and no two different output lines meet -/
theorem merge_maximal (es : List Edge) (chains : List Chain) (h : MergeOK false es chains) :
    (∀ c ∈ chains, ∀ n ∈ c.ends, degree es n = 2 → c.closed = true) ∧
    (∀ (i j : Nat) (_ : i < j) (hj : j < chains.length) (n : Int),
      n ∈ (chains[i]'(by omega)).ends → n ∈ chains[j].ends → degree es n ≠ 2) := by
  constructor
  · intro c hc n hn hd
    cases hcl : c.closed with
    | true => rfl
    | false => exact nomatch (stopOK_degree_two hd (h.stop c hc hcl n hn)).1
  · intro i j hij hj n hi hjn hd
    exact nomatch (stopOK_degree_two hd (h.apart i j hij hj n hi hjn)).1

/-- directed merging traverses every input line forwards, joins lines head-to-tail at
degree-2 nodes, and stops at a degree-2 node only where both lines leave it or both enter it -/
theorem merge_directed_respects (es : List Edge) (chains : List Chain) (h : MergeOK true es chains) :
    (∀ c ∈ chains, ∀ d ∈ c, d.fwd = true) ∧
    (∀ c ∈ chains, ∀ k (hk : k + 1 < c.length), c[k].e.b = c[k + 1].e.a ∧ degree es c[k].e.b = 2) ∧
    (∀ c ∈ chains, c.closed = false → ∀ n ∈ c.ends, degree es n = 2 → outCount es n = 2 ∨ inCount es n = 2) := by
  have hf := h.fwd rfl
  refine ⟨hf, fun c hc k hk => ?_, fun c hc hcl n hn hd => (stopOK_degree_two hd (h.stop c hc hcl n hn)).2⟩
  obtain ⟨h1, h2⟩ := h.walk c hc k hk
  have f1 := DEdge.dst_fwd (hf c hc _ (List.getElem_mem (Nat.lt_of_succ_lt hk)))
  have f2 := DEdge.src_fwd (hf c hc _ (List.getElem_mem hk))
  exact ⟨f1.symm.trans (h1.trans f2), f1 ▸ h2⟩

/-! non-vacuity: a path 1–2–3 with a branch at 3, and an isolated two-edge loop -/
example : let es : List Edge := [⟨0, 1, 2⟩, ⟨1, 3, 2⟩, ⟨2, 3, 4⟩, ⟨3, 3, 5⟩, ⟨4, 7, 8⟩, ⟨5, 8, 7⟩]
    mergeCheck false es (mergeModel false es) = true ∧ (mergeModel false es).length = 4 ∧
    mergeCheck false es (es.map fun e => [⟨e, true⟩]) = false ∧
    mergeCheck true es (mergeModel true es) = true ∧ (mergeModel true es).length = 5 := by decide +kernel

/-!
## Part 3: noding, polygonizing, shared paths — soundness of the exact contract checkers (`Model/Lines/Noding.lean`)

SPEC + correspondence: that GEOS meets these contracts is *observed* per generated case by running the checkers on its
output; the theorems say what an accepting answer means.  `Kernel.segRel` is the exact intersection classifier of
`Base/Kernel.lean`.
-/
open GeosModel.Kernel

/-- if `nodeCheck` accepts (input lines, output lines) then, for the output segments `o`:
(1) any two of them are disjoint or have exactly one common point which is an endpoint of both — no interior
intersection, no overlap (completeness of the pairwise loop); (2) every output segment has both ends within the
tolerance of one input segment; (3) every non-degenerate input segment `u` is covered: its end is reachable from its start
through output segments that lie within the tolerance of `u`.  With tolerance 0, (2)+(3) say the point sets are equal. -/
theorem noded_check_sound (t : Tol) (inp out : List (List Pt)) (h : nodeCheck t inp out = true) :
    let o := out.flatMap segsOf
    let i := inp.flatMap segsOf
    (∀ (a b : Nat) (_ : a < b) (hb : b < o.length),
      segRel (o[a]'(by omega)).a (o[a]'(by omega)).b o[b].a o[b].b = .disjoint ∨
      (segRel (o[a]'(by omega)).a (o[a]'(by omega)).b o[b].a o[b].b = .point false ∧ sharesEndpoint (o[a]'(by omega)) o[b] = true)) ∧
    (∀ s ∈ o, ∃ u ∈ i, near t u s.a = true ∧ near t u s.b = true) ∧
    (∀ u ∈ i, u.a ≠ u.b → Reach (o.filter fun s => near t u s.a && near t u s.b) u.a u.b) := by
  simp only [nodeCheck, Bool.and_eq_true] at h
  obtain ⟨⟨⟨_, hn⟩, hnear⟩, hcov⟩ := h
  refine ⟨?_, ?_, ?_⟩
  · intro a b hab hb
    have := allPairs_sound properPair _ hn a b hab hb
    unfold properPair at this
    split at this
    · left; assumption
    · right; rename_i heq; exact ⟨heq, this⟩
    · simp at this
  · intro s hs
    simp only [nearAll, List.all_eq_true, List.any_eq_true, Bool.and_eq_true] at hnear
    exact hnear s hs
  · intro u hu hne
    simp only [coverAll, List.all_eq_true] at hcov
    apply covered_sound
    apply hcov
    simp only [List.mem_filter, bne_iff_ne, ne_eq]
    exact ⟨hu, hne⟩

/-- if `polyCore` accepts then every polygon ring is a chain of input lines, no input line
bounds two rings on the same side, and (full mode) every input line with ≥ 2 distinct points bounds a polygon or is one of
the reported dangles, cut edges, or part of a reported invalid ring -/
theorem polygonize_check_sound (full : Bool) (lines : List InLine) (o : PolyOut) (h : polyCore full lines o = true) :
    ∃ used, usesOf (lines.filter fun ln => 2 ≤ ln.pts.length) o.polys = some used ∧ used.Nodup ∧
      (full = true → ∃ dIds cIds,
        matchWhole (lines.filter fun ln => 2 ≤ ln.pts.length) o.dangles [] = some dIds ∧
        matchWhole (lines.filter fun ln => 2 ≤ ln.pts.length) o.cuts [] = some cIds ∧
        ∀ ln ∈ lines, 2 ≤ ln.pts.length →
          (∃ u ∈ used, u.1 = ln.id) ∨ ln.id ∈ dIds ∨ ln.id ∈ cIds ∨
          ln.id ∈ invalidIds (lines.filter fun ln => 2 ≤ ln.pts.length) o.invalid) := by
  unfold polyCore at h
  simp only at h
  split at h
  · simp at h
  · rename_i used hu
    simp only [Bool.and_eq_true, Bool.or_eq_true, Bool.not_eq_eq_eq_not, Bool.not_true] at h
    refine ⟨used, hu, nodupB_sound used h.1, ?_⟩
    intro hf
    rcases h.2 with h2 | h2
    · simp [hf] at h2
    · split at h2
      · rename_i dIds cIds hd hc
        refine ⟨dIds, cIds, hd, hc, ?_⟩
        intro ln hl hlen
        simp only [List.all_eq_true, Bool.or_eq_true, List.any_eq_true, beq_iff_eq, List.contains_iff_mem] at h2
        have := h2 ln (List.mem_filter.mpr ⟨hl, by simpa using hlen⟩)
        rcases this with ((h3 | h3) | h3) | h3
        · left; exact h3
        · right; left; exact h3
        · right; right; left; exact h3
        · right; right; right; exact h3
      · simp at h2

/-- if `sharedCore` accepts then every segment of a path reported "same direction" runs the same
way along a segment of g1 and a segment of g2 that both contain it, and every segment reported "opposite" runs opposite ways -/
theorem shared_check_sound (g1 g2 same opp : List (List Pt)) (h : sharedCore g1 g2 same opp = true) :
    let s1 := (g1.flatMap segsOf).filter fun s => s.a != s.b
    let s2 := (g2.flatMap segsOf).filter fun s => s.a != s.b
    (∀ o ∈ same.flatMap segsOf, ∃ d1 ∈ dirsIn s1 o, ∃ d2 ∈ dirsIn s2 o, d1 = d2) ∧
    (∀ o ∈ opp.flatMap segsOf, ∃ d1 ∈ dirsIn s1 o, ∃ d2 ∈ dirsIn s2 o, d1 ≠ d2) := by
  simp only [sharedCore, Bool.and_eq_true, List.all_eq_true, List.any_eq_true, beq_iff_eq, bne_iff_ne, ne_eq] at h
  exact ⟨fun o ho => h.1 o ho, fun o ho => h.2 o ho⟩

/-! non-vacuity: a crossing that is noded at (1,1) is accepted with tolerance 0, the un-noded crossing is rejected -/
example : nodeCheck ⟨0, 1⟩ [[⟨0, 0⟩, ⟨2, 2⟩], [⟨0, 2⟩, ⟨2, 0⟩]]
    [[⟨0, 0⟩, ⟨1, 1⟩], [⟨1, 1⟩, ⟨2, 2⟩], [⟨0, 2⟩, ⟨1, 1⟩], [⟨1, 1⟩, ⟨2, 0⟩]] = true ∧
    nodeCheck ⟨0, 1⟩ [[⟨0, 0⟩, ⟨2, 2⟩], [⟨0, 2⟩, ⟨2, 0⟩]] [[⟨0, 0⟩, ⟨2, 2⟩], [⟨0, 2⟩, ⟨2, 0⟩]] = false := by decide

end GeosModel.Lines
