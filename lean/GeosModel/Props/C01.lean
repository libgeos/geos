import GeosModel.Model.Relate.Pred
import GeosModel.Model.Relate.EnvExit
import GeosModel.Model.Relate.Ref
import GeosModel.Proofs.Relate.IMLemmas
import GeosModel.Proofs.Relate.PredLemmas
/-!
# C01 — relate matrix and named predicates equal the exact DE-9IM on grid inputs

What is *proved* here (for every matrix, every dimension pair, every event sequence):

* `named_*_eq_pattern` — each named predicate of `IntersectionMatrix` is exactly the disjunction of its
  documented DE-9IM patterns ("every named predicate returns the truth value its DE-9IM definition
  assigns to the matrix");
* `valueIM_stable`, `determined_stable` — once `isDetermined()` holds on a partial matrix, `valueIM()` has the same
  value on every larger matrix (entries only grow), so freezing the answer early is sound;
* `early_exit_final`, `early_exit_eq_final` — for every sequence of `updateDimension` events, the value an IM predicate
  ends up with (frozen early or computed in `finish()`) equals `valueIM` of the matrix all the events build;
  `basic_intersects_final` / `basic_disjoint_final` — the same for the two matrix-free predicates;
* `run_im_eq_fold` — the matrix held by the predicate is the fold of the events;
* `envelope_exit_sound` — the `false` that `RelateNG::evaluate` returns without looking at the geometry when
  `hasRequiredEnvelopeInteraction` fails (per-predicate `requireCovers` / `requireInteraction` against the envelopes)
  is the DE-9IM definition's answer, for every predicate kind and every true matrix compatible with the envelope facts;
  `exterior_check_irrelevant_A/B` — when `requireExteriorCheck` is false, the matrix entries the skipped point tests
  could raise do not influence the predicate's value (Model/Relate/EnvExit.lean).

The models `Model/Relate/Pred.lean` and `Model/Relate/EnvExit.lean` are tied to the source by the translator:
`Props/C01GenPred.lean` proves the functions regenerated from the current C++ equal to them, for all arguments.

What is *not* proved: that the geometric engine of RelateNG emits the right events.  That part is
tied by correspondence against `GeosModel.Relate.refIM` (Model/Relate/Ref.lean), an independent exact
evaluation of the DE-9IM by arrangement sampling, which is part of the trusted base as the definition
of "the true matrix" (see DESIGN.md, C01).
-/
namespace GeosModel.Relate
open GeosModel

/-! ### entries only grow -/

theorem foldIM_le (us : List Upd) : ∀ (m : IM), m.le (foldIM m us) := by
  induction us with
  | nil => intro m; exact IM.le_refl m
  | cons u us ih =>
    intro m
    exact IM.le_trans (raise_le m u.a u.b u.d) (ih _)

/-! ### named predicates are their DE-9IM patterns

Each proof evaluates the pattern to the conjunction of its entry tests (`mp`, `ms_*` of Proofs/Relate/IMLemmas) and
compares it with the definition of the predicate. -/

theorem ms_T (v : Int) : IM.matchesSym v 'T' = IM.T v := rfl

theorem named_disjoint_eq_pattern (m : IM) : m.isDisjoint = m.matchesPat "FF*FF****".toList := by
  simp only [String.reduceToList, mp, ms_star, ms_F, Bool.and_true, IM.isDisjoint]

theorem named_intersects_eq_pattern (m : IM) (hv : m.valid) :
    m.isIntersects = (m.matchesPat "T********".toList || m.matchesPat "*T*******".toList ||
                      m.matchesPat "***T*****".toList || m.matchesPat "****T****".toList) := by
  obtain ⟨h1, h2, _, h4, h5, _⟩ := hv
  simp only [String.reduceToList, mp, ms_star, ms_T, Bool.and_true, Bool.true_and, IM.isIntersects, IM.isDisjoint,
    T_iff _ h1.1, T_iff _ h2.1, T_iff _ h4.1, T_iff _ h5.1, beqF _ h1.1, beqF _ h2.1, beqF _ h4.1, beqF _ h5.1,
    Bool.not_and, Bool.not_not]

theorem named_within_eq_pattern (m : IM) : m.isWithin = m.matchesPat "T*F**F***".toList := by
  simp only [String.reduceToList, mp, ms_star, ms_F, ms_T, Bool.and_true, IM.isWithin]

theorem named_contains_eq_pattern (m : IM) : m.isContains = m.matchesPat "T*****FF*".toList := by
  simp only [String.reduceToList, mp, ms_star, ms_F, ms_T, Bool.and_true, IM.isContains]

theorem named_equals_eq_pattern (m : IM) (d : Int) :
    m.isEquals d d = m.matchesPat "T*F**FFF*".toList := by
  simp only [String.reduceToList, mp, ms_star, ms_F, ms_T, Bool.and_true, IM.isEquals, bne_self_eq_false,
    Bool.false_eq_true, if_false]
  ac_rfl

theorem named_covers_eq_pattern (m : IM) :
    m.isCovers = (m.matchesPat "T*****FF*".toList || m.matchesPat "*T****FF*".toList ||
                  m.matchesPat "***T**FF*".toList || m.matchesPat "****T*FF*".toList) := by
  simp only [String.reduceToList, mp, ms_star, ms_T, ms_F, Bool.and_true, Bool.true_and, IM.isCovers, IM.hasPointInCommon,
    Bool.and_assoc, Bool.and_or_distrib_right]

theorem named_coveredBy_eq_pattern (m : IM) :
    m.isCoveredBy = (m.matchesPat "T*F**F***".toList || m.matchesPat "*TF**F***".toList ||
                     m.matchesPat "**FT*F***".toList || m.matchesPat "**F*TF***".toList) := by
  simp only [String.reduceToList, mp, ms_star, ms_T, ms_F, Bool.and_true, Bool.true_and, IM.isCoveredBy, IM.hasPointInCommon,
    Bool.and_assoc, Bool.and_or_distrib_right]
  ac_rfl

/-- touches, for every dimension pair the code accepts (A/A, L/L, L/A, P/A, P/L and their swaps) -/
theorem named_touches_eq_pattern (m : IM) (dA dB : Int)
    (hd : (dA, dB) ∈ [((2 : Int), (2 : Int)), (1, 1), (1, 2), (2, 1), (0, 2), (2, 0), (0, 1), (1, 0)]) :
    m.isTouches dA dB = (m.matchesPat "FT*******".toList || m.matchesPat "F**T*****".toList ||
                         m.matchesPat "F***T****".toList) := by
  have h : m.isTouches dA dB = (m.ii == -1 && (IM.T m.ib || IM.T m.bi || IM.T m.bb)) := by
    simp only [List.mem_cons, Prod.mk.injEq, List.mem_nil_iff, or_false] at hd
    rcases hd with ⟨rfl, rfl⟩ | ⟨rfl, rfl⟩ | ⟨rfl, rfl⟩ | ⟨rfl, rfl⟩ | ⟨rfl, rfl⟩ | ⟨rfl, rfl⟩ | ⟨rfl, rfl⟩ | ⟨rfl, rfl⟩ <;> rfl
  simp only [h, String.reduceToList, mp, ms_star, ms_T, ms_F, Bool.and_true, Bool.and_or_distrib_left]

theorem named_touches_PP (m : IM) : m.isTouches 0 0 = false := rfl

theorem named_crosses_lower_eq_pattern (m : IM) (dA dB : Int)
    (hd : (dA, dB) ∈ [((0 : Int), (1 : Int)), (0, 2), (1, 2)]) :
    m.isCrosses dA dB = m.matchesPat "T*T******".toList := by
  simp only [List.mem_cons, Prod.mk.injEq, List.mem_nil_iff, or_false] at hd
  simp only [String.reduceToList, mp, ms_star, ms_T, Bool.and_true]
  rcases hd with ⟨rfl, rfl⟩ | ⟨rfl, rfl⟩ | ⟨rfl, rfl⟩ <;> rfl

theorem named_crosses_higher_eq_pattern (m : IM) (dA dB : Int)
    (hd : (dA, dB) ∈ [((1 : Int), (0 : Int)), (2, 0), (2, 1)]) :
    m.isCrosses dA dB = m.matchesPat "T*****T**".toList := by
  simp only [List.mem_cons, Prod.mk.injEq, List.mem_nil_iff, or_false] at hd
  simp only [String.reduceToList, mp, ms_star, ms_T, Bool.and_true]
  rcases hd with ⟨rfl, rfl⟩ | ⟨rfl, rfl⟩ | ⟨rfl, rfl⟩ <;> rfl

theorem named_crosses_LL_eq_pattern (m : IM) : m.isCrosses 1 1 = m.matchesPat "0********".toList := by
  simp only [String.reduceToList, mp, ms_star, ms_0, Bool.and_true]; rfl

theorem named_overlaps_PP_AA_eq_pattern (m : IM) (d : Int) (hd : d = 0 ∨ d = 2) :
    m.isOverlaps d d = m.matchesPat "T*T***T**".toList := by
  simp only [String.reduceToList, mp, ms_star, ms_T, Bool.and_true]
  rcases hd with rfl | rfl <;> rfl

theorem named_overlaps_LL_eq_pattern (m : IM) : m.isOverlaps 1 1 = m.matchesPat "1*T***T**".toList := by
  simp only [String.reduceToList, mp, ms_star, ms_T, ms_1, Bool.and_true]; rfl

/-! ### an early exit can never change the answer -/

theorem T_mono {v w : Int} (h : v ≤ w) (hv : IM.T v = true) (hw : -1 ≤ v) : IM.T w = true := by
  rw [T_iff _ hw, decide_eq_true_iff] at hv
  exact T_of_nonneg (by omega)

theorem not_F_of_nonneg {v : Int} (h : v ≥ 0) : (v == -1) = false := by
  simp; omega

/-- entrywise `≤` of two lists of the same length -/
def EntriesLe : List Int → List Int → Prop
  | [], [] => True
  | v :: vs, w :: ws => v ≤ w ∧ EntriesLe vs ws
  | _, _ => False

theorem entries_le {m n : IM} (h : m.le n) : EntriesLe m.entries n.entries := by
  obtain ⟨h1, h2, h3, h4, h5, h6, h7, h8, h9⟩ := h
  exact ⟨h1, h2, h3, h4, h5, h6, h7, h8, h9, trivial⟩

/-- once the scan of `IMPatternMatcher::isDetermined` has met an entry above the dimension the pattern requires, no
entrywise larger matrix matches the pattern -/
theorem patDetermined_stable : ∀ (vs ws ps : List Int), EntriesLe vs ws → patDetermined vs ps = true →
    (List.zipWith matchEntry ws ps).all id = false
  | [], _, _, _, h => by simp [patDetermined] at h
  | _ :: _, _, [], _, h => by simp [patDetermined] at h
  | _ :: _, [], _ :: _, hl, _ => hl.elim
  | v :: vs, w :: ws, p :: ps, ⟨hvw, hl⟩, h => by
    have ih := patDetermined_stable vs ws ps hl
    simp only [List.zipWith_cons_cons, List.all_cons, id, Bool.and_eq_false_iff, matchEntry]
    simp only [patDetermined] at h
    split at h
    · exact Or.inr (ih h)
    · split at h
      · split at h
        · cases h
        · exact Or.inr (ih h)
      · split at h
        · rename_i h3 h2 hgt
          rw [if_neg h3, if_neg h2, beq_eq_false_iff_ne]
          exact Or.inl (by omega)
        · exact Or.inr (ih h)

theorem isContains_false (m : IM) (h : m.ei ≥ 0 ∨ m.eb ≥ 0) : m.isContains = false := by
  unfold IM.isContains; rcases h with h | h <;> simp [not_F_of_nonneg h]
theorem isCovers_false (m : IM) (h : m.ei ≥ 0 ∨ m.eb ≥ 0) : m.isCovers = false := by
  unfold IM.isCovers; rcases h with h | h <;> simp [not_F_of_nonneg h]
theorem isWithin_false (m : IM) (h : m.ie ≥ 0 ∨ m.be ≥ 0) : m.isWithin = false := by
  unfold IM.isWithin; rcases h with h | h <;> simp [not_F_of_nonneg h]
theorem isCoveredBy_false (m : IM) (h : m.ie ≥ 0 ∨ m.be ≥ 0) : m.isCoveredBy = false := by
  unfold IM.isCoveredBy; rcases h with h | h <;> simp [not_F_of_nonneg h]
theorem isTouches_false (m : IM) (dA dB : Int) (h : m.ii ≥ 0) : m.isTouches dA dB = false := by
  unfold IM.isTouches; simp only [not_F_of_nonneg h]; split <;> simp
theorem isEquals_false (m : IM) (dA dB : Int) (h : m.ie ≥ 0 ∨ m.be ≥ 0 ∨ m.ei ≥ 0 ∨ m.eb ≥ 0) :
    m.isEquals dA dB = false := by
  unfold IM.isEquals; split
  · rfl
  · rcases h with h | h | h | h <;> simp [not_F_of_nonneg h]

/-- for the six predicates that demand an `F` entry, `isDetermined()` says that one of these entries is no longer `F`: the
value is `false` on every larger matrix -/
theorem valueIM_false_of_determined {k : Kind} {dA dB : Int} {m n : IM}
    (hk : k = .contains ∨ k = .covers ∨ k = .within ∨ k = .coveredBy ∨ k = .touches ∨ k = .equalsTopo)
    (hle : m.le n) (hdet : isDetermined k dA dB m = true) : valueIM k dA dB n = false := by
  obtain ⟨hii, -, hie, -, -, hbe, hei, heb, -⟩ := hle
  rcases hk with rfl | rfl | rfl | rfl | rfl | rfl <;>
    simp only [isDetermined, intersectsExteriorOf, isIntersectsE, IM.get, if_true, Bool.false_eq_true, if_false, Bool.or_eq_true,
      ge_iff_le, decide_eq_true_eq] at hdet
  · exact isContains_false n (by omega)
  · exact isCovers_false n (by omega)
  · exact isWithin_false n (by omega)
  · exact isCoveredBy_false n (by omega)
  · exact isTouches_false n _ _ (by omega)
  · exact isEquals_false n _ _ (by omega)

/-- crosses: the entries `isDetermined()` has seen non-empty are the ones `isCrosses` reads for this dimension pair -/
theorem crosses_stable {dA dB : Int} {m n : IM} (hle : m.le n) (hdet : isDetermined .crosses dA dB m = true) :
    n.isCrosses dA dB = m.isCrosses dA dB := by
  obtain ⟨hii, -, hie, -, -, -, hei, -, -⟩ := hle
  simp only [isDetermined, isIntersectsE, IM.get, Bool.and_eq_true, beq_iff_eq, ge_iff_le, gt_iff_lt] at hdet
  unfold IM.isCrosses
  split at hdet
  · -- two lines: the interiors already meet in a line, so not in a point, now or later
    rename_i hll
    obtain ⟨rfl, rfl⟩ := hll
    rw [decide_eq_true_eq] at hdet
    have e1 : (n.ii == 0) = false := beq_eq_false_iff_ne.mpr (by omega)
    have e2 : (m.ii == 0) = false := beq_eq_false_iff_ne.mpr (by omega)
    simp [e1, e2]
  · have ll : (dA == 1 && dB == 1) = false := by simpa using ‹¬ (dA = 1 ∧ dB = 1)›
    split at hdet
    · -- dA < dB: only the first row of `isCrosses` can apply
      have t2 : (dA == 1 && dB == 0 || dA == 2 && dB == 0 || dA == 2 && dB == 1) = false := by
        simp only [Bool.or_eq_false_iff, Bool.and_eq_false_iff, beq_eq_false_iff_ne]; omega
      simp only [Bool.and_eq_true, decide_eq_true_eq] at hdet
      simp only [t2, ll, Bool.false_eq_true, if_false, T_of_nonneg hdet.1, T_of_nonneg hdet.2,
        T_of_nonneg (Int.le_trans hdet.1 hii), T_of_nonneg (Int.le_trans hdet.2 hie)]
    · split at hdet
      · have t1 : (dA == 0 && dB == 1 || dA == 0 && dB == 2 || dA == 1 && dB == 2) = false := by
          simp only [Bool.or_eq_false_iff, Bool.and_eq_false_iff, beq_eq_false_iff_ne]; omega
        simp only [Bool.and_eq_true, decide_eq_true_eq] at hdet
        simp only [t1, ll, Bool.false_eq_true, if_false, T_of_nonneg hdet.1, T_of_nonneg hdet.2,
          T_of_nonneg (Int.le_trans hdet.1 hii), T_of_nonneg (Int.le_trans hdet.2 hei)]
      · cases hdet

/-- overlaps; for two lines `isDetermined()` has seen `II = 1`, and the interiors of two lines cannot meet in dimension 2 -/
theorem overlaps_stable {dA dB : Int} {m n : IM} (hle : m.le n) (hLL : dA = 1 → dB = 1 → n.ii ≤ 1)
    (hdet : isDetermined .overlaps dA dB m = true) : n.isOverlaps dA dB = m.isOverlaps dA dB := by
  obtain ⟨hii, -, hie, -, -, -, hei, -, -⟩ := hle
  simp only [isDetermined, isIntersectsE, IM.get, Bool.or_eq_true, Bool.and_eq_true, beq_iff_eq, ge_iff_le, decide_eq_true_eq] at hdet
  unfold IM.isOverlaps
  rcases hdet with ⟨⟨⟨_, h1⟩, h2⟩, h3⟩ | ⟨⟨⟨rfl, h1⟩, h2⟩, h3⟩ <;>
    rw [T_of_nonneg h2, T_of_nonneg h3, T_of_nonneg (Int.le_trans h2 hie), T_of_nonneg (Int.le_trans h3 hei)]
  · rw [T_of_nonneg h1, T_of_nonneg (Int.le_trans h1 hii)]
    split
    · rfl
    · split
      · rename_i hll
        simp only [Bool.and_eq_true, beq_iff_eq] at hll
        omega
      · rfl
  · by_cases hb : dB = 1
    · subst hb
      have e1 : n.ii = 1 := by have := hLL rfl rfl; omega
      simp [e1, h1]
    · have hb' : (dB == 1) = false := by simpa using hb
      simp [hb']

/-- if `isDetermined()` holds on a partial matrix `m`, then `valueIM()` gives the same answer on `m` and on every matrix `n`
with larger entries, so freezing the answer at that moment is sound.  The only side condition is the one the geometry
guarantees for two lines: their interiors cannot meet in dimension 2. -/
theorem valueIM_stable (k : Kind) (dA dB : Int) {m n : IM} (hle : m.le n) (hLL : dA = 1 → dB = 1 → n.ii ≤ 1)
    (hdet : isDetermined k dA dB m = true) : valueIM k dA dB n = valueIM k dA dB m := by
  have six := fun hk => (valueIM_false_of_determined hk hle hdet).trans
    (valueIM_false_of_determined hk (IM.le_refl m) hdet).symm
  cases k with
  | intersects => cases hdet
  | disjoint => cases hdet
  | matrix => cases hdet
  | contains => exact six (.inl rfl)
  | covers => exact six (.inr (.inl rfl))
  | within => exact six (.inr (.inr (.inl rfl)))
  | coveredBy => exact six (.inr (.inr (.inr (.inl rfl))))
  | touches => exact six (.inr (.inr (.inr (.inr (.inl rfl)))))
  | equalsTopo => exact six (.inr (.inr (.inr (.inr (.inr rfl)))))
  | crosses => exact crosses_stable hle hdet
  | overlaps => exact overlaps_stable hle hLL hdet
  | pattern p =>
    simp only [valueIM, matchesP, patDetermined_stable _ _ p (entries_le hle) hdet,
      patDetermined_stable _ _ p (entries_le (IM.le_refl m)) hdet]

/-- **`determined_stable`**: `valueIM_stable` for a valid partial matrix -/
theorem determined_stable (k : Kind) (dA dB : Int) (m m' : IM) (hv : m.valid) (hle : m.le m')
    (hLL : dA = 1 → dB = 1 → m'.ii ≤ 1)
    (hdet : isDetermined k dA dB m = true) :
    valueIM k dA dB m' = valueIM k dA dB m :=
  (fun _ => valueIM_stable k dA dB hle hLL hdet) hv

/-! ### the state machine -/

theorem updateIM_fields (s : PState) (a b : Loc3) (d : Int) :
    (s.updateIM a b d).im = s.im.raise a b d ∧ (s.updateIM a b d).kind = s.kind ∧
    (s.updateIM a b d).dimA = s.dimA ∧ (s.updateIM a b d).dimB = s.dimB := by
  unfold PState.updateIM IM.raise
  by_cases hgt : d > s.im.get a b
  · simp only [hgt, if_true]
    split
    · have := setValue_fields { s with im := s.im.set a b d } (valueIM s.kind s.dimA s.dimB (s.im.set a b d))
      simpa using this
    · simp
  · simp [hgt]

/-- after one update the value is the old one if it was known, else either still unknown or
`valueIM` of the new matrix which is determined -/
theorem updateIM_value (s : PState) (a b : Loc3) (d : Int) :
    (s.updateIM a b d).value = s.value ∨
    (s.value = none ∧ isDetermined s.kind s.dimA s.dimB (s.im.raise a b d) = true ∧
      (s.updateIM a b d).value = some (valueIM s.kind s.dimA s.dimB (s.im.raise a b d))) := by
  unfold PState.updateIM IM.raise
  by_cases hgt : d > s.im.get a b
  · simp only [hgt, if_true]
    by_cases hdet : isDetermined s.kind s.dimA s.dimB (s.im.set a b d) = true
    · simp only [hdet, if_true, setValue_value]
      cases hv : s.value with
      | some w => left; rfl
      | none => right; exact ⟨rfl, trivial, rfl⟩
    · simp [hdet]
  · simp [hgt]

theorem update_kind (s : PState) (a b : Loc3) (d : Int) : (s.update a b d).kind = s.kind := by
  unfold PState.update
  split
  · split
    · exact (setValue_fields s true).2.1
    · rfl
  · split
    · exact (setValue_fields s false).2.1
    · rfl
  · exact (updateIM_fields s a b d).2.1

theorem run_kind (us : List Upd) : ∀ s : PState, (s.run us).kind = s.kind := by
  induction us with
  | nil => intro s; rfl
  | cons u us ih => intro s; exact (ih _).trans (update_kind s u.a u.b u.d)

/-- the matrix a predicate holds after a run is the fold of the events -/
theorem run_im_eq_fold (us : List Upd) : ∀ (s : PState), s.kind.isBasic = false →
    (s.run us).im = foldIM s.im us ∧ (s.run us).kind = s.kind ∧ (s.run us).dimA = s.dimA ∧ (s.run us).dimB = s.dimB := by
  induction us with
  | nil => intro s _; simp [PState.run, foldIM]
  | cons u us ih =>
    intro s hk
    obtain ⟨h1, h2, h3, h4⟩ := updateIM_fields s u.a u.b u.d
    rw [← update_eq_updateIM s hk] at h1 h2 h3 h4
    have := ih (s.update u.a u.b u.d) (by rw [h2]; exact hk)
    simp only [PState.run, foldIM, List.foldl_cons] at this ⊢
    rw [h1, h2, h3, h4] at this
    exact this

theorem finish_value (s : PState) (hk : s.kind.isBasic = false) :
    s.finish.value = match s.value with | some w => some w | none => some (valueIM s.kind s.dimA s.dimB s.im) := by
  rw [finish_eq_setValue s hk]; exact setValue_value s _

/-- for every IM predicate (named ones, pattern matcher) and every sequence of update events, starting from an undecided
state: the value after `finish()` — whether it was frozen at the first determined prefix or computed at the end — is
`valueIM` of the matrix built from all events -/
theorem early_exit_final (us : List Upd) : ∀ (s : PState), s.kind.isBasic = false →
    (s.dimA = 1 → s.dimB = 1 → (foldIM s.im us).ii ≤ 1) →
    (s.value = none ∨ s.value = some (valueIM s.kind s.dimA s.dimB (foldIM s.im us))) →
    ((s.run us).finish).value = some (valueIM s.kind s.dimA s.dimB (foldIM s.im us)) := by
  induction us with
  | nil =>
    intro s hk _ hval
    simp only [PState.run, List.foldl_nil, foldIM] at hval ⊢
    rw [finish_value s hk]
    rcases hval with h | h <;> simp [h]
  | cons u us ih =>
    intro s hk hLL hval
    obtain ⟨h1, h2, h3, h4⟩ := updateIM_fields s u.a u.b u.d
    have hval' := updateIM_value s u.a u.b u.d
    rw [← update_eq_updateIM s hk] at h1 h2 h3 h4 hval'
    have hfold : foldIM s.im (u :: us) = foldIM (s.update u.a u.b u.d).im us := by
      simp [foldIM, h1]
    have key := ih (s.update u.a u.b u.d) (by rw [h2]; exact hk) (by rw [h3, h4, ← hfold]; exact hLL)
    rw [h2, h3, h4, ← hfold] at key
    simp only [PState.run, List.foldl_cons] at key ⊢
    apply key
    rcases hval' with hsame | ⟨hnone, hdet, hnew⟩
    · rw [hsame]; exact hval
    · right
      rw [hnew]
      congr 1
      have hle : (s.im.raise u.a u.b u.d).le (foldIM s.im (u :: us)) := by
        simp only [foldIM, List.foldl_cons]; exact foldIM_le us _
      exact (valueIM_stable _ s.dimA s.dimB hle hLL hdet).symm

/-- **`early_exit_eq_final`**: `early_exit_final` for a valid matrix and events with dimensions in F..A -/
theorem early_exit_eq_final (us : List Upd) : ∀ (s : PState), s.kind.isBasic = false →
    s.im.valid → (∀ u ∈ us, -1 ≤ u.d ∧ u.d ≤ 2) →
    (s.dimA = 1 → s.dimB = 1 → (foldIM s.im us).ii ≤ 1) →
    (s.value = none ∨ s.value = some (valueIM s.kind s.dimA s.dimB (foldIM s.im us))) →
    ((s.run us).finish).value = some (valueIM s.kind s.dimA s.dimB (foldIM s.im us)) :=
  fun s hk _ _ => early_exit_final us s hk

/-! #### the two matrix-free predicates -/

/-- a non-`F` entry among the four that `isIntersection` names makes the matrix intersecting -/
theorem isIntersects_of_get {m : IM} {a b : Loc3} (hi : isIntersection a b = true) (h : 0 ≤ m.get a b) :
    m.isIntersects = true := by
  cases a <;> cases b <;> simp [isIntersection, IM.get] at hi h <;>
    simp [IM.isIntersects, IM.isDisjoint, not_F_of_nonneg h]

theorem isIntersects_set_exterior {a b : Loc3} (hi : isIntersection a b = false) (m : IM) (d : Int) :
    (m.set a b d).isIntersects = m.isIntersects := by
  cases a <;> cases b <;> simp [isIntersection] at hi <;> rfl

theorem raise_isIntersects (m : IM) (a b : Loc3) (d : Int) (hd : 0 ≤ d) :
    (m.raise a b d).isIntersects = (m.isIntersects || isIntersection a b) := by
  cases hi : isIntersection a b
  · rw [Bool.or_false]
    unfold IM.raise
    split
    · exact isIntersects_set_exterior hi m d
    · rfl
  · rw [Bool.or_true]
    apply isIntersects_of_get hi
    unfold IM.raise
    split
    · rw [get_set_self]; exact hd
    · omega

theorem foldIM_isIntersects (us : List Upd) : ∀ (m : IM), (∀ u ∈ us, 0 ≤ u.d) →
    (foldIM m us).isIntersects = (m.isIntersects || us.any (fun u => isIntersection u.a u.b)) := by
  induction us with
  | nil => intro m _; simp [foldIM]
  | cons u us ih =>
    intro m hd
    simp only [foldIM, List.foldl_cons, List.any_cons] at ih ⊢
    rw [ih _ (fun w hw => hd w (by simp [hw])), raise_isIntersects m u.a u.b u.d (hd u (by simp)), Bool.or_assoc]

theorem basic_run_value (k : Kind) (hk : k = .intersects ∨ k = .disjoint) (us : List Upd) :
    ∀ (s : PState), s.kind = k →
      (s.run us).value = match s.value with
        | some w => some w
        | none => if us.any (fun u => isIntersection u.a u.b) then some (decide (k = .intersects)) else none := by
  induction us with
  | nil => intro s _; cases h : s.value <;> simp [PState.run, h]
  | cons u us ih =>
    intro s hs
    have := ih (s.update u.a u.b u.d) ((update_kind s u.a u.b u.d).trans hs)
    simp only [PState.run, List.foldl_cons, List.any_cons] at this ⊢
    rw [this]
    unfold PState.update
    -- the value is set at the first intersection event and sticky afterwards: for either kind, whether or not `u` is such an
    -- event, and whether or not the value was known, both sides are the same `match`
    rcases hk with rfl | rfl <;> simp only [hs] <;>
      by_cases hi : isIntersection u.a u.b = true <;> simp [hi, setValue_value] <;>
      cases s.value <;> simp

/-- the value the two matrix-free predicates end with: `isIntersects` resp. `isDisjoint` of the matrix the events build -/
theorem basic_final (k : Kind) (hk : k = .intersects ∨ k = .disjoint) (us : List Upd) (hd : ∀ u ∈ us, 0 ≤ u.d) :
    (((PState.new k).run us).finish).value =
      some ((foldIM (IM.allF.set .E .E 2) us).isIntersects == decide (k = .intersects)) := by
  have hrun : ((PState.new k).run us).value =
      if us.any (fun u => isIntersection u.a u.b) then some (decide (k = .intersects)) else none :=
    basic_run_value k hk us (PState.new k) rfl
  have hkind : ((PState.new k).run us).kind = k := run_kind us _
  rw [foldIM_isIntersects us _ hd, show (IM.allF.set .E .E 2).isIntersects = false from rfl, Bool.false_or]
  unfold PState.finish
  rcases hk with rfl | rfl <;> simp only [hkind, setValue_value, hrun] <;>
    cases us.any (fun u => isIntersection u.a u.b) <;> rfl

theorem basic_intersects_final (us : List Upd) (hd : ∀ u ∈ us, 0 ≤ u.d) :
    (((PState.new .intersects).run us).finish).value =
      some ((foldIM (IM.allF.set .E .E 2) us).isIntersects) := by
  rw [basic_final .intersects (.inl rfl) us hd]; simp

theorem basic_disjoint_final (us : List Upd) (hd : ∀ u ∈ us, 0 ≤ u.d) :
    (((PState.new .disjoint).run us).finish).value =
      some ((foldIM (IM.allF.set .E .E 2) us).isDisjoint) := by
  rw [basic_final .disjoint (.inr rfl) us hd]; simp [IM.isIntersects]


/-! ### the early exits in front of the state machine: envelope test and exterior-check flags (Model/Relate/EnvExit.lean) -/

theorem disjoint_entries (m : IM) (h : m.isDisjoint = true) : m.ii = -1 ∧ m.ib = -1 ∧ m.bi = -1 ∧ m.bb = -1 := by
  simpa [IM.isDisjoint, and_assoc] using h

/-- a pattern entry that asks for an interaction (`T` or a dimension) does not match `F` -/
theorem matchEntry_F {p : Int} (h : p = -2 ∨ p ≥ 0) : matchEntry (-1) p = false := by
  have e3 : (p == -3) = false := beq_eq_false_iff_ne.mpr (by omega)
  rcases h with rfl | h
  · rfl
  · have e2 : (p == -2) = false := beq_eq_false_iff_ne.mpr (by omega)
    have e1 : ((-1 : Int) == p) = false := beq_eq_false_iff_ne.mpr (by omega)
    simp [matchEntry, e3, e2, e1]

/-- a predicate that requires an interaction is false on a matrix without one -/
theorem requireInteraction_sound (k : Kind) (hk : k.requireInteraction = true) (dA dB : Int) (M : IM) (hd : M.isDisjoint = true) :
    k.defValue dA dB M = false := by
  obtain ⟨h1, h2, h3, h4⟩ := disjoint_entries M hd
  cases k with
  | pattern p =>
    simp only [Kind.requireInteraction, patRequiresInteraction] at hk
    simp only [Kind.defValue, valueIM, matchesP]
    split at hk
    · -- a nine-entry pattern one of whose four interaction entries is `T` or a dimension: that entry does not match `F`
      simp only [Bool.or_eq_true, beq_iff_eq, decide_eq_true_eq] at hk
      simp only [IM.entries, h1, h2, h3, h4, all_zipWith_nine]
      rcases hk with ((hk | hk) | hk) | hk <;> simp only [matchEntry_F hk, Bool.false_and, Bool.and_false]
    · cases hk
  | intersects => simp [Kind.defValue, IM.isIntersects, hd]
  | contains => simp [Kind.defValue, valueIM, IM.isContains, h1, T_neg_one]
  | within => simp [Kind.defValue, valueIM, IM.isWithin, h1, T_neg_one]
  | covers => simp [Kind.defValue, valueIM, IM.isCovers, IM.hasPointInCommon, h1, h2, h3, h4, T_neg_one]
  | coveredBy => simp [Kind.defValue, valueIM, IM.isCoveredBy, IM.hasPointInCommon, h1, h2, h3, h4, T_neg_one]
  | crosses => simp [Kind.defValue, valueIM, IM.isCrosses, h1, T_neg_one]
  | overlaps => simp [Kind.defValue, valueIM, IM.isOverlaps, h1, T_neg_one]
  | touches =>
    simp only [Kind.defValue, valueIM, IM.isTouches, h2, h3, h4, T_neg_one, Bool.or_self, Bool.and_false]
    split <;> exact ite_self false
  | disjoint => cases hk
  | equalsTopo => cases hk
  | matrix => cases hk

/-- **`envelope_exit_sound`** — `RelateNG::evaluate` answers `false` without looking at the geometry when
`hasRequiredEnvelopeInteraction` fails.  That answer is the DE-9IM definition's, for every predicate kind and every true matrix
`M` of a pair whose envelopes have the facts `e`.  The three hypotheses are what the envelope facts mean for the point sets:
if env(A) does not cover env(B) then either some point of B lies outside env(A), hence in the Exterior of A (`EI` or `EB` is
non-empty), or B has no point at all (then nothing intersects); symmetrically for B; disjoint envelopes mean no common point. -/
theorem envelope_exit_sound (k : Kind) (e : EnvFacts) (dA dB : Int) (M : IM)
    (hA : e.aCoversB = false → (M.ei ≥ 0 ∨ M.eb ≥ 0) ∨ M.isDisjoint = true)
    (hB : e.bCoversA = false → (M.ie ≥ 0 ∨ M.be ≥ 0) ∨ M.isDisjoint = true)
    (hI : e.intersects = false → M.isDisjoint = true)
    (hexit : hasRequiredEnvelopeInteraction k e = false) : k.defValue dA dB M = false := by
  -- the kinds with `requireCovers` also require an interaction, so a disjoint matrix is covered by `requireInteraction_sound`
  have hdis : ∀ k : Kind, k.requireInteraction = true → M.isDisjoint = true → k.defValue dA dB M = false :=
    fun k hk hd => requireInteraction_sound k hk dA dB M hd
  have other : ∀ k : Kind, (k.requireInteraction && !e.intersects) = true → k.defValue dA dB M = false := by
    intro k h
    rw [Bool.and_eq_true, Bool.not_eq_true'] at h
    exact hdis k h.1 (hI h.2)
  cases k with
  | contains => exact (hA hexit).elim (isContains_false M) (hdis _ rfl)
  | covers => exact (hA hexit).elim (isCovers_false M) (hdis _ rfl)
  | within => exact (hB hexit).elim (isWithin_false M) (hdis _ rfl)
  | coveredBy => exact (hB hexit).elim (isCoveredBy_false M) (hdis _ rfl)
  | _ => exact other _ (by simpa [hasRequiredEnvelopeInteraction, Kind.requireCovers] using hexit)

/-- **`exterior_check_irrelevant_A`** — when `requireExteriorCheck(GEOM_A)` is false RelateNG does not test the points of A against the
Exterior of B; the entries such tests could raise (`IE`, `BE`) do not influence the predicate's value -/
theorem exterior_check_irrelevant_A (k : Kind) (h : k.requireExteriorCheck true = false) (dA dB : Int) (m : IM) (x y : Int) :
    k.defValue dA dB { m with ie := x, be := y } = k.defValue dA dB m := by
  -- the four kinds without the check (intersects, disjoint, contains, covers) do not read these two entries
  cases k <;> simp [Kind.requireExteriorCheck] at h <;> rfl

/-- **`exterior_check_irrelevant_B`** — the same for the points of B against the Exterior of A (`EI`, `EB`) -/
theorem exterior_check_irrelevant_B (k : Kind) (h : k.requireExteriorCheck false = false) (dA dB : Int) (m : IM) (x y : Int) :
    k.defValue dA dB { m with ei := x, eb := y } = k.defValue dA dB m := by
  cases k <;> simp [Kind.requireExteriorCheck] at h <;> rfl

/-! ### non-vacuity -/

example : ((PState.new .contains).initDim 2 1 |>.run [⟨.I, .I, 1⟩, ⟨.E, .I, 1⟩, ⟨.I, .E, 2⟩] |>.finish).value = some false := by
  decide

example : isDetermined .contains 2 1 (foldIM (IM.allF.set .E .E 2) [⟨.I, .I, 1⟩, ⟨.E, .I, 1⟩]) = true := by decide

-- envelope exit: A = [0,2]², B = [1,3]² — env(A) does not cover env(B), `contains` exits with false; a matrix of such a pair
-- (two overlapping squares, 212101212) has EI = 2 and indeed is not `contains`
example : hasRequiredEnvelopeInteraction .contains ⟨true, false, false, false, false⟩ = false := by decide
example : Kind.defValue .contains 2 2 ⟨2, 1, 2, 1, 0, 1, 2, 1, 2⟩ = false := by decide
example : (Kind.requireExteriorCheck .contains true = false) ∧ (Kind.requireExteriorCheck .contains false = true) := by decide

end GeosModel.Relate
