import GeosModel.Proofs.Tri.Predicates
import GeosModel.Proofs.Kernel.Basic
import GeosModel.Generated.TriPredicates
import Mathlib.Tactic.Ring
import Mathlib.Tactic.Linarith
/-!
# C16 — the regenerated triangulation predicates are the determinants the theorems are about

`Generated/TriPredicates.lean` is rewritten from `src/triangulate/quadedge/TrianglePredicate.cpp`, `Vertex.h` / `Vertex.cpp`
and `src/triangulate/polygon/TriDelaunayImprover.cpp` by `translate/cxx2lean.py` (spec `tri_predicates`) on every run.  The
C++ computes with `double` (and `long double` in `isInCircleNormalized`); the regenerated definitions are generic over the
carrier and are instantiated here with exact numbers — `Int`, or `Rat` where the code contains the decimal error factor
`9.99200719823023e-16` — on integer points, and proved equal, for all points, to

* `Kernel.det` (`triArea`, `Vertex::isCCW`, `rightOf`, `leftOf`),
* `Tri.inCircleLoc`, the sign of `Kernel.inCircleDet` (`isInCircleNormalized`, `isInCircleNonRobust` — the latter with its first
  two arguments exchanged),
* `Tri.robustInCircleLoc`, the same sign filtered by the error bound `Tri.robustErr` (`isInCircleRobust`), and the two flip tests
  built on it: `Tri.flipInCircle` (`Vertex::isInCircle`, `TriDelaunayImprover::isInCircle`) and `Tri.improverDelaunay`
  (`TriDelaunayImprover::isDelaunay`).

`Kernel.det` / `Kernel.inCircleDet` are what the certificate checkers evaluate and what `inCircle_sign` is about;
`Props/C16.lean` (`inCircleLoc_spec`, `robust_filter_sound`, `flip_only_if_in_circle`, `improver_flip_only_if_in_circle`) states what
the modelled decisions mean.  What the bridges do NOT say: anything about rounding — in floating point the determinant and the
bound are computed with errors; that the bound covers them is argued in the discussion the C++ comment points to
(libgeos/geos pull request 1162), not proved here.

Proof style (so that behaviour-preserving rewrites of the C++ keep the proofs valid): each regenerated function is a decision
skeleton applied to arithmetic values.  `simp only` unfolds it to plain arithmetic; the skeleton is a lemma over variables
(`locOfInt_sign`, used through `locOfInt_exact` and `locOfInt_filtered`; `loc_of_compare` for the comparison in
`isInCircleNormalized`); the value tested is shown to be the model's determinant by `ring`.
-/
namespace GeosModel.C16Gen
open GeosModel GeosModel.Kernel GeosModel.Tri GeosModel.Generated

/-- an integer point as the regenerated code sees it, over `Int` and over `Rat` -/
def xyZ (p : Pt) : Cxx.XY Int := ⟨p.x, p.y⟩
def xyQ (p : Pt) : Cxx.XY Rat := ⟨p.x, p.y⟩

/-- `TrianglePredicate::triArea` = `Kernel.det` -/
theorem gen_triArea_eq (a b c : Pt) : TriPredicates.triArea (R := Int) (xyZ a) (xyZ b) (xyZ c) = Kernel.det a b c := by
  simp only [TriPredicates.triArea, xyZ, Cxx.int_sub, Cxx.int_mul, Id.run, pure, Kernel.det]

/-- `Vertex::isCCW(b, c)` on the vertex `p`: the triangle `(p, b, c)` is counter-clockwise -/
theorem gen_vertexIsCCW_eq (p b c : Pt) :
    TriPredicates.vertexIsCCW (R := Int) (xyZ p) ⟨xyZ b⟩ ⟨xyZ c⟩ = decide (0 < Kernel.det p b c) := by
  simp only [TriPredicates.vertexIsCCW, xyZ, Cxx.gt, Cxx.int_lt, Cxx.int_sub, Cxx.int_mul, Id.run, pure, Kernel.det, sub_pos]

/-- `Vertex::rightOf(e)`: the vertex is strictly to the right of `e.orig → e.dest` -/
theorem gen_vertexRightOf_eq (p o d : Pt) :
    TriPredicates.vertexRightOf (R := Int) (xyZ p) ⟨⟨xyZ o⟩, ⟨xyZ d⟩⟩ = decide (Kernel.det o d p < 0) := by
  simp only [← Left.neg_pos_iff (a := Kernel.det o d p), ← det_swap13]; exact gen_vertexIsCCW_eq p d o

/-- `Vertex::leftOf(e)`: the vertex is strictly to the left of `e.orig → e.dest` -/
theorem gen_vertexLeftOf_eq (p o d : Pt) :
    TriPredicates.vertexLeftOf (R := Int) (xyZ p) ⟨⟨xyZ o⟩, ⟨xyZ d⟩⟩ = decide (0 < Kernel.det o d p) := by
  rw [← det_cycle']; exact gen_vertexIsCCW_eq p o d

/-- the C++ idiom `static_cast<Location>((g) - (l) + 1)` for two tests that exclude each other: INTERIOR (0) when `l` holds,
EXTERIOR (2) when `g` holds, BOUNDARY (1) otherwise -/
theorem locOfInt_sign {g l : Prop} [Decidable g] [Decidable l] (h : g → ¬ l) :
    TriPredicates.locOfInt ((if g then 1 else 0) - (if l then 1 else 0) + 1) = if l then .I else if g then .E else .B := by
  by_cases hg : g <;> by_cases hl : l <;> simp [hg, hl, TriPredicates.locOfInt]
  exact h hg hl

/-- the sign of `d = a - b`, as `inCircleLoc` reads it off its determinant, from comparing `a` with `b` -/
theorem loc_of_compare {a b d : Int} (hd : d = a - b) :
    (if a < b then Loc3.E else if a = b then .B else .I) = if 0 < d then .I else if d = 0 then .B else .E := by
  subst hd
  rcases Int.lt_trichotomy a b with h | h | h
  · rw [if_pos h, if_neg (by omega), if_neg (by omega)]
  · rw [if_neg (by omega), if_pos h, if_neg (by omega), if_pos (by omega)]
  · rw [if_neg (by omega), if_neg (by omega), if_pos (by omega)]

/-- `TrianglePredicate::isInCircleNormalized(a, b, c, p)` = the sign of the in-circle determinant -/
theorem gen_isInCircleNormalized_eq (a b c p : Pt) :
    TriPredicates.isInCircleNormalized (R := Int) (xyZ a) (xyZ b) (xyZ c) (xyZ p) = inCircleLoc a b c p := by
  simp only [TriPredicates.isInCircleNormalized, xyZ, Cxx.int_lt, Cxx.int_eq, Cxx.int_sub, Cxx.int_mul, Cxx.int_add, Id.run, pure,
    decide_eq_true_eq, beq_iff_eq, inCircleLoc]
  refine loc_of_compare ?_
  -- both sides are polynomials in the six coordinate differences to `p`
  simp only [inCircleDet]
  generalize a.x - p.x = ax, a.y - p.y = ay, b.x - p.x = bx, b.y - p.y = by', c.x - p.x = cx, c.y - p.y = cy
  ring

/-- the determinant that `isInCircleRobust(q, p, r, t)` and `isInCircleNonRobust(p, q, r, t)` build from the products they name
is the in-circle determinant of `(q, p, r, t)` negated -/
theorem inCircleDet_products (q p r t : Pt) :
    inCircleDet q p r t =
      -(((q.x - p.x) * (t.y - p.y) - (q.y - p.y) * (t.x - p.x)) * ((r.x - p.x) * (r.x - q.x) + (r.y - p.y) * (r.y - q.y)) -
        ((q.x - p.x) * (r.y - p.y) - (q.y - p.y) * (r.x - p.x)) * ((t.x - p.x) * (t.x - q.x) + (t.y - p.y) * (t.y - q.y))) := by
  simp only [inCircleDet]; ring

/-- the sign of `d = -v`, as `inCircleLoc` reads it off its determinant, from `(v > 0) - (v < 0) + 1` -/
theorem locOfInt_exact {v d : Int} (hd : d = -v) :
    TriPredicates.locOfInt ((if 0 < v then 1 else 0) - (if v < 0 then 1 else 0) + 1) =
      if 0 < d then .I else if d = 0 then .B else .E := by
  subst hd
  rw [locOfInt_sign (by omega)]
  rcases Int.lt_trichotomy v 0 with h | h | h
  · rw [if_pos h, if_pos (by omega)]
  · rw [if_neg (by omega), if_neg (by omega), if_neg (by omega), if_pos (by omega)]
  · rw [if_neg (by omega), if_pos h, if_neg (by omega), if_neg (by omega)]

/-- `TrianglePredicate::isInCircleNonRobust(p, q, r, t)` = the sign of the in-circle determinant of `(q, p, r, t)`: relative to
`isInCircleRobust` its first two parameters are exchanged, so for a counter-clockwise `(p, q, r)` it answers EXTERIOR for a point
inside the circle (the function is not called anywhere in the library) -/
theorem gen_isInCircleNonRobust_eq (a b c p : Pt) :
    TriPredicates.isInCircleNonRobust (R := Int) (xyZ a) (xyZ b) (xyZ c) (xyZ p) = inCircleLoc b a c p := by
  simp only [TriPredicates.isInCircleNonRobust, xyZ, Cxx.gt, Cxx.int_lt, Cxx.int_sub, Cxx.int_mul, Cxx.int_add, Cxx.int_ofInt,
    Id.run, pure, decide_eq_true_eq, inCircleLoc]
  exact locOfInt_exact (inCircleDet_products b a c p)

@[simp] theorem rat_abs (a : Rat) : Cxx.Ring.abs a = absR a := rfl
theorem rat_ofDec (m e : Int) : (Cxx.Field.ofDec m e : Rat) = (m : Rat) * Cxx.pow10 e := rfl
/-- the decimal literal `9.99200719823023e-16` of `isInCircleRobust` is `Tri.inCircleEps` (any other literal stays an `ofDec` term
that the model does not contain) -/
@[simp] theorem ofDec_eps : (Cxx.Field.ofDec 999200719823023 (-30) : Rat) = inCircleEps := by
  rw [rat_ofDec]; simp [inCircleEps, Cxx.pow10]

/-- `(v > err) - (v < -err) + 1` with a non-negative bound is the filtered sign of `d = -v` -/
theorem locOfInt_filtered {v err : Rat} {d : Int} (hd : (d : Rat) = -v) (h : 0 ≤ err) :
    TriPredicates.locOfInt ((if err < v then 1 else 0) - (if v < -err then 1 else 0) + 1) = filteredLoc d err := by
  rw [locOfInt_sign (by intro h1 h2; linarith), hd]
  simp only [filteredLoc, lt_neg, neg_lt_neg_iff]

/-- `TrianglePredicate::isInCircleRobust(a, b, c, p)` in exact arithmetic = the in-circle determinant of `(a, b, c, p)` filtered
by `robustErr a b c p` (INTERIOR / EXTERIOR only when the determinant exceeds the bound, BOUNDARY otherwise) -/
theorem gen_isInCircleRobust_eq (a b c p : Pt) :
    TriPredicates.isInCircleRobust (R := Rat) (xyQ a) (xyQ b) (xyQ c) (xyQ p) = robustInCircleLoc a b c p := by
  have := robustErr_nonneg a b c p
  -- both sides build the bound from the same products, so after unfolding it is the same term
  simp only [TriPredicates.isInCircleRobust, xyQ, Cxx.gt, Cxx.rat_lt, Cxx.rat_sub, Cxx.rat_mul, Cxx.rat_add, Cxx.rat_neg, Id.run, pure,
    decide_eq_true_eq, rat_abs, ofDec_eps, robustInCircleLoc, robustErr, Int.cast_sub] at this ⊢
  refine locOfInt_filtered ?_ this
  rw [inCircleDet_products]; push_cast; rfl

/-- `Vertex::isInCircle(a, b, c)` on the vertex `v` (the flip test of `IncrementalDelaunayTriangulator::insertSite`) -/
theorem gen_vertexIsInCircle_eq (v a b c : Pt) :
    TriPredicates.vertexIsInCircle (R := Rat) (xyQ v) ⟨xyQ a⟩ ⟨xyQ b⟩ ⟨xyQ c⟩ = flipInCircle a b c v := by
  simp [TriPredicates.vertexIsInCircle, flipInCircle, gen_isInCircleRobust_eq]

/-- `TriDelaunayImprover::isInCircle(a, b, c, p)`: the circle is the one through `(a, c, b)` -/
theorem gen_improverIsInCircle_eq (a b c p : Pt) :
    TriPredicates.improverIsInCircle (R := Rat) (xyQ a) (xyQ b) (xyQ c) (xyQ p) = flipInCircle a c b p := by
  simp [TriPredicates.improverIsInCircle, flipInCircle, gen_isInCircleRobust_eq]

/-- `TriDelaunayImprover::isDelaunay(adj0, adj1, opp0, opp1)` -/
theorem gen_improverIsDelaunay_eq (adj0 adj1 opp0 opp1 : Pt) :
    TriPredicates.improverIsDelaunay (R := Rat) (xyQ adj0) (xyQ adj1) (xyQ opp0) (xyQ opp1) = improverDelaunay adj0 adj1 opp0 opp1 := by
  simp only [TriPredicates.improverIsDelaunay, improverDelaunay, gen_improverIsInCircle_eq]
  cases flipInCircle adj0 opp0 adj1 opp1 <;> cases flipInCircle adj1 opp1 adj0 opp0 <;> simp

end GeosModel.C16Gen
