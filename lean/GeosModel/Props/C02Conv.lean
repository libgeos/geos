import GeosModel.Model.Relate.Converse
import GeosModel.Props.C01
import GeosModel.Props.C02
/-!
# C02 — a predicate and its converse are the same computation with the roles exchanged

`coveredBy(A,B)` / `covers(B,A)`, `within(A,B)` / `contains(B,A)`, `relatePattern(A,B,p)` / `relatePattern(B,A,pᵀ)` and every
symmetric predicate asked both ways must agree.  Proved here for the predicate layer of RelateNG (Model/Relate/Pred.lean,
EnvExit.lean; tied to the compiled classes by streams `pred-converse` and C01's `pred-sm`, and to the source text by
Props/C01GenPred): the requirement flags that steer the engine (`requireCovers`, `requireExteriorCheck`,
`requireInteraction`), the envelope exit, the dimension / envelope initialisation and the DE-9IM value are mirror
images, and from any undecided state the converse predicate fed with the mirrored events ends with the same value.
-/
namespace GeosModel.Relate
open GeosModel

theorem transposeP_transposeP (p : Pat) : transposeP (transposeP p) = p := by
  by_cases h : ∃ a b c d e f g h i, p = [a, b, c, d, e, f, g, h, i]
  · obtain ⟨a, b, c, d, e, f, g, h, i, rfl⟩ := h
    rfl
  · have id_p : transposeP p = p := by
      unfold transposeP
      split
      · exact absurd ⟨_, _, _, _, _, _, _, _, _, rfl⟩ h
      · rfl
    rw [id_p, id_p]

theorem converse_converse (k : Kind) : k.converse.converse = k := by
  cases k <;> simp [Kind.converse, transposeP_transposeP]

/-! ### the requirement flags are mirror images -/

theorem requireCovers_converse (k : Kind) (isSourceA : Bool) :
    k.converse.requireCovers isSourceA = k.requireCovers (!isSourceA) := by
  cases k <;> cases isSourceA <;> rfl

/-- `coveredBy` must test the points of A against the exterior of B exactly when `covers` tests the points of B against
the exterior of A (and so on): otherwise the two paths of one question run different computations -/
theorem requireExteriorCheck_converse (k : Kind) (isSourceA : Bool) :
    k.converse.requireExteriorCheck isSourceA = k.requireExteriorCheck (!isSourceA) := by
  cases k <;> cases isSourceA <;> rfl

theorem patRequiresInteraction_transposeP (p : Pat) : patRequiresInteraction (transposeP p) = patRequiresInteraction p := by
  unfold transposeP
  split
  · simp only [patRequiresInteraction]
    ac_rfl
  · rfl

theorem requireInteraction_converse (k : Kind) : k.converse.requireInteraction = k.requireInteraction := by
  cases k <;> simp [Kind.converse, Kind.requireInteraction, patRequiresInteraction_transposeP]

/-- the envelope exit of `RelateNG::evaluate` answers alike for a predicate on (A,B) and its converse on (B,A) -/
theorem envelope_exit_converse (k : Kind) (e : EnvFacts) :
    hasRequiredEnvelopeInteraction k.converse e.swap = hasRequiredEnvelopeInteraction k e := by
  unfold hasRequiredEnvelopeInteraction
  rw [requireCovers_converse, requireCovers_converse, requireInteraction_converse]
  cases k <;> simp [Kind.requireCovers, EnvFacts.swap]

/-! ### the DE-9IM value is a mirror image -/

theorem matchesP_transpose (m : IM) (p : Pat) : matchesP m.transpose (transposeP p) = matchesP m p := by
  unfold transposeP
  split
  · simp only [matchesP, all_zipWith_transpose]
    rfl
  · rename_i hne
    have hl : (p.length == 9) = false := by
      refine beq_eq_false_iff_ne.mpr fun hl => ?_
      obtain ⟨a, b, c, d, e, f, g, h, i, rfl⟩ := eq_nine_of_length p hl
      exact hne a b c d e f g h i rfl
    simp only [matchesP, hl, Bool.false_and]

theorem valueIM_converse (k : Kind) (dA dB : Int) (m : IM) :
    valueIM k.converse dB dA m.transpose = valueIM k dA dB m := by
  cases k with
  | covers => exact (covers_eq_coveredBy_transpose m).symm
  | coveredBy => exact (coveredBy_eq_covers_transpose m).symm
  | crosses => exact crosses_transpose m dA dB
  | equalsTopo => exact equals_transpose m dA dB
  | overlaps => exact overlaps_transpose m dA dB
  | touches => exact touches_transpose m dA dB
  | pattern p => exact matchesP_transpose m p
  | _ => rfl

/-- the value the DE-9IM definition assigns: `k.converse` on the transposed matrix = `k` on the matrix -/
theorem defValue_converse (k : Kind) (dA dB : Int) (m : IM) :
    k.converse.defValue dB dA m.transpose = k.defValue dA dB m := by
  cases k with
  | intersects => exact intersects_transpose m
  | disjoint => exact disjoint_transpose m
  | _ => simp only [Kind.defValue]; exact valueIM_converse _ dA dB m

/-! ### the state machine: mirrored events give the mirrored matrix and the same final value -/

theorem foldIM_transpose (us : List Upd) : ∀ m : IM, foldIM m.transpose (us.map Upd.swap) = (foldIM m us).transpose := by
  induction us with
  | nil => intro m; rfl
  | cons u r ih =>
    intro m
    simp only [foldIM, List.map_cons, List.foldl_cons, Upd.swap]
    rw [raise_transpose]
    exact ih (m.raise u.a u.b u.d)

theorem converse_isBasic (k : Kind) : k.converse.isBasic = k.isBasic := by
  cases k <;> rfl

/-- from any undecided state of an IM predicate (named or pattern), the converse predicate fed with the mirrored events
finishes with the same value — although the two may freeze their answer at different moments (`isDetermined` of a pattern
scans the entries in row-major order, which transposition permutes) -/
theorem converse_run (s : PState) (us : List Upd) (hk : s.kind.isBasic = false) (hval : s.value = none)
    (hLL : s.dimA = 1 → s.dimB = 1 → (foldIM s.im us).ii ≤ 1) :
    ((s.mirror.run (us.map Upd.swap)).finish).value = ((s.run us).finish).value := by
  have hLL' : s.mirror.dimA = 1 → s.mirror.dimB = 1 → (foldIM s.mirror.im (us.map Upd.swap)).ii ≤ 1 := by
    intro a b
    simp only [PState.mirror] at a b ⊢
    rw [foldIM_transpose]
    exact hLL b a
  rw [early_exit_final us s hk hLL (Or.inl hval),
    early_exit_final (us.map Upd.swap) s.mirror ((converse_isBasic _).trans hk) hLL' (Or.inl hval)]
  simp only [PState.mirror]
  rw [foldIM_transpose, valueIM_converse]

/-- **`converse_run_final`**: `converse_run` for a valid matrix and events with dimensions in F..A -/
theorem converse_run_final (s : PState) (us : List Upd) (hk : s.kind.isBasic = false) (hv : s.im.valid)
    (hval : s.value = none) (hd : ∀ u ∈ us, -1 ≤ u.d ∧ u.d ≤ 2)
    (hLL : s.dimA = 1 → s.dimB = 1 → (foldIM s.im us).ii ≤ 1) :
    ((s.mirror.run (us.map Upd.swap)).finish).value = ((s.run us).finish).value :=
  (fun _ _ => converse_run s us hk hval hLL) hv hd

theorem initDim_converse (k : Kind) (dA dB : Int) :
    ((PState.new k.converse).initDim dB dA).value = ((PState.new k).initDim dA dB).value := by
  -- the kinds whose condition names both dimensions remain: crosses, overlaps, touches (in the order of `Kind`)
  cases k <;> simp only [Kind.converse, PState.initDim, PState.new, require_value]
  · rw [Bool.and_comm (dB == 0), Bool.and_comm (dB == 2)]
  · rw [Bool.beq_comm]
  · rw [Bool.and_comm (dB == 0)]

theorem initEnv_converse (s : PState) (e : EnvFacts) :
    (s.mirror.initEnv e.swap).value = (s.initEnv e).value := by
  obtain ⟨k, dA, dB, im, v⟩ := s
  obtain ⟨ei, ea, eb, eq, en⟩ := e
  rw [show EnvFacts.swap ⟨ei, ea, eb, eq, en⟩ = ⟨ei, eb, ea, eq, en⟩ from rfl]
  cases k <;>
    simp only [PState.mirror, Kind.converse, PState.initEnv, require_value, apply_ite PState.value, setValue_value,
      patRequiresInteraction_transposeP]

/-! ### non-vacuity -/
example : Kind.coveredBy.converse = .covers ∧ (Kind.pattern (patOfChars "T*F**F***".toList)).converse = .pattern (patOfChars "T*****FF*".toList) := by decide
example : Kind.requireExteriorCheck .coveredBy true = true ∧ Kind.requireExteriorCheck .covers false = true ∧
          Kind.requireExteriorCheck .coveredBy false = false := by decide
/-- two lines of A, one inside the line B, one away from it: Int(A) meets Ext(B), so `coveredBy` is false — for the matrix
and for the converse `covers` on the transposed matrix alike -/
example : Kind.defValue .coveredBy 1 1 ⟨1, -1, 1, 0, -1, 0, 1, 0, 2⟩ = false ∧
          Kind.defValue .covers 1 1 (⟨1, -1, 1, 0, -1, 0, 1, 0, 2⟩ : IM).transpose = false := by decide

end GeosModel.Relate
