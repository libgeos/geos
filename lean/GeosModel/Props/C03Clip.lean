import GeosModel.Model.Overlay.Clip
import GeosModel.Model.Kernel.CCW
/-!
# C03 — the input side of OverlayNG (`Model/Overlay/Clip.lean`): clipping and limiting never invent linework

The overlay result can only equal the Boolean combination of the inputs if what reaches the noder IS the inputs
(restricted to a neighbourhood of the result).  Proved here, for all inputs:

**LineLimiter** (for every `inside` / `segMeets`, i.e. for every limit envelope):
* `limit_points_from_input`  — every vertex of every section is a vertex of the line being limited (no foreign vertex);
* `limit_segments_from_input` — every SEGMENT of every section joins two consecutive vertices of that line (no foreign
  segment: nothing that is not linework of the input reaches the noder); invariant `SegInv`;
* `limit_keeps_inside`       — every vertex inside the envelope is in some section;
* `limit_keeps_meeting_segments` — every segment a → b (a ≠ b) of the line with an end point inside the envelope, or whose
  own envelope meets it, is a segment of some section (nothing that can matter to the result is dropped);
* `runObj_history_independent`, `limitSeq_eq_map` — a limiter object used for many lines returns for each line what a
  fresh limiter returns (the reset at the start of `limit`);
* `finish_can_leave_lastOutside`, `noReset_invents_vertex` — why the reset is needed: a run CAN end with `lastOutside`
  set (line ending with two vertices outside), and without the reset the next line's first section starts with that
  vertex of the previous line.

**RobustClipEnvelopeComputer**:
* `robustClipEnv_covers_target` — the clip envelope covers the target (result) envelope;
* `robustClipEnv_protects`      — every segment of every ring — shell or HOLE — of every polygon of either operand whose
  envelope meets the target envelope has both end points in the clip envelope (so it is never cut);
* `robustClipEnv_least`         — … and it is the LEAST such box: covers_target + protects + least characterise
  `getEnvelope` completely.

**RingClipper** (generic in the crossing-point function):
* `ringClip_in_box`              — the clipped ring lies in the closed clip box, given what the crossing-point arithmetic must
  deliver (`IxOK`: the point is on the edge's line; its computed ordinate does not leave a half plane both end points lie in);
* `clipToBoxEdgeOpen_all_inside` — a point list wholly inside an edge's half plane passes unchanged;
* `clipLoop_mem`                 — every emitted point is an input point inside the half plane or a crossing point of a
  segment whose end points lie on different sides.

**EdgeNodingBuilder**:
* `addLines_eq_flatMap`, `addLine_points_from_input` — the lines of an operand are prepared independently of each other (one
  limiter object notwithstanding), and every vertex handed to the noder for a line is a vertex of that line;
* `depthDelta_canonical`, `depthDelta_flip` — the depth delta is ±1 and changes sign with the orientation;
* `clipped_ring_orientation_differs` — why `computeDepthDelta` must look at the ORIGINAL ring: a valid counter-clockwise
  ring whose clipped point list `Orientation::isCCW` reports as clockwise (zero-width back-track along the top edge).
-/
namespace GeosModel.Overlay.Clip
open GeosModel GeosModel.Kernel

/-! ## LineLimiter -/
section Limiter
variable {P : Type} [DecidableEq P] (inside : P → Bool) (segMeets : P → P → Bool)

/-- `add(c, allowRepeated = false)` adds the point and keeps the others -/
theorem mem_pushNR_iff {l : List P} {p q : P} : q ∈ pushNR l p ↔ q ∈ l ∨ q = p := by
  unfold pushNR
  split
  · split
    · rename_i h; subst h
      simp only [List.mem_cons]
      exact ⟨Or.inl, fun h => h.elim id Or.inl⟩
    · simp only [List.mem_cons]
      exact ⟨fun h => h.elim Or.inr Or.inl, fun h => h.elim Or.inr Or.inl⟩
  · simp

theorem mem_pushNR_of_mem {l : List P} {q : P} (p : P) (h : q ∈ l) : q ∈ pushNR l p :=
  mem_pushNR_iff.mpr (.inl h)

/-- the list `startSection` leaves open: the open section, or a new one, with `lastOutside` flushed into it -/
def startList (s : LState P) : List P :=
  match s.lastOutside with
  | some q => pushNR (s.ptList.getD []) q
  | none => s.ptList.getD []

theorem addPoint_eq (s : LState P) (p : P) :
    addPoint s p = { s with ptList := some (pushNR (startList s) p), lastOutside := none } := rfl

theorem finishSection_none {s : LState P} (h : s.ptList = none) : finishSection s = s := by
  unfold finishSection; rw [h]

/-- an open section is closed with `lastOutside` flushed into it -/
theorem finishSection_some {s : LState P} {l : List P} (h : s.ptList = some l) :
    finishSection s = ⟨none, none, (startList s).reverse :: s.sections⟩ := by
  unfold finishSection startList; rw [h]; rfl

theorem mem_startList {s : LState P} {q : P} (h : q ∈ startList s) :
    s.lastOutside = some q ∨ ∃ l, s.ptList = some l ∧ q ∈ l := by
  have base : q ∈ s.ptList.getD [] → ∃ l, s.ptList = some l ∧ q ∈ l := by
    intro hq
    cases hpl : s.ptList with
    | none => simp [hpl] at hq
    | some l => exact ⟨l, rfl, by simpa [hpl] using hq⟩
  unfold startList at h
  cases hlo : s.lastOutside with
  | none => rw [hlo] at h; exact Or.inr (base h)
  | some o =>
    rw [hlo] at h
    rcases mem_pushNR_iff.mp h with h | rfl
    · exact Or.inr (base h)
    · exact Or.inl rfl

/-- every point held anywhere in the state satisfies `S` -/
def AllS (S : P → Prop) (s : LState P) : Prop :=
  (∀ q, s.lastOutside = some q → S q) ∧ (∀ l, s.ptList = some l → ∀ q ∈ l, S q) ∧ (∀ sec ∈ s.sections, ∀ q ∈ sec, S q)

theorem AllS.startList {S : P → Prop} {s : LState P} (hs : AllS S s) : ∀ q ∈ startList s, S q :=
  fun q hq => (mem_startList hq).elim (hs.1 q) (fun ⟨l, hl, hq⟩ => hs.2.1 l hl q hq)

theorem addPoint_AllS {S : P → Prop} {s : LState P} {p : P} (hs : AllS S s) (hp : S p) : AllS S (addPoint s p) := by
  refine ⟨fun q hq => (by cases hq), fun l hl q hq => ?_, hs.2.2⟩
  cases hl
  exact (mem_pushNR_iff.mp hq).elim (hs.startList q) (fun e => e ▸ hp)

theorem finishSection_AllS {S : P → Prop} {s : LState P} (hs : AllS S s) : AllS S (finishSection s) := by
  cases hpl : s.ptList with
  | none => rw [finishSection_none hpl]; exact hs
  | some l =>
    rw [finishSection_some hpl]
    refine ⟨fun q hq => (by cases hq), fun l hl => (by cases hl), fun sec hsec q hq => ?_⟩
    rcases List.mem_cons.mp hsec with rfl | hsec
    · exact hs.startList q (List.mem_reverse.mp hq)
    · exact hs.2.2 sec hsec q hq

theorem addOutside_AllS {S : P → Prop} {s : LState P} {p : P} (hs : AllS S s) (hp : S p) : AllS S (addOutside segMeets s p) := by
  unfold addOutside
  have key : ∀ s' : LState P, AllS S s' → AllS S { s' with lastOutside := some p } := by
    intro s' ⟨_, h2, h3⟩
    exact ⟨by intro q hq; simp at hq; subst hq; exact hp, h2, h3⟩
  apply key
  split
  · exact finishSection_AllS hs
  · apply addPoint_AllS _ hp
    cases hlo : s.lastOutside with
    | none => exact hs
    | some o => exact addPoint_AllS hs (hs.1 o hlo)

theorem foldl_AllS {S : P → Prop} (l : List P) (s : LState P) (hs : AllS S s) (hl : ∀ p ∈ l, S p) :
    AllS S (l.foldl (step inside segMeets) s) := by
  induction l generalizing s with
  | nil => exact hs
  | cons p r ih =>
    refine ih _ ?_ (fun q hq => hl q (List.mem_cons_of_mem _ hq))
    have hp := hl p (by simp)
    unfold step
    split
    · exact addPoint_AllS hs hp
    · exact addOutside_AllS segMeets hs hp

/-- **no foreign vertex**: every vertex of every section returned for a line is a vertex of that line -/
theorem limit_points_from_input (pts : List P) (sec : List P) (hsec : sec ∈ limit inside segMeets pts) (q : P) (hq : q ∈ sec) :
    q ∈ pts := by
  have h0 : AllS (· ∈ pts) (⟨none, none, []⟩ : LState P) := ⟨by simp, by simp, by simp⟩
  have h := finishSection_AllS (foldl_AllS inside segMeets pts _ h0 (fun p hp => hp))
  unfold limit runObj at hsec
  rw [List.mem_reverse] at hsec
  exact h.2.2 sec hsec q hq

/-- `R` holds of the open section (kept reversed) or of a finished one read backwards.  With `R l := p ∈ l` the point `p` is kept;
the segment a → b is kept when `R` says that `b` is immediately followed by `a` (`Adj`, next section).  `lastOutside` plays no role. -/
def Held (R : List P → Prop) (s : LState P) : Prop :=
  (∃ l, s.ptList = some l ∧ R l) ∨ (∃ sec ∈ s.sections, R sec.reverse)

omit [DecidableEq P] in
/-- `Held` does not read `lastOutside` -/
theorem Held.set_lastOutside {R : List P → Prop} {s : LState P} (o : Option P) (h : Held R s) :
    Held R { s with lastOutside := o } := h

section HeldMono
variable {R : List P → Prop} (hR : ∀ l p, R l → R (pushNR l p))
include hR

theorem held_startList {s : LState P} {l : List P} (hl : s.ptList = some l) (h : R l) : R (startList s) := by
  unfold startList
  rw [hl]
  cases s.lastOutside with
  | none => exact h
  | some o => exact hR _ _ h

theorem addPoint_held_mono {s : LState P} (p : P) (h : Held R s) : Held R (addPoint s p) := by
  rcases h with ⟨l, hl, hq⟩ | h
  · exact Or.inl ⟨_, rfl, hR _ _ (held_startList hR hl hq)⟩
  · exact Or.inr h

theorem finishSection_held_mono {s : LState P} (h : Held R s) : Held R (finishSection s) := by
  rcases h with ⟨l, hl, hq⟩ | ⟨sec, hsec, hq⟩
  · rw [finishSection_some hl]
    exact Or.inr ⟨_, List.mem_cons_self, by rw [List.reverse_reverse]; exact held_startList hR hl hq⟩
  · cases hpl : s.ptList with
    | none => rw [finishSection_none hpl]; exact Or.inr ⟨sec, hsec, hq⟩
    | some l => rw [finishSection_some hpl]; exact Or.inr ⟨sec, List.mem_cons_of_mem _ hsec, hq⟩

theorem addOutside_held_mono {s : LState P} (p : P) (h : Held R s) : Held R (addOutside segMeets s p) := by
  unfold addOutside
  apply Held.set_lastOutside
  split
  · exact finishSection_held_mono hR h
  · apply addPoint_held_mono hR
    cases hlo : s.lastOutside with
    | none => exact h
    | some o => exact addPoint_held_mono hR _ h

theorem foldl_held_mono (l : List P) {s : LState P} (h : Held R s) : Held R (l.foldl (step inside segMeets) s) := by
  induction l generalizing s with
  | nil => exact h
  | cons p r ih =>
    refine ih ?_
    unfold step
    split
    · exact addPoint_held_mono hR _ h
    · exact addOutside_held_mono segMeets hR _ h

end HeldMono

theorem foldl_keeps_inside (l : List P) (s : LState P) (p : P) (hp : p ∈ l) (hin : inside p = true) :
    Held (p ∈ ·) (l.foldl (step inside segMeets) s) := by
  induction l generalizing s with
  | nil => simp at hp
  | cons a r ih =>
    rcases List.mem_cons.mp hp with h | h
    · subst h
      simp only [List.foldl_cons]
      apply foldl_held_mono inside segMeets (fun _ q => mem_pushNR_of_mem q)
      unfold step
      rw [if_pos hin]
      exact Or.inl ⟨_, rfl, mem_pushNR_iff.mpr (.inr rfl)⟩
    · exact ih _ h

theorem finishSection_ptList (s : LState P) : (finishSection s).ptList = none := by
  cases h : s.ptList with
  | none => rw [finishSection_none h]; exact h
  | some l => rw [finishSection_some h]

theorem held_limit {R : List P → Prop} {pts : List P}
    (h : Held R (finishSection (pts.foldl (step inside segMeets) ⟨none, none, []⟩))) :
    ∃ sec ∈ limit inside segMeets pts, R sec.reverse := by
  rcases h with ⟨l, hl, _⟩ | ⟨sec, hsec, hq⟩
  · rw [finishSection_ptList] at hl; cases hl
  · exact ⟨sec, List.mem_reverse.mpr hsec, hq⟩

/-- **nothing inside is lost**: every vertex of the line that lies inside the limit envelope is in some section -/
theorem limit_keeps_inside (pts : List P) (p : P) (hp : p ∈ pts) (hin : inside p = true) :
    ∃ sec ∈ limit inside segMeets pts, p ∈ sec := by
  obtain ⟨sec, hsec, hq⟩ := held_limit inside segMeets (finishSection_held_mono (fun _ q => mem_pushNR_of_mem q)
    (foldl_keeps_inside inside segMeets pts ⟨none, none, []⟩ p hp hin))
  exact ⟨sec, hsec, List.mem_reverse.mp hq⟩

/-- a limiter object forgets its history at the start of every run -/
theorem runObj_history_independent (s s' : LState P) (pts : List P) :
    runObj inside segMeets s pts = runObj inside segMeets s' pts := rfl

/-- one limiter used for many lines = a fresh limiter for each line -/
theorem limitSeq_eq_map (s : LState P) (lines : List (List P)) :
    limitSeq inside segMeets s lines = lines.map (limit inside segMeets) := by
  induction lines generalizing s with
  | nil => rfl
  | cons l r ih => simp only [limitSeq, List.map_cons, ih]; rfl

end Limiter

/-! ### no foreign segment -/
section Segs
set_option linter.unusedSectionVars false
variable {P : Type} [DecidableEq P] (inside : P → Bool) (segMeets : P → P → Bool)

/-- `a` is immediately followed by `b` in `pts` -/
def Adj (pts : List P) (a b : P) : Prop := ∃ l1 l2, pts = l1 ++ a :: b :: l2

theorem adj_cons {x : P} {l : List P} {u v : P} (h : Adj (x :: l) u v) : (u = x ∧ ∃ r, l = v :: r) ∨ Adj l u v := by
  obtain ⟨l1, l2, h⟩ := h
  cases l1 with
  | nil => simp at h; exact Or.inl ⟨h.1.symm, l2, h.2⟩
  | cons y l1 => simp at h; exact Or.inr ⟨l1, l2, h.2⟩

theorem adj_reverse {l : List P} {a b : P} (h : Adj l.reverse a b) : Adj l b a := by
  obtain ⟨l1, l2, h⟩ := h
  have h2 := congrArg List.reverse h
  simp at h2
  exact ⟨_, _, h2⟩

theorem not_adj_short {l : List P} {a b : P} (hl : l.length < 2) : ¬ Adj l a b := by
  rintro ⟨l1, l2, h⟩
  have := congrArg List.length h
  simp at this
  omega

theorem pushNR_head (l : List P) (p : P) : ∃ r, pushNR l p = p :: r := by
  unfold pushNR
  split
  · rename_i q r
    split
    · rename_i h; exact ⟨r, by rw [h]⟩
    · exact ⟨_, rfl⟩
  · exact ⟨[], rfl⟩

theorem pushNR_adj (pts l : List P) (p : P) (hl : ∀ a b, Adj l b a → Adj pts a b)
    (hp : ∀ x r, l = x :: r → x ≠ p → Adj pts x p) : ∀ a b, Adj (pushNR l p) b a → Adj pts a b := by
  intro a b h
  unfold pushNR at h
  split at h
  · rename_i q r
    split at h
    · exact hl a b h
    · rename_i hne
      rcases adj_cons h with ⟨hb, r', hr⟩ | h
      · simp at hr
        subst hb
        rw [← hr.1]
        exact hp q r rfl hne
      · exact hl a b h
  · exact absurd h (not_adj_short (by simp))

/-- what holds of the limiter's state after the points `done` (a prefix of `pts`) have been fed -/
structure SegInv (pts done : List P) (s : LState P) : Prop where
  lo : ∀ q, s.lastOutside = some q → done.getLast? = some q
  hd : ∀ l, s.ptList = some l → ∃ x r, l = x :: r ∧ done.getLast? = some x
  openOk : ∀ l, s.ptList = some l → ∀ a b, Adj l b a → Adj pts a b
  secsOk : ∀ sec ∈ s.sections, ∀ a b, Adj sec a b → Adj pts a b

theorem startList_ok {pts done : List P} {s : LState P} (h : SegInv pts done s) :
    (∀ a b, Adj (startList s) b a → Adj pts a b) ∧ (∀ x r, startList s = x :: r → done.getLast? = some x) := by
  have h0 : (∀ a b, Adj (s.ptList.getD []) b a → Adj pts a b) ∧ (∀ x r, s.ptList.getD [] = x :: r → done.getLast? = some x) := by
    cases hpl : s.ptList with
    | none => exact ⟨fun a b hab => absurd hab (not_adj_short (by simp)), fun x r hx => by simp at hx⟩
    | some l =>
      refine ⟨fun a b hab => h.openOk l hpl a b (by simpa using hab), fun x r hx => ?_⟩
      obtain ⟨x', r', hl, hx'⟩ := h.hd l hpl
      simp [hl] at hx
      rw [← hx.1]; exact hx'
  unfold startList
  cases hlo : s.lastOutside with
  | none => exact h0
  | some q =>
    have hq := h.lo q hlo
    refine ⟨pushNR_adj pts _ q h0.1 (fun x r hx hne => ?_), fun x r hx => ?_⟩
    · have := h0.2 x r hx
      rw [hq] at this
      exact absurd (Option.some.inj this).symm hne
    · obtain ⟨r', hr'⟩ := pushNR_head (s.ptList.getD []) q
      have hx' : pushNR (s.ptList.getD []) q = x :: r := hx
      rw [hr'] at hx'
      simp at hx'
      rw [← hx'.1]; exact hq

theorem addPoint_inv {pts done done' : List P} {s : LState P} {p : P} (h : SegInv pts done s)
    (hlast : done'.getLast? = some p) (hadj : ∀ x, done.getLast? = some x → x ≠ p → Adj pts x p) :
    SegInv pts done' (addPoint s p) := by
  obtain ⟨k1, k2⟩ := startList_ok h
  rw [addPoint_eq]
  refine ⟨by intro q hq; simp at hq, ?_, ?_, h.secsOk⟩
  · intro l hl
    simp only [Option.some.injEq] at hl
    obtain ⟨r, hr⟩ := pushNR_head (startList s) p
    exact ⟨p, r, by rw [← hl]; exact hr, hlast⟩
  · intro l hl
    simp only [Option.some.injEq] at hl
    subst hl
    exact pushNR_adj pts _ p k1 (fun x r hx hne => hadj x (k2 x r hx) hne)

theorem finishSection_secsOk {pts done : List P} {s : LState P} (h : SegInv pts done s) :
    ∀ sec ∈ (finishSection s).sections, ∀ a b, Adj sec a b → Adj pts a b := by
  cases hpl : s.ptList with
  | none => rw [finishSection_none hpl]; exact h.secsOk
  | some l =>
    rw [finishSection_some hpl]
    intro sec hsec a b hab
    rcases List.mem_cons.mp hsec with rfl | hsec
    · exact (startList_ok h).1 a b (adj_reverse hab)
    · exact h.secsOk sec hsec a b hab

theorem getLast?_snoc (l : List P) (p : P) : (l ++ [p]).getLast? = some p := by simp

theorem step_inv {pts done rest : List P} {s : LState P} {p : P} (hp : pts = done ++ p :: rest) (h : SegInv pts done s) :
    SegInv pts (done ++ [p]) (step inside segMeets s p) := by
  have K : ∀ x, done.getLast? = some x → x ≠ p → Adj pts x p := by
    intro x hx _
    obtain ⟨d', hd'⟩ : ∃ d', done = d' ++ [x] := List.getLast?_eq_some_iff.mp hx
    exact ⟨d', rest, by rw [hp, hd']; simp⟩
  unfold step
  split
  · exact addPoint_inv h (getLast?_snoc _ _) K
  · unfold addOutside
    split
    · -- finishSection, then lastOutside := p
      refine ⟨by intro q hq; simp at hq; subst hq; exact getLast?_snoc _ _, ?_, ?_, finishSection_secsOk h⟩
      · intro l hl; simp [finishSection_ptList] at hl
      · intro l hl; simp [finishSection_ptList] at hl
    · have h1 : SegInv pts done (match s.lastOutside with | some q => addPoint s q | none => s) := by
        cases hlo : s.lastOutside with
        | none => exact h
        | some q => exact addPoint_inv h (h.lo q hlo) (fun x hx hne => absurd (Option.some.inj ((h.lo q hlo).symm.trans hx)).symm hne)
      have h2 := addPoint_inv (done' := done ++ [p]) (p := p) h1 (getLast?_snoc _ _) K
      exact ⟨by intro q hq; simp at hq; subst hq; exact getLast?_snoc _ _, h2.hd, h2.openOk, h2.secsOk⟩

theorem foldl_inv_prefix {pts : List P} (rest done more : List P) (s : LState P) (hp : pts = done ++ rest ++ more)
    (h : SegInv pts done s) : SegInv pts (done ++ rest) (rest.foldl (step inside segMeets) s) := by
  induction rest generalizing done s with
  | nil => simpa using h
  | cons p r ih =>
    simp only [List.foldl_cons]
    have := ih (done ++ [p]) _ (by rw [hp]; simp) (step_inv inside segMeets (rest := r ++ more) (by rw [hp]; simp) h)
    simpa using this

theorem segInv_init (pts : List P) : SegInv pts [] (⟨none, none, []⟩ : LState P) :=
  ⟨by intro q hq; simp at hq, by intro l hl; simp at hl, by intro l hl; simp at hl, by intro sec hs; simp at hs⟩

/-- **no foreign segment**: every segment of every section returned for a line joins two CONSECUTIVE vertices of that line —
nothing that is not linework of the input reaches the noder -/
theorem limit_segments_from_input (pts : List P) (sec : List P) (hsec : sec ∈ limit inside segMeets pts) (a b : P)
    (h : Adj sec a b) : Adj pts a b := by
  have hinv := foldl_inv_prefix inside segMeets pts [] [] _ (by simp) (segInv_init pts)
  unfold limit runObj at hsec
  rw [List.mem_reverse] at hsec
  exact finishSection_secsOk hinv sec hsec a b h

end Segs

/-! ### nothing that matters is dropped -/
section Keep
set_option linter.unusedSectionVars false
variable {P : Type} [DecidableEq P] (inside : P → Bool) (segMeets : P → P → Bool)

theorem adj_pushNR_of_adj {l : List P} {u v : P} (p : P) (h : Adj l u v) : Adj (pushNR l p) u v := by
  unfold pushNR
  split
  · split
    · exact h
    · obtain ⟨l1, l2, h⟩ := h
      exact ⟨p :: l1, l2, by rw [h]; rfl⟩
  · exact absurd h (not_adj_short (by simp))

/-- after feeding `done`: an inside last point leaves the section open (and `lastOutside` clear), an outside one is
remembered in `lastOutside` -/
def LastInv (done : List P) (s : LState P) : Prop :=
  ∀ x, done.getLast? = some x →
    (inside x = true → s.ptList.isSome = true ∧ s.lastOutside = none) ∧ (inside x = false → s.lastOutside = some x)

theorem foldl_lastInv (d : List P) (p : P) (s : LState P) :
    LastInv inside (d ++ [p]) ((d ++ [p]).foldl (step inside segMeets) s) := by
  intro x hx
  simp at hx
  subst hx
  rw [List.foldl_append]
  unfold step
  by_cases hin : inside p = true
  · simp [hin, addPoint_eq]
  · simp [hin, addOutside]

/-- when the last point fed is `a` and the section is open or `a` is remembered, the list `startSection` leaves open starts with `a` -/
theorem startList_head {pts done : List P} {s : LState P} {a : P} (h : SegInv pts done s) (hlast : done.getLast? = some a)
    (hopen : s.ptList.isSome = true ∨ s.lastOutside = some a) : ∃ r, startList s = a :: r := by
  unfold startList
  cases hlo : s.lastOutside with
  | some q =>
    have := h.lo q hlo
    rw [hlast] at this
    obtain ⟨r, hr⟩ := pushNR_head (s.ptList.getD []) q
    exact ⟨r, by simp only []; rw [hr, Option.some.inj this]⟩
  | none =>
    rcases hopen with ho | ho
    · cases hpl : s.ptList with
      | none => simp [hpl] at ho
      | some l =>
        obtain ⟨x, r, hl, hx⟩ := h.hd l hpl
        rw [hlast] at hx
        exact ⟨r, by simp [hl, Option.some.inj hx]⟩
    · rw [hlo] at ho; cases ho

theorem addPoint_new_seg {s : LState P} {a b : P} {r : List P} (hs : startList s = a :: r) (hne : a ≠ b) :
    Held (Adj · b a) (addPoint s b) := by
  refine Or.inl ⟨_, rfl, ?_⟩
  show Adj (pushNR (startList s) b) b a
  rw [hs]
  unfold pushNR
  simp only [hne, if_false]
  exact ⟨[], r, rfl⟩

/-- **nothing that matters is dropped**: a segment a → b of the line (a ≠ b) with an end point inside the envelope, or
whose own envelope meets it, is a segment of some section.  Idea: after `a` has been fed the list `startSection` leaves open
starts with `a` (`startList_head`: `a` heads the open section if it is inside, is `lastOutside` if not); under the hypothesis
feeding `b` reaches `addPoint … b` in every branch, which puts a → b into the open section (`addPoint_new_seg`); from then
on the segment is `Held`, and what is held at the end is in a returned section. -/
theorem limit_keeps_meeting_segments (pts : List P) (a b : P) (hab : Adj pts a b) (hne : a ≠ b)
    (hm : inside a = true ∨ inside b = true ∨ segMeets a b = true) : ∃ sec ∈ limit inside segMeets pts, Adj sec a b := by
  obtain ⟨d, r, hp⟩ := hab
  have hA := foldl_inv_prefix inside segMeets (d ++ [a]) [] (b :: r) _ (by rw [hp]; simp) (segInv_init pts)
  have hL := foldl_lastInv inside segMeets d a ⟨none, none, []⟩
  simp only [List.nil_append] at hA
  have hlast : (d ++ [a]).getLast? = some a := by simp
  obtain ⟨hLin, hLout⟩ := hL a hlast
  have hb : Held (Adj · b a) (step inside segMeets ((d ++ [a]).foldl (step inside segMeets) ⟨none, none, []⟩) b) := by
    generalize (d ++ [a]).foldl (step inside segMeets) ⟨none, none, []⟩ = s at hA hLin hLout
    have hopen : s.ptList.isSome = true ∨ s.lastOutside = some a := by
      by_cases hia : inside a = true
      · exact Or.inl (hLin hia).1
      · exact Or.inr (hLout (by simpa using hia))
    obtain ⟨r0, hs⟩ := startList_head hA hlast hopen
    unfold step
    by_cases hib : inside b = true
    · rw [if_pos hib]; exact addPoint_new_seg hs hne
    · rw [if_neg hib]
      unfold addOutside
      apply Held.set_lastOutside
      have hseg : isLastSegmentIntersecting segMeets s b = true := by
        unfold isLastSegmentIntersecting
        by_cases hia : inside a = true
        · rw [(hLin hia).2]
          exact (hLin hia).1
        · rw [hLout (by simpa using hia)]
          exact hm.resolve_left hia |>.resolve_left hib
      rw [hseg]
      simp only [Bool.not_true, Bool.false_eq_true, if_false]
      cases hlo : s.lastOutside with
      | none => exact addPoint_new_seg hs hne
      | some q =>
        -- flushing the remembered point, which is `a`, leaves the list as it is
        have hq : q = a := (Option.some.inj ((hA.lo q hlo).symm.trans hlast))
        subst hq
        refine addPoint_new_seg (s := addPoint s q) (r := r0) ?_ hne
        show pushNR (startList s) q = q :: r0
        rw [hs]; simp [pushNR]
  have hR : ∀ (l : List P) (p : P), Adj l b a → Adj (pushNR l p) b a := fun _ p h => adj_pushNR_of_adj p h
  have hend := finishSection_held_mono hR (foldl_held_mono inside segMeets hR r hb)
  have hfold : pts.foldl (step inside segMeets) ⟨none, none, []⟩ =
      r.foldl (step inside segMeets) (step inside segMeets ((d ++ [a]).foldl (step inside segMeets) ⟨none, none, []⟩) b) := by
    rw [hp]; simp [List.foldl_append]
  obtain ⟨sec, hsec, h⟩ := held_limit inside segMeets (hfold ▸ hend)
  exact ⟨sec, hsec, adj_reverse h⟩

end Keep

/-- a one-dimensional "envelope" [0, 10]: enough to exhibit the state that survives a run -/
def in10 (p : Nat) : Bool := decide (p ≤ 10)
def seg10 (q p : Nat) : Bool := decide (min q p ≤ 10)

/-- a run CAN end with `lastOutside` set: `finishSection` returns early when the section was already closed
(line ending with two vertices outside the envelope) -/
theorem finish_can_leave_lastOutside : (runObj in10 seg10 ⟨none, none, []⟩ [5, 20, 30]).lastOutside = some 30 := by decide

/-- … and without the reset the next line's first section starts with that vertex of the PREVIOUS line -/
theorem noReset_invents_vertex :
    let s := runObj in10 seg10 ⟨none, none, []⟩ [5, 20, 30]
    (runObjNoReset in10 seg10 s [7, 8]).sections = [[30, 7, 8]] ∧ (runObj in10 seg10 s [7, 8]).sections = [[7, 8]] := by decide

example : limit in10 seg10 [5, 20, 30, 4, 4, 12] = [[5, 20], [30, 4, 12]] := by decide

/-! ## RobustClipEnvelopeComputer -/

/-- `a` lies inside `b` -/
def Box.le (a b : Box) : Prop := b.minx ≤ a.minx ∧ a.maxx ≤ b.maxx ∧ b.miny ≤ a.miny ∧ a.maxy ≤ b.maxy

theorem Box.le_refl (a : Box) : Box.le a a := ⟨Int.le_refl _, Int.le_refl _, Int.le_refl _, Int.le_refl _⟩
theorem Box.le_trans {a b c : Box} (h1 : Box.le a b) (h2 : Box.le b c) : Box.le a c :=
  ⟨Int.le_trans h2.1 h1.1, Int.le_trans h1.2.1 h2.2.1, Int.le_trans h2.2.2.1 h1.2.2.1, Int.le_trans h1.2.2.2 h2.2.2.2⟩

theorem boxHasPt_iff (b : Box) (p : Pt) : boxHasPt b p = true ↔ (p.x ≤ b.maxx ∧ p.x ≥ b.minx) ∧ p.y ≤ b.maxy ∧ p.y ≥ b.miny := by
  simp only [boxHasPt, Bool.and_eq_true, decide_eq_true_eq, and_assoc]

/-- `expandToInclude(p)` gives the least box that covers the old one and has `p` -/
theorem expandPt_le_iff (b c : Box) (p : Pt) : Box.le (expandPt b p) c ↔ Box.le b c ∧ boxHasPt c p = true := by
  -- one axis at a time: new bounds `min x lo`, `max x hi`
  have axis : ∀ lo hi x l h : Int, (l ≤ (if x < lo then x else lo) ∧ (if x > hi then x else hi) ≤ h) ↔
      (l ≤ lo ∧ hi ≤ h) ∧ x ≤ h ∧ x ≥ l := by
    intro lo hi x l h; split <;> split <;> omega
  have hx := axis b.minx b.maxx p.x c.minx c.maxx
  have hy := axis b.miny b.maxy p.y c.miny c.maxy
  rw [boxHasPt_iff]
  unfold Box.le expandPt
  constructor
  · rintro ⟨h1, h2, h3, h4⟩
    exact ⟨⟨(hx.mp ⟨h1, h2⟩).1.1, (hx.mp ⟨h1, h2⟩).1.2, (hy.mp ⟨h3, h4⟩).1.1, (hy.mp ⟨h3, h4⟩).1.2⟩,
      (hx.mp ⟨h1, h2⟩).2, (hy.mp ⟨h3, h4⟩).2⟩
  · rintro ⟨⟨h1, h2, h3, h4⟩, hpx, hpy⟩
    exact ⟨(hx.mpr ⟨⟨h1, h2⟩, hpx⟩).1, (hx.mpr ⟨⟨h1, h2⟩, hpx⟩).2, (hy.mpr ⟨⟨h3, h4⟩, hpy⟩).1, (hy.mpr ⟨⟨h3, h4⟩, hpy⟩).2⟩

theorem expandPt_le (b : Box) (p : Pt) : Box.le b (expandPt b p) :=
  ((expandPt_le_iff b _ p).mp (Box.le_refl _)).1

theorem expandPt_has (b : Box) (p : Pt) : boxHasPt (expandPt b p) p = true :=
  ((expandPt_le_iff b _ p).mp (Box.le_refl _)).2

theorem boxHasPt_mono {a b : Box} (h : Box.le a b) {p : Pt} (hp : boxHasPt a p = true) : boxHasPt b p = true := by
  rw [boxHasPt_iff] at hp ⊢
  obtain ⟨h1, h2, h3, h4⟩ := h
  exact ⟨⟨Int.le_trans hp.1.1 h2, Int.le_trans h1 hp.1.2⟩, Int.le_trans hp.2.1 h4, Int.le_trans h3 hp.2.2⟩

theorem addSegment_le (t c : Box) (pq : Pt × Pt) : Box.le c (addSegment t c pq) := by
  unfold addSegment
  split
  · exact Box.le_trans (expandPt_le _ _) (expandPt_le _ _)
  · exact Box.le_refl _

theorem foldl_le {α : Type} (f : Box → α → Box) (hf : ∀ c x, Box.le c (f c x)) (l : List α) (c : Box) :
    Box.le c (l.foldl f c) := by
  induction l generalizing c with
  | nil => exact Box.le_refl _
  | cons x r ih => exact Box.le_trans (hf c x) (ih _)

theorem foldl_established {α : Type} (f : Box → α → Box) (hf : ∀ c x, Box.le c (f c x)) (Q : Box → Prop)
    (hmono : ∀ a b, Box.le a b → Q a → Q b) (l : List α) (c : Box) (x : α) (hx : x ∈ l) (hQ : ∀ c, Q (f c x)) :
    Q (l.foldl f c) := by
  induction l generalizing c with
  | nil => simp at hx
  | cons y r ih =>
    rcases List.mem_cons.mp hx with h | h
    · subst h
      exact hmono _ _ (foldl_le f hf r _) (hQ c)
    · exact ih _ h

theorem addRing_le (t c : Box) (ring : List Pt) : Box.le c (addRing t c ring) := foldl_le _ (addSegment_le t) _ _
theorem addPolygon_le (t c : Box) (poly : List (List Pt)) : Box.le c (addPolygon t c poly) := foldl_le _ (addRing_le t) _ _

/-- the clip envelope covers the target envelope -/
theorem robustClipEnv_covers_target (t : Box) (a b : List (List (List Pt))) : Box.le t (robustClipEnv t a b) :=
  Box.le_trans (foldl_le _ (addPolygon_le t) a t) (foldl_le _ (addPolygon_le t) b _)

/-- both end points of the segment are in the box -/
def Protected (t : Box) (pq : Pt × Pt) (c : Box) : Prop :=
  boxMeetsSeg t pq.1 pq.2 = true → boxHasPt c pq.1 = true ∧ boxHasPt c pq.2 = true

theorem Protected_mono (t : Box) (pq : Pt × Pt) (a b : Box) (h : Box.le a b) (hp : Protected t pq a) : Protected t pq b :=
  fun hm => ⟨boxHasPt_mono h (hp hm).1, boxHasPt_mono h (hp hm).2⟩

theorem addSegment_protects (t c : Box) (pq : Pt × Pt) : Protected t pq (addSegment t c pq) := by
  intro hm
  unfold addSegment
  rw [if_pos hm]
  exact ⟨boxHasPt_mono (expandPt_le _ _) (expandPt_has _ _), expandPt_has _ _⟩

theorem addRing_protects (t c : Box) (ring : List Pt) (pq : Pt × Pt) (h : pq ∈ pairs ring) : Protected t pq (addRing t c ring) :=
  foldl_established _ (addSegment_le t) _ (Protected_mono t pq) _ c pq h (fun c => addSegment_protects t c pq)

theorem addPolygon_protects (t c : Box) (poly : List (List Pt)) (ring : List Pt) (hr : ring ∈ poly) (pq : Pt × Pt)
    (h : pq ∈ pairs ring) : Protected t pq (addPolygon t c poly) :=
  foldl_established _ (addRing_le t) _ (Protected_mono t pq) poly c ring hr (fun c => addRing_protects t c ring pq h)

/-- **every segment that matters is kept whole**: for every polygon of either operand, every ring of it — the shell and
every HOLE — and every segment of that ring whose envelope meets the target envelope, both end points lie in the clip
envelope (so neither `RingClipper` nor `LineLimiter` cuts it) -/
theorem robustClipEnv_protects (t : Box) (a b : List (List (List Pt))) (poly : List (List Pt)) (hp : poly ∈ a ++ b)
    (ring : List Pt) (hr : ring ∈ poly) (pq : Pt × Pt) (hs : pq ∈ pairs ring) (hm : boxMeetsSeg t pq.1 pq.2 = true) :
    boxHasPt (robustClipEnv t a b) pq.1 = true ∧ boxHasPt (robustClipEnv t a b) pq.2 = true := by
  have est : ∀ (l : List (List (List Pt))) (c : Box), poly ∈ l → Protected t pq (l.foldl (addPolygon t) c) := fun l c hl =>
    foldl_established _ (addPolygon_le t) _ (Protected_mono t pq) l c poly hl (fun c => addPolygon_protects t c poly ring hr pq hs)
  unfold robustClipEnv
  rcases List.mem_append.mp hp with h | h
  · exact Protected_mono t pq _ _ (foldl_le _ (addPolygon_le t) b _) (est a t h) hm
  · exact est b _ h hm

/-- non-vacuity: a hole edge that crosses the target box widens the clip envelope -/
example : robustClipEnv ⟨4, 6, 4, 6⟩ [[[⟨0,0⟩, ⟨20,0⟩, ⟨20,20⟩, ⟨0,20⟩, ⟨0,0⟩], [⟨2,2⟩, ⟨2,9⟩, ⟨9,2⟩, ⟨2,2⟩]]] [] = ⟨2, 9, 2, 9⟩ := by decide

/-! ### the clip envelope is the LEAST such box -/

theorem foldl_least {α : Type} (f : Box → α → Box) (c : Box) (l : List α) (hf : ∀ x ∈ l, ∀ clip, Box.le clip c → Box.le (f clip x) c)
    (clip : Box) (h : Box.le clip c) : Box.le (l.foldl f clip) c := by
  induction l generalizing clip with
  | nil => exact h
  | cons x r ih =>
    exact ih (fun y hy => hf y (List.mem_cons_of_mem _ hy)) _ (hf x (by simp) clip h)

/-- **the clip envelope is exactly the hull of the target and the protected segments**: any box that covers the target and
contains the end points of every protected segment covers the clip envelope (with `robustClipEnv_covers_target` and
`robustClipEnv_protects` this characterises `RobustClipEnvelopeComputer::getEnvelope` completely) -/
theorem robustClipEnv_least (t : Box) (a b : List (List (List Pt))) (c : Box) (ht : Box.le t c)
    (hc : ∀ poly ∈ a ++ b, ∀ ring ∈ poly, ∀ pq ∈ pairs ring, boxMeetsSeg t pq.1 pq.2 = true →
      boxHasPt c pq.1 = true ∧ boxHasPt c pq.2 = true) : Box.le (robustClipEnv t a b) c := by
  have seg : ∀ pq : Pt × Pt, (boxMeetsSeg t pq.1 pq.2 = true → boxHasPt c pq.1 = true ∧ boxHasPt c pq.2 = true) →
      ∀ clip, Box.le clip c → Box.le (addSegment t clip pq) c := by
    intro pq hpq clip hclip
    unfold addSegment
    split
    · rename_i hm
      exact (expandPt_le_iff _ _ _).mpr ⟨(expandPt_le_iff _ _ _).mpr ⟨hclip, (hpq hm).1⟩, (hpq hm).2⟩
    · exact hclip
  have poly : ∀ l : List (List (List Pt)), (∀ p ∈ l, p ∈ a ++ b) → ∀ clip, Box.le clip c → Box.le (l.foldl (addPolygon t) clip) c := by
    intro l hl clip hclip
    refine foldl_least _ c l (fun p hp clip hclip => ?_) clip hclip
    refine foldl_least _ c p (fun ring hr clip hclip => ?_) clip hclip
    exact foldl_least _ c (pairs ring) (fun pq hpq clip hclip => seg pq (hc p (hl p hp) ring hr pq hpq) clip hclip) clip hclip
  unfold robustClipEnv
  exact poly b (fun p hp => List.mem_append.mpr (Or.inr hp)) _ (poly a (fun p hp => List.mem_append.mpr (Or.inl hp)) t ht)

/-! ## RingClipper -/
section Clipper
variable {P : Type} (inEdge : P → Bool) (ix : P → P → P)

theorem clipLoop_all_inside (pts : List P) (p0 : P) (acc : List P) (h0 : inEdge p0 = true) (h : ∀ p ∈ pts, inEdge p = true) :
    clipLoop inEdge ix p0 pts acc = pts.reverse ++ acc := by
  induction pts generalizing p0 acc with
  | nil => rfl
  | cons p r ih =>
    have hp : inEdge p = true := h p (by simp)
    simp only [clipLoop, hp, h0, if_true, Bool.not_true, Bool.false_eq_true, if_false]
    rw [ih p (p :: acc) hp (fun q hq => h q (List.mem_cons_of_mem _ hq))]
    simp

/-- a point list wholly inside the half plane of a box edge passes unchanged -/
theorem clipToBoxEdgeOpen_all_inside (pts : List P) (h : ∀ p ∈ pts, inEdge p = true) :
    clipToBoxEdgeOpen inEdge ix pts = pts := by
  unfold clipToBoxEdgeOpen
  cases hl : pts.getLast? with
  | none => simp [List.getLast?_eq_none_iff] at hl; simp [hl]
  | some last =>
    have hm : last ∈ pts := List.mem_of_getLast? hl
    show (clipLoop inEdge ix last pts []).reverse = pts
    rw [clipLoop_all_inside inEdge ix pts last [] (h last hm) h]
    simp

/-- every emitted point is an input point inside the half plane, or the crossing point of a segment between two input points
that lie on different sides -/
theorem clipLoop_mem_src (pts : List P) (p0 : P) (acc : List P) (q : P) (hq : q ∈ clipLoop inEdge ix p0 pts acc) :
    q ∈ acc ∨ (q ∈ pts ∧ inEdge q = true) ∨ ∃ a b, a ∈ p0 :: pts ∧ b ∈ pts ∧ inEdge a ≠ inEdge b ∧ q = ix a b := by
  induction pts generalizing p0 acc with
  | nil => exact Or.inl hq
  | cons p r ih =>
    simp only [clipLoop] at hq
    rcases ih _ _ hq with h | ⟨h, hi⟩ | ⟨a, b, ha, hb, hab⟩
    · -- one step adds `p` if it is inside, and the crossing point if `p0`, `p` lie on different sides
      have step : q ∈ acc ∨ (q = p ∧ inEdge p = true) ∨ (q = ix p0 p ∧ inEdge p0 ≠ inEdge p) := by
        revert h
        cases hp : inEdge p <;> cases h0 : inEdge p0 <;> simp [or_assoc, or_comm]
      rcases step with h | ⟨rfl, hp⟩ | ⟨rfl, hne⟩
      · exact Or.inl h
      · exact Or.inr (Or.inl ⟨by simp, hp⟩)
      · exact Or.inr (Or.inr ⟨p0, p, by simp, by simp, hne, rfl⟩)
    · exact Or.inr (Or.inl ⟨List.mem_cons_of_mem _ h, hi⟩)
    · refine Or.inr (Or.inr ⟨a, b, ?_, List.mem_cons_of_mem _ hb, hab⟩)
      rcases List.mem_cons.mp ha with ha | ha
      · subst ha; simp
      · exact List.mem_cons_of_mem _ (List.mem_cons_of_mem _ ha)

/-- `clipLoop_mem_src` without the provenance of the two end points -/
theorem clipLoop_mem (pts : List P) (p0 : P) (acc : List P) (q : P) (hq : q ∈ clipLoop inEdge ix p0 pts acc) :
    q ∈ acc ∨ (q ∈ pts ∧ inEdge q = true) ∨ ∃ a b, inEdge a ≠ inEdge b ∧ q = ix a b := by
  rcases clipLoop_mem_src inEdge ix pts p0 acc q hq with h | h | ⟨a, b, _, _, hne, hab⟩
  · exact Or.inl h
  · exact Or.inr (Or.inl h)
  · exact Or.inr (Or.inr ⟨a, b, hne, hab⟩)

end Clipper

/-! ### the clipped ring lies in the closed box (given what the crossing-point arithmetic must deliver) -/

/-- inside or on the line of box edge `k` -/
def closedIn (b : Box) (p : Pt) (k : Nat) : Prop :=
  if k = 0 then p.y ≥ b.miny else if k = 1 then p.x ≤ b.maxx else if k = 2 then p.y ≤ b.maxy else p.x ≥ b.minx

theorem closedIn_of_inside (b : Box) (p : Pt) (k : Nat) (h : isInsideEdge b p k = true) : closedIn b p k := by
  unfold isInsideEdge at h
  unfold closedIn
  by_cases h0 : k = 0
  · simp [h0] at h ⊢; omega
  · by_cases h1 : k = 1
    · simp [h1] at h ⊢; omega
    · by_cases h2 : k = 2
      · simp [h2] at h ⊢; omega
      · simp [h0, h1, h2] at h ⊢; omega

section
variable {P : Type} (inEdge : P → Bool) (ix : P → P → P)

theorem clipToBoxEdgeOpen_mem (pts : List P) (q : P) (hq : q ∈ clipToBoxEdgeOpen inEdge ix pts) :
    (q ∈ pts ∧ inEdge q = true) ∨ ∃ a b, a ∈ pts ∧ b ∈ pts ∧ q = ix a b := by
  unfold clipToBoxEdgeOpen at hq
  cases hl : pts.getLast? with
  | none => simp [hl] at hq
  | some last =>
    simp only [hl, List.mem_reverse] at hq
    have hm : last ∈ pts := List.mem_of_getLast? hl
    rcases clipLoop_mem_src inEdge ix pts last [] q hq with h | h | ⟨a, b, ha, hb, _, hab⟩
    · simp at h
    · exact Or.inl h
    · refine Or.inr ⟨a, b, ?_, hb, hab⟩
      rcases List.mem_cons.mp ha with ha | ha
      · subst ha; exact hm
      · exact ha
end

theorem mem_dedupAdj {P : Type} [DecidableEq P] (l : List P) (q : P) (h : q ∈ dedupAdj l) : q ∈ l := by
  induction l with
  | nil => simp [dedupAdj] at h
  | cons p r ih =>
    cases r with
    | nil => simpa [dedupAdj] using h
    | cons p2 r2 =>
      simp only [dedupAdj] at h
      split at h
      · exact List.mem_cons_of_mem _ (ih h)
      · rcases List.mem_cons.mp h with h | h
        · subst h; simp
        · exact List.mem_cons_of_mem _ (ih h)

theorem mem_closeRing {P : Type} [DecidableEq P] (l : List P) (q : P) (h : q ∈ closeRing l) : q ∈ l := by
  unfold closeRing at h
  split at h
  · split at h
    · exact h
    · rcases List.mem_append.mp h with h | h
      · exact h
      · simp at h; subst h; rename_i hl _ _; simp
  · exact h

/-- what `RingClipper::intersection` must deliver for the clipped ring to stay in the box: the crossing point lies on the
edge's line (true by construction: that ordinate is assigned), and its computed ordinate stays on the inner side of every
OTHER edge whenever both end points do (true of exact arithmetic; for binary64 it is an assumption about rounding) -/
structure IxOK (b : Box) (ix : Nat → Pt → Pt → Pt) : Prop where
  onLine : ∀ k p q, closedIn b (ix k p q) k
  keeps : ∀ k j p q, j ≠ k → closedIn b p j → closedIn b q j → closedIn b (ix k p q) j

/-- one clipping stage: the new edge's closed half plane is established, those of the earlier edges are kept -/
theorem stage_closedIn (b : Box) (ix : Nat → Pt → Pt → Pt) (hix : IxOK b ix) (k : Nat) (l : List Pt)
    (hl : ∀ p ∈ l, ∀ j < k, closedIn b p j) :
    ∀ q ∈ dedupAdj (clipToBoxEdgeOpen (fun p => isInsideEdge b p k) (ix k) l), ∀ j < k + 1, closedIn b q j := by
  intro q hq j hj
  rcases Nat.lt_succ_iff_lt_or_eq.mp hj with hj | rfl
  · rcases clipToBoxEdgeOpen_mem _ _ l q (mem_dedupAdj _ q hq) with ⟨hm, _⟩ | ⟨p1, p2, h1, h2, rfl⟩
    · exact hl q hm j hj
    · exact hix.keeps k j p1 p2 (Nat.ne_of_lt hj) (hl p1 h1 j hj) (hl p2 h2 j hj)
  · rcases clipToBoxEdgeOpen_mem _ _ l q (mem_dedupAdj _ q hq) with ⟨_, hin⟩ | ⟨p1, p2, _, _, rfl⟩
    · exact closedIn_of_inside b q j hin
    · exact hix.onLine j p1 p2

/-- **the clipped ring lies in the closed clip box** -/
theorem ringClip_in_box (b : Box) (ix : Nat → Pt → Pt → Pt) (hix : IxOK b ix) (pts : List Pt) :
    ∀ q ∈ ringClip b ix pts, boxHasPt b q = true := by
  intro q hq
  have fin : ∀ q : Pt, (∀ j < 4, closedIn b q j) → boxHasPt b q = true := by
    intro q h
    have h0 := h 0 (by decide); have h1 := h 1 (by decide); have h2 := h 2 (by decide); have h3 := h 3 (by decide)
    simp [closedIn] at h0 h1 h2 h3
    simp [boxHasPt]; omega
  unfold ringClip at hq
  simp only at hq
  have s0 := stage_closedIn b ix hix 0 pts (fun _ _ j hj => absurd hj (Nat.not_lt_zero j))
  split at hq
  · rename_i he; simp [List.isEmpty_iff.mp he] at hq
  have s1 := stage_closedIn b ix hix 1 _ s0
  split at hq
  · rename_i he; simp [List.isEmpty_iff.mp he] at hq
  have s2 := stage_closedIn b ix hix 2 _ s1
  split at hq
  · rename_i he; simp [List.isEmpty_iff.mp he] at hq
  exact fin q (stage_closedIn b ix hix 3 _ s2 q (mem_closeRing _ q hq))

/-! ## EdgeNodingBuilder -/

/-- canonical orientation (shell clockwise, hole counter-clockwise) has depth delta 1, the opposite one −1 -/
theorem depthDelta_canonical :
    depthDelta false false = 1 ∧ depthDelta true true = 1 ∧ depthDelta true false = -1 ∧ depthDelta false true = -1 := by decide

theorem depthDelta_flip (c h : Bool) : depthDelta (!c) h = - depthDelta c h := by cases c <;> cases h <;> decide

/-- exact crossing points for segments whose crossing with the edge's line is a lattice point (integer division is exact then) -/
def ixInt (b : Box) (k : Nat) (p q : Pt) : Pt :=
  if k == 0 then ⟨p.x + (b.miny - p.y) * (q.x - p.x) / (q.y - p.y), b.miny⟩
  else if k == 1 then ⟨b.maxx, p.y + (b.maxx - p.x) * (q.y - p.y) / (q.x - p.x)⟩
  else if k == 2 then ⟨p.x + (b.maxy - p.y) * (q.x - p.x) / (q.y - p.y), b.maxy⟩
  else ⟨b.minx, p.y + (b.minx - p.x) * (q.y - p.y) / (q.x - p.x)⟩

/-- a thick "C" (outer square, cavity joined to the outside by a channel on the left) with a tab growing into the cavity
from its right wall; counter-clockwise -/
def cRing : List Pt :=
  [⟨0,0⟩, ⟨100,0⟩, ⟨100,100⟩, ⟨0,100⟩, ⟨0,55⟩, ⟨10,55⟩, ⟨10,90⟩, ⟨90,90⟩, ⟨90,65⟩, ⟨70,65⟩, ⟨50,65⟩, ⟨50,60⟩, ⟨70,60⟩,
   ⟨90,60⟩, ⟨90,10⟩, ⟨10,10⟩, ⟨10,45⟩, ⟨0,45⟩, ⟨0,0⟩]
/-- a clip box inside the cavity, around the end of the tab -/
def cBox : Box := ⟨36, 72, 51, 74⟩

/-- **why the depth delta is computed from the original ring**: the ring is counter-clockwise (positive area), its
clipped point list runs along the top edge of the box and back, and `Orientation::isCCW` calls it clockwise -/
theorem clipped_ring_orientation_differs :
    CCW.isCCW cRing = true ∧ CCW.ccwSpec cRing = true ∧
    CCW.isCCW (ringClip cBox (ixInt cBox) cRing) = false ∧
    depthDelta (CCW.isCCW cRing) false ≠ depthDelta (CCW.isCCW (ringClip cBox (ixInt cBox) cRing)) false := by decide

/-- the exact crossing points satisfy the requirement on segments that cross the edge's line at a lattice point … here: the
witness ring of `clipped_ring_orientation_differs` stays in its box -/
example : (ringClip cBox (ixInt cBox) cRing).all (boxHasPt cBox) = true := by decide

/-! ### lines -/

/-- the edges produced for a line do not depend on what the limiter did before -/
theorem addLine_edges_indep (clip : Option Box) (s s' : LState Pt) (line : List Pt) :
    (addLine clip s line).1 = (addLine clip s' line).1 := by
  unfold addLine
  split
  · rfl
  · split
    · rfl
    · split <;> rfl

/-- **the lines of an operand are prepared independently of each other** (one limiter object for all of them
notwithstanding): the edges are those each line yields with a fresh limiter, in order -/
theorem addLines_eq_flatMap (clip : Option Box) (s : LState Pt) (lines : List (List Pt)) :
    addLines clip s lines = lines.flatMap (fun l => (addLine clip ⟨none, none, []⟩ l).1) := by
  induction lines generalizing s with
  | nil => rfl
  | cons l r ih =>
    simp only [addLines, List.flatMap_cons]
    rw [ih, addLine_edges_indep clip s ⟨none, none, []⟩ l]

/-- every vertex handed to the noder for a limited or unlimited line is a vertex of that line -/
theorem addLine_points_from_input (clip : Option Box) (s : LState Pt) (line : List Pt) (e : EdgeIn)
    (he : e ∈ (addLine clip s line).1) (q : Pt) (hq : q ∈ e.pts) : q ∈ line := by
  unfold addLine at he
  split at he
  · simp at he
  · split at he
    · simp at he
    · split at he
      · rename_i c _ _
        simp only [List.mem_map, List.mem_filter] at he
        obtain ⟨sec, ⟨hsec, _⟩, rfl⟩ := he
        exact limit_points_from_input (boxHasPt c) (boxMeetsSeg c) line sec (by unfold limit; exact hsec) q hq
      · simp only at he
        by_cases hlen : (dedupAdj line).length < 2
        · simp [hlen] at he
        · simp [hlen] at he
          subst he
          exact mem_dedupAdj line q hq

end GeosModel.Overlay.Clip
