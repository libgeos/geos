import GeosModel.Proofs.Precision.RoundNE
import GeosModel.Proofs.Precision.RoundF64
/-!
# From the relative-error law to the bit-level model `PM.makePrecise`

Glue between `RoundF64` (abstract rounding function), `RoundNE` (error of `roundMag`) and the executable model of
`Round.lean` on `F64.Val`: value of a finite double, `mulF`/`divF` of finite operands are `roundNE` of the exact
result, `roundNE` has relative error `2^-53` whenever it returns a full mantissa, and converting an integer
`0 < |r| < 2^53` is exact.
-/
namespace GeosModel.Precision
open GeosModel.F64 (Val)

theorem finRat_eq (neg : Bool) (m : ℕ) (e : ℤ) :
    finRat neg m e = (if neg then -1 else 1) * ((m : ℚ) * 2 ^ e) := by
  unfold finRat
  have hv : (if 0 ≤ e then ((m * pow2 e.toNat : ℕ) : ℚ) else (m : ℚ) / (pow2 (-e).toNat : ℚ)) = (m : ℚ) * 2 ^ e := by
    split
    · rename_i he
      push_cast; rw [pow2_cast_of_nonneg e he]
    · rename_i he
      rw [pow2_cast_of_nonneg (-e) (by omega), zpow_neg, div_eq_mul_inv, inv_inv]
  simp only [hv]
  split <;> ring

theorem abs_finRat (neg : Bool) (m : ℕ) (e : ℤ) : |finRat neg m e| = (m : ℚ) * 2 ^ e := by
  have h2e : (0 : ℚ) < 2 ^ e := zpow_pos (by norm_num) e
  have hm : (0 : ℚ) ≤ (m : ℚ) * 2 ^ e := mul_nonneg (by positivity) (le_of_lt h2e)
  rw [finRat_eq]
  cases neg <;> simp [abs_of_nonneg hm]

theorem finRat_pos (m : ℕ) (e : ℤ) (hm : m ≠ 0) : 0 < finRat false m e := by
  rw [finRat_eq, if_neg Bool.false_ne_true, one_mul]
  exact mul_pos (by exact_mod_cast Nat.pos_of_ne_zero hm) (zpow_pos two_pos e)

theorem natAbs_div_den (q : ℚ) : ((q.num.natAbs : ℕ) : ℚ) / q.den = |q| := by
  have hd : (0 : ℚ) < q.den := by exact_mod_cast q.den_pos
  conv_rhs => rw [← Rat.num_div_den q]
  rw [abs_div, abs_of_pos hd, Nat.cast_natAbs, Int.cast_abs]

/-- a finite result of `roundNE` on a non-zero argument: the sign of the argument and `roundMag` of its magnitude -/
theorem roundNE_fin (z : Bool) (q : ℚ) (n : Bool) (m : ℕ) (e : ℤ) (h : roundNE z q = .fin n m e) (hq : q.num ≠ 0) :
    n = decide (q.num < 0) ∧ roundMag q.num.natAbs q.den = some (m, e) := by
  unfold roundNE at h
  rw [if_neg hq] at h
  simp only at h
  cases hr : roundMag q.num.natAbs q.den with
  | none => rw [hr] at h; cases h
  | some p =>
    rw [hr] at h
    injection h with hn hm he
    exact ⟨hn.symm, by rw [← hm, ← he]⟩

/-- `roundNE` with a full mantissa: relative error `2^-53` (relative to the rounded value), correct sign -/
theorem roundNE_fin_err (z : Bool) (q : ℚ) (n : Bool) (m : ℕ) (e : ℤ)
    (h : roundNE z q = .fin n m e) (hm : 2 ^ 52 ≤ m) :
    |finRat n m e - q| ≤ (2 : ℚ)⁻¹ ^ 53 * |finRat n m e| := by
  by_cases h0 : q.num = 0
  · unfold roundNE at h
    rw [if_pos h0] at h
    injection h with _ hm0 _
    omega
  obtain ⟨hn, hr⟩ := roundNE_fin z q n m e h h0
  have hB := roundMag_rel_err _ _ m e (Int.natAbs_pos.mpr h0) q.den_pos hr hm
  rw [natAbs_div_den] at hB
  rw [abs_finRat, finRat_eq, hn]
  by_cases hneg : q.num < 0
  · rw [abs_of_neg (Rat.num_neg.mp hneg)] at hB
    rw [decide_eq_true hneg, if_pos rfl, neg_one_mul, ← abs_neg, neg_sub, sub_neg_eq_add, add_comm, ← sub_neg_eq_add]
    exact hB
  · rw [abs_of_nonneg (Rat.num_nonneg.mp (not_lt.mp hneg))] at hB
    rw [decide_eq_false hneg, if_neg Bool.false_ne_true, one_mul]
    exact hB

theorem divRoundEven_one (x : ℕ) : divRoundEven x 1 = x := by
  unfold divRoundEven
  simp [Nat.mod_one]

/-- with denominator 1 and an exponent `−k ≤ 0` the mantissa is the shifted integer -/
theorem mant_one (a k : ℕ) : mant a 1 (-(k : ℤ)) = a * 2 ^ k := by
  unfold mant
  split
  · obtain rfl : k = 0 := by omega
    simp [pow2, divRoundEven_one]
  · simp [pow2, divRoundEven_one]

/-- `roundMag` when the mantissa needs no carry and the exponent is in range -/
theorem roundMag_eq (a d : ℕ) (ha : a ≠ 0) (hm : mant a d (binadeExp a d) ≠ pow2 53) (he : binadeExp a d ≤ 971) :
    roundMag a d = some (mant a d (binadeExp a d), binadeExp a d) := by
  unfold roundMag
  unfold mant at hm ⊢
  rw [if_neg ha]
  simp only
  rw [if_neg hm]
  simp only
  rw [if_neg (not_lt.2 he)]

/-- `roundMag` of an integer below 2^53 is that integer, shifted to a full mantissa -/
theorem roundMag_int (a : ℕ) (ha : 0 < a) (hb : a < 2 ^ 53) :
    roundMag a 1 = some (a * 2 ^ (52 - a.log2), -((52 - a.log2 : ℕ) : ℤ)) := by
  have hl : a.log2 ≤ 52 := Nat.lt_succ_iff.1 ((Nat.log2_lt ha.ne').2 hb)
  have hlo := Nat.log2_self_le (Nat.pos_iff_ne_zero.mp ha)
  have hhi := @Nat.lt_log2_self a
  have hB : binadeExp a 1 = -((52 - a.log2 : ℕ) : ℤ) := by
    unfold binadeExp
    simp only [show Nat.log2 1 = 0 by decide]
    have e1 : (52 : ℤ) + ((a.log2 : ℤ) - ((0 : ℕ) : ℤ) - 52) = (a.log2 : ℤ) := by push_cast; ring
    have hge : geScaled a 1 (52 + ((a.log2 : ℤ) - ((0 : ℕ) : ℤ) - 52)) = true := by
      rw [e1]; unfold geScaled
      rw [if_pos (by positivity)]
      simp [pow2, hlo]
    rw [hge]
    simp only [if_true]
    split
    · omega
    · omega
  have hm : mant a 1 (binadeExp a 1) = a * 2 ^ (52 - a.log2) := by rw [hB, mant_one]
  have hlt : a * 2 ^ (52 - a.log2) < pow2 53 :=
    calc a * 2 ^ (52 - a.log2) < 2 ^ (a.log2 + 1) * 2 ^ (52 - a.log2) :=
          Nat.mul_lt_mul_of_pos_right hhi (by positivity)
      _ = 2 ^ 53 := by rw [← pow_add]; congr 1; omega
  rw [roundMag_eq a 1 ha.ne' (by rw [hm]; exact hlt.ne) (by rw [hB]; omega), hm, hB]

theorem geScaled_iff (a d : ℕ) (hd : 0 < d) (k : ℤ) :
    geScaled a d k = true ↔ (2 : ℚ) ^ k ≤ (a : ℚ) / d := by
  have hdq : (0 : ℚ) < d := by exact_mod_cast hd
  unfold geScaled
  split
  · rename_i hk
    rw [decide_eq_true_iff, le_div_iff₀ hdq, ← pow2_cast_of_nonneg k hk, mul_comm, ← Nat.cast_mul, Nat.cast_le]
  · rename_i hk
    have e : (2 : ℚ) ^ k = (2 ^ (-k))⁻¹ := by rw [zpow_neg, inv_inv]
    rw [decide_eq_true_iff, e, le_div_iff₀ hdq, inv_mul_le_iff₀ (zpow_pos two_pos _),
      ← pow2_cast_of_nonneg (-k) (by omega), ← Nat.cast_mul, Nat.cast_le, mul_comm]

/-- the exponent chosen by `binadeExp` is not too large: `2^(52+e) ≤ a/d` on the normal range -/
theorem binade_lower (a d : ℕ) (ha : 0 < a) (hd : 0 < d) (hn : (2 : ℚ) ^ (-1022 : ℤ) ≤ (a : ℚ) / d) :
    (2 : ℚ) ^ (52 + binadeExp a d) ≤ (a : ℚ) / d := by
  have hdq : (0 : ℚ) < d := by exact_mod_cast hd
  have hlo : ((2 : ℚ) ^ a.log2) ≤ a := by exact_mod_cast Nat.log2_self_le (Nat.pos_iff_ne_zero.mp ha)
  have hhi : (d : ℚ) < (2 : ℚ) ^ (d.log2 + 1) := by exact_mod_cast @Nat.lt_log2_self d
  unfold binadeExp
  simp only
  -- whichever first guess is taken, a clamped exponent is covered by `hn`
  split
  · rename_i hge
    split
    · exact hn
    · exact (geScaled_iff a d hd _).mp hge
  · split
    · exact hn
    · -- one less than the first guess: `2^⌊log a⌋ ≤ a` and `d < 2^(⌊log d⌋+1)`
      have e : (52 : ℤ) + (((a.log2 : ℤ) - (d.log2 : ℤ) - 52) - 1) = (a.log2 : ℤ) - ((d.log2 + 1 : ℕ) : ℤ) := by
        push_cast; ring
      rw [e, zpow_sub₀ two_ne_zero, zpow_natCast, zpow_natCast]
      exact div_le_div₀ (Nat.cast_nonneg a) hlo hdq hhi.le

theorem divRoundEven_ge (num den : ℕ) : num / den ≤ divRoundEven num den := by
  unfold divRoundEven
  simp only
  split
  · omega
  · split <;> omega

theorem mant_ge (a d : ℕ) (hd : 0 < d) (e : ℤ) (hb : (2 : ℚ) ^ (52 + e) ≤ (a : ℚ) / d) : 2 ^ 52 ≤ mant a d e := by
  obtain ⟨num, den, hden, hm, hv⟩ := mant_eq a d hd e
  have hdq : (0 : ℚ) < den := by exact_mod_cast hden
  rw [zpow_add₀ two_ne_zero, ← le_div_iff₀ (zpow_pos two_pos e), ← hv, le_div_iff₀ hdq] at hb
  rw [hm]
  exact le_trans ((Nat.le_div_iff_mul_le hden).2 (by exact_mod_cast hb)) (divRoundEven_ge _ _)

theorem roundMag_full (a d m : ℕ) (e : ℤ) (ha : 0 < a) (hd : 0 < d)
    (hn : (2 : ℚ) ^ (-1022 : ℤ) ≤ (a : ℚ) / d) (h : roundMag a d = some (m, e)) : 2 ^ 52 ≤ m := by
  rcases roundMag_some a d m e ha h with ⟨_, rfl, _⟩ | ⟨_, rfl, _⟩
  · exact le_refl _
  · exact mant_ge a d hd _ (binade_lower a d ha hd hn)

theorem roundNE_fin_full (z : Bool) (q : ℚ) (n : Bool) (m : ℕ) (e : ℤ)
    (h : roundNE z q = .fin n m e) (hq : (2 : ℚ) ^ (-1022 : ℤ) ≤ |q|) : 2 ^ 52 ≤ m := by
  have hnum : q.num ≠ 0 := fun hc => by
    rw [Rat.num_eq_zero.mp hc, abs_zero] at hq
    exact absurd hq (not_le.2 (zpow_pos two_pos _))
  exact roundMag_full _ _ _ _ (Int.natAbs_pos.mpr hnum) q.den_pos (by rwa [natAbs_div_den])
    (roundNE_fin z q n m e h hnum).2

/-- converting an integer `0 < |r| < 2^53` to binary64 is exact -/
theorem ofInt_exact (z : Bool) (r : ℤ) (h0 : r ≠ 0) (hb : r.natAbs < 2 ^ 53) :
    ∃ m e, ofInt z r = .fin (decide (r < 0)) m e ∧ finRat (decide (r < 0)) m e = r ∧ m ≠ 0 := by
  have ha : 0 < r.natAbs := Int.natAbs_pos.mpr h0
  unfold ofInt roundNE
  rw [Rat.num_intCast, Rat.den_intCast, if_neg h0]
  simp only
  rw [roundMag_int r.natAbs ha hb]
  refine ⟨_, _, rfl, ?_, ?_⟩
  · rw [finRat_eq]
    have hv : ((r.natAbs * 2 ^ (52 - r.natAbs.log2) : ℕ) : ℚ) * 2 ^ (-((52 - r.natAbs.log2 : ℕ) : ℤ)) = (r.natAbs : ℚ) := by
      rw [Nat.cast_mul, Nat.cast_pow, Nat.cast_ofNat, zpow_neg, zpow_natCast, mul_assoc,
        mul_inv_cancel₀ (pow_ne_zero _ two_ne_zero), mul_one]
    rw [hv, Nat.cast_natAbs, Int.cast_abs]
    by_cases hneg : r < 0
    · have : (r : ℚ) < 0 := by exact_mod_cast hneg
      simp [hneg, abs_of_neg this]
    · have : (0 : ℚ) ≤ r := by exact_mod_cast not_lt.mp hneg
      simp [hneg, abs_of_nonneg this]
  · have : 0 < 2 ^ (52 - r.natAbs.log2) := by positivity
    exact Nat.ne_of_gt (Nat.mul_pos ha this)

theorem roundNE_zneg_irrel (z z' : Bool) (q : ℚ) (hq : q.num ≠ 0) : roundNE z q = roundNE z' q := by
  unfold roundNE; rw [if_neg hq, if_neg hq]

theorem ofInt_zneg_irrel (z z' : Bool) (r : ℤ) (h0 : r ≠ 0) : ofInt z r = ofInt z' r := by
  unfold ofInt; exact roundNE_zneg_irrel z z' _ (by rw [Rat.num_intCast]; exact h0)

/-- one application of `makePrecise` when the grid size is not above 1 and the scale is a non-zero finite double (the
scale branch): if `y = v * scale` is finite and rounds to the integer `r`, `0 < |r| < 2^53`, the result is the quotient
`r / scale`, rounded -/
theorem makePrecise_scale_step (pm : PM) (ms : ℕ) (es : ℤ) (hs : pm.scale = .fin false ms es) (hms : ms ≠ 0)
    (hg : vLt one pm.gridSize = false) (v : Val) (ny : Bool) (my : ℕ) (ey : ℤ) (hy : mulF v pm.scale = .fin ny my ey)
    (r : ℤ) (hr : javaRound (finRat ny my ey) = r) (hr0 : r ≠ 0) (hrb : r.natAbs < 2 ^ 53) :
    pm.makePrecise v = roundNE (decide (r < 0) != false) ((r : ℚ) / finRat false ms es) := by
  obtain ⟨m0, e0, ho, hov, _⟩ := ofInt_exact ny r hr0 hrb
  have hS : finRat false ms es ≠ finRat false 0 (-1074) := by
    rw [finRat_eq, finRat_eq]; simp
    exact ⟨hms, (zpow_pos two_pos es).ne'⟩
  have hb : pm.makePrecise v = divF (javaRoundF (mulF v pm.scale)) pm.scale := by
    unfold PM.makePrecise
    rw [hg, hs]
    simp [vFeq, zero, hS]
  rw [hb, hy]
  show divF (ofInt ny (javaRound (finRat ny my ey))) pm.scale = _
  rw [hr, ho, hs, ← hov]
  show (if ms = 0 then _ else _) = _
  rw [if_neg hms]

/-- with a scale `S ≤ 2^1022` and an integer `r ≠ 0`, the quotient `r/S` is in the normal range, and so is `z·S` for any
`z` within relative error `2⁻⁵³` of the quotient -/
theorem normal_range (r S z : ℚ) (hS0 : 0 < S) (hS : S ≤ 2 ^ (1022 : ℤ)) (hr1 : 1 ≤ |r|) :
    (2 : ℚ) ^ (-1022 : ℤ) ≤ |r / S| ∧
      (|z - r / S| ≤ (2 : ℚ)⁻¹ ^ 53 * |z| → (2 : ℚ) ^ (-1022 : ℤ) ≤ |z * S|) := by
  constructor
  · rw [abs_div, abs_of_pos hS0, le_div_iff₀ hS0]
    calc (2 : ℚ) ^ (-1022 : ℤ) * S ≤ 2 ^ (-1022 : ℤ) * 2 ^ (1022 : ℤ) :=
          mul_le_mul_of_nonneg_left hS (zpow_pos two_pos _).le
      _ = 1 := by rw [← zpow_add₀ (two_ne_zero : (2 : ℚ) ≠ 0)]; rfl
      _ ≤ |r| := hr1
  · intro hdiv
    -- `z·S` is `r` up to an error of at most `|z·S|`, and `|r| ≥ 1`
    have hD : |z * S - r| ≤ |z * S| :=
      (mul_err_of_div_err r S z _ hS0 hdiv).trans (mul_le_of_le_one_left (abs_nonneg _) (by norm_num))
    have t1 := abs_sub_abs_le_abs_sub r (z * S)
    rw [abs_sub_comm] at t1
    have hlt : (2 : ℚ) ^ (-1022 : ℤ) ≤ 1 / 2 := by
      rw [show (1 : ℚ) / 2 = 2 ^ (-1 : ℤ) by norm_num]
      exact zpow_le_zpow_right₀ one_le_two (by norm_num)
    linarith only [hr1, t1, hD, hlt]

end GeosModel.Precision
