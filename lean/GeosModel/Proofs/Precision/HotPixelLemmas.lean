import GeosModel.Model.Precision.HotPixel
import Mathlib.Tactic.Linarith
import Mathlib.Tactic.Ring
/-!
# `HotPixel::intersectsScaled` decides "closed segment meets half-open pixel"

Three steps.  (1) Over `ℤ`, for a segment oriented in +X the code's cascade is equivalent to the four envelope
tests together with: vertical, or horizontal, or upward with `0 < dUL ∧ dLR < 0`, or downward with
`dLL ≤ 0 ∧ 0 < dUR` (`intersectsOriented_iff_crosses`).  The corner determinants are ordered
(`dLR < dLL, dUR < dUL` upward; `dLL < dUL, dLR < dUR` downward), which turns the cascade of corner rules into
exactly these two conditions (`tree_up`, `tree_down`).  (2) Over `ℚ` the same condition says that the segment has
a point in the pixel (`meets_iff`): the four constraints on the parameter `t` are one-dimensional intervals, so
(Helly on a line) they have a common point iff they are pairwise compatible.  (3) The two conditions are the same
up to the cast.  `Props/C04.lean` restates the result with the parameter written out.
-/
namespace GeosModel.Precision

/-- the determinant whose sign is `orientIdx` -/
def cdet (px py qx qy cx cy : ℤ) : ℤ := (qx - px) * (cy - qy) - (qy - py) * (cx - qx)

theorem orientIdx_eq (px py qx qy cx cy : ℤ) : orientIdx px py qx qy cx cy = (cdet px py qx qy cx cy).sign := rfl

/-- the point of the segment at parameter `a / b` lies in the pixel `[minx,maxx) × [miny,maxy)` (scaled by `b`) -/
def MeetsZ (minx maxx miny maxy p0x p0y p1x p1y : ℤ) : Prop :=
  ∃ a b : ℤ, 0 < b ∧ 0 ≤ a ∧ a ≤ b ∧
    minx * b ≤ p0x * b + a * (p1x - p0x) ∧ p0x * b + a * (p1x - p0x) < maxx * b ∧
    miny * b ≤ p0y * b + a * (p1y - p0y) ∧ p0y * b + a * (p1y - p0y) < maxy * b

/-! ### the cascade, over `ℤ` -/

/-- the cascade of corner rules, as a function of the four orientation indices and the segment's direction -/
def cornerRules (py qy oUL oUR oLL oLR : ℤ) : Bool :=
  if oUL = 0 then (if py < qy then false else true)
  else if oUR = 0 then (if qy < py then false else true)
  else if oUL ≠ oUR then true
  else if oLL = 0 then true
  else if oLL ≠ oUL then true
  else if oLR = 0 then (if py < qy then false else true)
  else if oLL ≠ oLR then true
  else if oLR ≠ oUR then true
  else false

theorem intersectsOriented_eq (h : Px) (px py qx qy : ℤ) :
    intersectsOriented h px py qx qy =
      (if h.maxx ≤ min px qx then false
       else if max px qx < h.minx then false
       else if h.maxy ≤ min py qy then false
       else if max py qy < h.miny then false
       else if px = qx then true
       else if py = qy then true
       else cornerRules py qy (orientIdx px py qx qy h.minx h.maxy) (orientIdx px py qx qy h.maxx h.maxy)
              (orientIdx px py qx qy h.minx h.miny) (orientIdx px py qx qy h.maxx h.miny)) := rfl

theorem sign_ne_sign_of_lt {a b : ℤ} (h : a < b) : a.sign ≠ b.sign ↔ a ≤ 0 ∧ 0 ≤ b := by
  rcases lt_trichotomy a 0 with ha | rfl | ha
  · rw [Int.sign_eq_neg_one_of_neg ha, ne_comm, Ne, Int.sign_eq_neg_one_iff_neg]; omega
  · rw [Int.sign_zero, ne_comm, Ne, Int.sign_eq_zero_iff_zero]; omega
  · rw [Int.sign_eq_one_of_pos ha, Int.sign_eq_one_of_pos (by omega)]; omega

theorem sign_ne_sign_of_gt {a b : ℤ} (h : b < a) : a.sign ≠ b.sign ↔ b ≤ 0 ∧ 0 ≤ a := by
  rw [ne_comm, sign_ne_sign_of_lt h]

/-- upward segment: the cascade returns `true` iff `0 < dUL ∧ dLR < 0` -/
theorem tree_up {py qy dUL dUR dLL dLR : ℤ} (hdir : py < qy)
    (h1 : dLR < dLL) (h2 : dLL < dUL) (h3 : dLR < dUR) (h4 : dUR < dUL) :
    cornerRules py qy dUL.sign dUR.sign dLL.sign dLR.sign = true ↔ (0 < dUL ∧ dLR < 0) := by
  -- with the signs read off the order, the cascade is a propositional combination of linear conditions
  simp only [cornerRules, Int.sign_eq_zero_iff_zero, sign_ne_sign_of_gt h4, sign_ne_sign_of_lt h2,
    sign_ne_sign_of_gt h1, sign_ne_sign_of_lt h3, hdir, not_lt_of_gt hdir, if_true, if_false,
    Bool.ite_eq_true_distrib, Bool.false_eq_true, if_false_left, if_true_left, if_false_right]
  omega

/-- downward segment: the cascade returns `true` iff `dLL ≤ 0 ∧ 0 < dUR` -/
theorem tree_down {py qy dUL dUR dLL dLR : ℤ} (hdir : qy < py)
    (h1 : dLL < dLR) (h2 : dLL < dUL) (h3 : dLR < dUR) (h4 : dUL < dUR) :
    cornerRules py qy dUL.sign dUR.sign dLL.sign dLR.sign = true ↔ (dLL ≤ 0 ∧ 0 < dUR) := by
  simp only [cornerRules, Int.sign_eq_zero_iff_zero, sign_ne_sign_of_lt h4, sign_ne_sign_of_lt h2,
    sign_ne_sign_of_lt h1, sign_ne_sign_of_lt h3, hdir, not_lt_of_gt hdir, if_true, if_false,
    Bool.ite_eq_true_distrib, Bool.false_eq_true, if_false_left, if_true_left, if_false_right]
  omega

/-- moving the corner in X changes the determinant by `(py − qy)·Δx`, moving it in Y by `(qx − px)·Δy` -/
theorem cdet_sub_x (px py qx qy x1 x2 y : ℤ) :
    cdet px py qx qy x2 y - cdet px py qx qy x1 y = (py - qy) * (x2 - x1) := by unfold cdet; ring

theorem cdet_sub_y (px py qx qy x y1 y2 : ℤ) :
    cdet px py qx qy x y2 - cdet px py qx qy x y1 = (qx - px) * (y2 - y1) := by unfold cdet; ring

/-- what the body of `intersectsScaled` tests on a segment oriented in +X: the envelopes overlap and the segment is
vertical, horizontal, upward passing below-right of UL and above-left of LR, or downward passing not below LL
and below-left of UR -/
theorem intersectsOriented_iff_crosses (h : Px) (hw : h.minx < h.maxx) (hh : h.miny < h.maxy)
    (px py qx qy : ℤ) (hA : px ≤ qx) :
    intersectsOriented h px py qx qy = true ↔
      px < h.maxx ∧ h.minx ≤ qx ∧ min py qy < h.maxy ∧ h.miny ≤ max py qy ∧
        (px = qx ∨ py = qy ∨
          (py < qy ∧ 0 < cdet px py qx qy h.minx h.maxy ∧ cdet px py qx qy h.maxx h.miny < 0) ∨
          (qy < py ∧ cdet px py qx qy h.minx h.miny ≤ 0 ∧ 0 < cdet px py qx qy h.maxx h.maxy)) := by
  rw [intersectsOriented_eq, min_eq_left hA, max_eq_right hA]
  -- the four envelope tests come first on both sides
  simp only [Bool.ite_eq_true_distrib, Bool.false_eq_true, if_false_left, eq_self, if_true_left, not_le, not_lt]
  refine and_congr_right fun _ => and_congr_right fun _ => and_congr_right fun _ => and_congr_right fun _ => ?_
  by_cases c5 : px = qx
  · simp only [c5, not_true_eq_false, false_imp_iff, true_or]
  by_cases c6 : py = qy
  · simp only [c6, not_true_eq_false, false_imp_iff, true_or, or_true, imp_true_iff]
  simp only [c5, c6, not_false_eq_true, true_imp_iff, false_or, orientIdx_eq]
  have hA' : 0 < qx - px := by omega
  have hw' : 0 < h.maxx - h.minx := by omega
  have hh' : 0 < h.maxy - h.miny := by omega
  have o2 := cdet_sub_y px py qx qy h.minx h.miny h.maxy ▸ mul_pos hA' hh'
  have o3 := cdet_sub_y px py qx qy h.maxx h.miny h.maxy ▸ mul_pos hA' hh'
  rcases lt_or_gt_of_ne c6 with hB | hB
  · have o1 := cdet_sub_x px py qx qy h.maxx h.minx h.miny ▸ mul_pos_of_neg_of_neg (by omega) (by omega)
    have o4 := cdet_sub_x px py qx qy h.maxx h.minx h.maxy ▸ mul_pos_of_neg_of_neg (by omega) (by omega)
    simp only [hB, not_lt_of_gt hB, true_and, false_and, or_false]
    exact tree_up hB (sub_pos.1 o1) (sub_pos.1 o2) (sub_pos.1 o3) (sub_pos.1 o4)
  · have o1 := cdet_sub_x px py qx qy h.minx h.maxx h.miny ▸ mul_pos (by omega) hw'
    have o4 := cdet_sub_x px py qx qy h.minx h.maxx h.maxy ▸ mul_pos (by omega) hw'
    simp only [hB, not_lt_of_gt hB, true_and, false_and, false_or]
    exact tree_down hB (sub_pos.1 o1) (sub_pos.1 o2) (sub_pos.1 o3) (sub_pos.1 o4)

/-- `HotPixel::intersects(p)`: the point lies in the half-open pixel -/
theorem intersectsPt_iff (h : Px) (x y : ℤ) :
    intersectsPt h x y = true ↔ (h.minx ≤ x ∧ x < h.maxx ∧ h.miny ≤ y ∧ y < h.maxy) := by
  simp only [intersectsPt, Bool.ite_eq_true_distrib, Bool.false_eq_true, if_false_left, eq_self, and_true]
  omega

/-! ### the geometric side, over `ℚ` -/

/-- the closed segment `p0 p1` meets the half-open pixel `[minx,maxx) × [miny,maxy)` -/
def Meets (minx maxx miny maxy p0x p0y p1x p1y : ℚ) : Prop :=
  ∃ t : ℚ, 0 ≤ t ∧ t ≤ 1 ∧
    minx ≤ p0x + t * (p1x - p0x) ∧ p0x + t * (p1x - p0x) < maxx ∧
    miny ≤ p0y + t * (p1y - p0y) ∧ p0y + t * (p1y - p0y) < maxy

def cdetQ (px py qx qy cx cy : ℚ) : ℚ := (qx - px) * (cy - qy) - (qy - py) * (cx - qx)

theorem cdet_cast (px py qx qy cx cy : ℤ) :
    ((cdet px py qx qy cx cy : ℤ) : ℚ) = cdetQ px py qx qy cx cy := by
  unfold cdet cdetQ; push_cast; ring

theorem lerp_mem (u v t : ℚ) (h0 : 0 ≤ t) (h1 : t ≤ 1) :
    min u v ≤ u + t * (v - u) ∧ u + t * (v - u) ≤ max u v := by
  have a := mul_nonneg (sub_nonneg.2 h1) (sub_nonneg.2 (min_le_left u v))
  have b := mul_nonneg h0 (sub_nonneg.2 (min_le_right u v))
  have c := mul_nonneg (sub_nonneg.2 h1) (sub_nonneg.2 (le_max_left u v))
  have d := mul_nonneg h0 (sub_nonneg.2 (le_max_right u v))
  constructor <;> linarith

/-- one ordinate: the closed interval between `u` and `v` meets `[lo, hi)` as soon as the envelopes overlap -/
theorem seg1d (lo hi u v : ℚ) (hlo : lo < hi) (h1 : min u v < hi) (h2 : lo ≤ max u v) :
    ∃ t : ℚ, 0 ≤ t ∧ t ≤ 1 ∧ lo ≤ u + t * (v - u) ∧ u + t * (v - u) < hi := by
  -- from the lower end of the interval: either it is in `[lo, hi)` already, or `lo` is reached on the way up
  have up : ∀ a b : ℚ, a ≤ b → a < hi → lo ≤ b → ∃ t : ℚ, 0 ≤ t ∧ t ≤ 1 ∧ lo ≤ a + t * (b - a) ∧ a + t * (b - a) < hi := by
    intro a b hab ha hb
    rcases le_or_gt lo a with hl | hl
    · exact ⟨0, le_refl _, zero_le_one, by linarith, by linarith⟩
    · have hd : 0 < b - a := by linarith
      refine ⟨(lo - a) / (b - a), div_nonneg (by linarith) hd.le, by rw [div_le_iff₀ hd]; linarith, ?_, ?_⟩ <;>
        rw [div_mul_cancel₀ _ hd.ne'] <;> linarith
  rcases le_total u v with h | h
  · rw [min_eq_left h] at h1; rw [max_eq_right h] at h2
    exact up u v h h1 h2
  · rw [min_eq_right h] at h1; rw [max_eq_left h] at h2
    obtain ⟨t, t0, t1, a, b⟩ := up v u h h1 h2
    exact ⟨1 - t, by linarith, by linarith, by linarith, by linarith⟩

section geom
variable {minx maxx miny maxy px py qx qy : ℚ}

/-- the same points, from the other end: `t ↦ 1 − t` -/
theorem Meets.symm (h : Meets minx maxx miny maxy px py qx qy) : Meets minx maxx miny maxy qx qy px py := by
  obtain ⟨t, h0, h1, hx1, hx2, hy1, hy2⟩ := h
  exact ⟨1 - t, by linarith, by linarith, by linarith, by linarith, by linarith, by linarith⟩

theorem meets_env (hm : Meets minx maxx miny maxy px py qx qy) :
    min px qx < maxx ∧ minx ≤ max px qx ∧ min py qy < maxy ∧ miny ≤ max py qy := by
  obtain ⟨t, h0, h1, hx1, hx2, hy1, hy2⟩ := hm
  obtain ⟨x1, x2⟩ := lerp_mem px qx t h0 h1
  obtain ⟨y1, y2⟩ := lerp_mem py qy t h0 h1
  exact ⟨by linarith, by linarith, by linarith, by linarith⟩

/-- vertical segment (or a single point): only the envelopes matter -/
theorem meets_vertical (hx : px = qx) (hh : miny < maxy) (e1 : px < maxx) (e2 : minx ≤ px)
    (e3 : min py qy < maxy) (e4 : miny ≤ max py qy) : Meets minx maxx miny maxy px py qx qy := by
  obtain ⟨t, h0, h1, hy1, hy2⟩ := seg1d miny maxy py qy hh e3 e4
  rw [← hx, Meets]
  exact ⟨t, h0, h1, by linarith, by linarith, hy1, hy2⟩

theorem meets_horizontal (hy : py = qy) (hw : minx < maxx) (e1 : min px qx < maxx) (e2 : minx ≤ max px qx)
    (e3 : py < maxy) (e4 : miny ≤ py) : Meets minx maxx miny maxy px py qx qy := by
  obtain ⟨t, h0, h1, hx1, hx2⟩ := seg1d minx maxx px qx hw e1 e2
  rw [← hy, Meets]
  exact ⟨t, h0, h1, hx1, hx2, by linarith, by linarith⟩

/-- three closed lower bounds, one closed and two open upper bounds -/
private theorem helly_up (l1 l2 l3 u1 uo1 uo2 : ℚ)
    (a1 : l1 ≤ u1) (a2 : l2 ≤ u1) (a3 : l3 ≤ u1)
    (b1 : l1 < uo1) (b2 : l2 < uo1) (b3 : l3 < uo1)
    (c1 : l1 < uo2) (c2 : l2 < uo2) (c3 : l3 < uo2) :
    ∃ t, l1 ≤ t ∧ l2 ≤ t ∧ l3 ≤ t ∧ t ≤ u1 ∧ t < uo1 ∧ t < uo2 :=
  ⟨max (max l1 l2) l3, le_trans (le_max_left _ _) (le_max_left _ _), le_trans (le_max_right _ _) (le_max_left _ _),
    le_max_right _ _, max_le (max_le a1 a2) a3, max_lt (max_lt b1 b2) b3, max_lt (max_lt c1 c2) c3⟩

/-- two closed and one open lower bound, two closed and one open upper bound -/
private theorem helly_down (l1 l2 lo u1 u2 uo : ℚ)
    (a1 : l1 ≤ u1) (a2 : l1 ≤ u2) (a3 : l2 ≤ u1) (a4 : l2 ≤ u2)
    (b1 : l1 < uo) (b2 : l2 < uo) (c1 : lo < u1) (c2 : lo < u2) (c3 : lo < uo) :
    ∃ t, l1 ≤ t ∧ l2 ≤ t ∧ lo < t ∧ t ≤ u1 ∧ t ≤ u2 ∧ t < uo := by
  have hm : lo < min (min u1 u2) uo := lt_min (lt_min c1 c2) c3
  have m1 : min (min u1 u2) uo ≤ u1 := le_trans (min_le_left _ _) (min_le_left _ _)
  have m2 : min (min u1 u2) uo ≤ u2 := le_trans (min_le_left _ _) (min_le_right _ _)
  have m3 : min (min u1 u2) uo ≤ uo := min_le_right _ _
  refine ⟨max (max l1 l2) ((lo + min (min u1 u2) uo) / 2), le_trans (le_max_left _ _) (le_max_left _ _),
    le_trans (le_max_right _ _) (le_max_left _ _), lt_of_lt_of_le (by linarith) (le_max_right _ _),
    max_le (max_le a1 a3) (by linarith), max_le (max_le a2 a4) (by linarith), max_lt (max_lt b1 b2) (by linarith)⟩

/-- upward segment oriented in +X: a meeting segment passes strictly below-right of UL and strictly above-left of LR -/
theorem meets_up_dets (hA : px < qx) (hB : py < qy) (hm : Meets minx maxx miny maxy px py qx qy) :
    0 < cdetQ px py qx qy minx maxy ∧ cdetQ px py qx qy maxx miny < 0 := by
  obtain ⟨t, h0, h1, hx1, hx2, hy1, hy2⟩ := hm
  have k1 := mul_pos (sub_pos.2 hA) (sub_pos.2 hy2)
  have k2 := mul_nonneg (sub_pos.2 hB).le (sub_nonneg.2 hx1)
  have k3 := mul_nonneg (sub_pos.2 hA).le (sub_nonneg.2 hy1)
  have k4 := mul_pos (sub_pos.2 hB) (sub_pos.2 hx2)
  unfold cdetQ
  constructor <;> linarith

/-- …and these two conditions, with the envelopes, are enough -/
theorem meets_of_up (hA : px < qx) (hB : py < qy) (hw : minx < maxx) (hh : miny < maxy)
    (e1 : px < maxx) (e2 : minx ≤ qx) (e3 : py < maxy) (e4 : miny ≤ qy)
    (dUL : 0 < cdetQ px py qx qy minx maxy) (dLR : cdetQ px py qx qy maxx miny < 0) :
    Meets minx maxx miny maxy px py qx qy := by
  have hA' : 0 < qx - px := sub_pos.2 hA
  have hB' : 0 < qy - py := sub_pos.2 hB
  unfold cdetQ at dUL dLR
  -- t ≥ 0, t ≥ (minx-px)/A, t ≥ (miny-py)/B, t ≤ 1, t < (maxx-px)/A, t < (maxy-py)/B
  obtain ⟨t, t1, t2, t3, t4, t5, t6⟩ := helly_up 0 ((minx - px) / (qx - px)) ((miny - py) / (qy - py)) 1
    ((maxx - px) / (qx - px)) ((maxy - py) / (qy - py))
    zero_le_one (by rw [div_le_iff₀ hA']; linarith) (by rw [div_le_iff₀ hB']; linarith)
    (by rw [lt_div_iff₀ hA']; linarith) (by rw [div_lt_div_iff_of_pos_right hA']; linarith)
    (by rw [div_lt_div_iff₀ hB' hA']; linarith)
    (by rw [lt_div_iff₀ hB']; linarith) (by rw [div_lt_div_iff₀ hA' hB']; linarith)
    (by rw [div_lt_div_iff_of_pos_right hB']; linarith)
  rw [div_le_iff₀ hA'] at t2
  rw [div_le_iff₀ hB'] at t3
  rw [lt_div_iff₀ hA'] at t5
  rw [lt_div_iff₀ hB'] at t6
  exact ⟨t, t1, t4, by linarith, by linarith, by linarith, by linarith⟩

/-- downward segment oriented in +X: a meeting segment passes not below LL and strictly below-left of UR -/
theorem meets_down_dets (hA : px < qx) (hB : qy < py) (hm : Meets minx maxx miny maxy px py qx qy) :
    cdetQ px py qx qy minx miny ≤ 0 ∧ 0 < cdetQ px py qx qy maxx maxy := by
  obtain ⟨t, h0, h1, hx1, hx2, hy1, hy2⟩ := hm
  have k1 := mul_nonneg (sub_pos.2 hA).le (sub_nonneg.2 hy1)
  have k2 := mul_nonneg (sub_pos.2 hB).le (sub_nonneg.2 hx1)
  have k3 := mul_pos (sub_pos.2 hA) (sub_pos.2 hy2)
  have k4 := mul_pos (sub_pos.2 hB) (sub_pos.2 hx2)
  unfold cdetQ
  constructor <;> linarith

theorem meets_of_down (hA : px < qx) (hB : qy < py) (hw : minx < maxx) (hh : miny < maxy)
    (e1 : px < maxx) (e2 : minx ≤ qx) (e3 : qy < maxy) (e4 : miny ≤ py)
    (dLL : cdetQ px py qx qy minx miny ≤ 0) (dUR : 0 < cdetQ px py qx qy maxx maxy) :
    Meets minx maxx miny maxy px py qx qy := by
  have hA' : 0 < qx - px := sub_pos.2 hA
  have hB' : 0 < py - qy := sub_pos.2 hB
  unfold cdetQ at dLL dUR
  -- t ≥ 0, t ≥ (minx-px)/A, t > (py-maxy)/(py-qy), t ≤ 1, t ≤ (py-miny)/(py-qy), t < (maxx-px)/A
  obtain ⟨t, t1, t2, t3, t4, t5, t6⟩ := helly_down 0 ((minx - px) / (qx - px)) ((py - maxy) / (py - qy)) 1
    ((py - miny) / (py - qy)) ((maxx - px) / (qx - px))
    zero_le_one (by rw [le_div_iff₀ hB']; linarith) (by rw [div_le_iff₀ hA']; linarith)
    (by rw [div_le_div_iff₀ hA' hB']; linarith)
    (by rw [lt_div_iff₀ hA']; linarith) (by rw [div_lt_div_iff_of_pos_right hA']; linarith)
    (by rw [div_lt_iff₀ hB']; linarith) (by rw [div_lt_div_iff_of_pos_right hB']; linarith)
    (by rw [div_lt_div_iff₀ hB' hA']; linarith)
  rw [div_le_iff₀ hA'] at t2
  rw [div_lt_iff₀ hB'] at t3
  rw [le_div_iff₀ hB'] at t5
  rw [lt_div_iff₀ hA'] at t6
  exact ⟨t, t1, t4, by linarith, by linarith, by linarith, by linarith⟩

/-- a segment oriented in +X meets the pixel iff the envelopes overlap and it is vertical, horizontal, or passes
between the two corners that matter for its direction -/
theorem meets_iff (hA : px ≤ qx) (hw : minx < maxx) (hh : miny < maxy) :
    Meets minx maxx miny maxy px py qx qy ↔
      px < maxx ∧ minx ≤ qx ∧ min py qy < maxy ∧ miny ≤ max py qy ∧
        (px = qx ∨ py = qy ∨
          (py < qy ∧ 0 < cdetQ px py qx qy minx maxy ∧ cdetQ px py qx qy maxx miny < 0) ∨
          (qy < py ∧ cdetQ px py qx qy minx miny ≤ 0 ∧ 0 < cdetQ px py qx qy maxx maxy)) := by
  constructor
  · intro hm
    have he := meets_env hm
    rw [min_eq_left hA, max_eq_right hA] at he
    refine ⟨he.1, he.2.1, he.2.2.1, he.2.2.2, ?_⟩
    rcases hA.eq_or_lt with hx | hx
    · exact .inl hx
    rcases lt_trichotomy py qy with hy | hy | hy
    · exact .inr (.inr (.inl ⟨hy, meets_up_dets hx hy hm⟩))
    · exact .inr (.inl hy)
    · exact .inr (.inr (.inr ⟨hy, meets_down_dets hx hy hm⟩))
  · rintro ⟨e1, e2, e3, e4, hc⟩
    rcases hA.eq_or_lt with hx | hx
    · exact meets_vertical hx hh e1 (hx ▸ e2) e3 e4
    rcases hc with hc | hy | ⟨hy, d1, d2⟩ | ⟨hy, d1, d2⟩
    · exact absurd hc hx.ne
    · rw [hy, min_self] at e3; rw [hy, max_self] at e4
      exact meets_horizontal hy hw (by rwa [min_eq_left hA]) (by rwa [max_eq_right hA]) (hy ▸ e3) (hy ▸ e4)
    · rw [min_eq_left hy.le] at e3; rw [max_eq_right hy.le] at e4
      exact meets_of_up hx hy hw hh e1 e2 e3 e4 d1 d2
    · rw [min_eq_right hy.le] at e3; rw [max_eq_left hy.le] at e4
      exact meets_of_down hx hy hw hh e1 e2 e3 e4 d1 d2

end geom

theorem intersectsOriented_iff (h : Px) (hw : h.minx < h.maxx) (hh : h.miny < h.maxy)
    (px py qx qy : ℤ) (hA : px ≤ qx) :
    intersectsOriented h px py qx qy = true ↔
      Meets h.minx h.maxx h.miny h.maxy px py qx qy := by
  rw [intersectsOriented_iff_crosses h hw hh px py qx qy hA,
    meets_iff (Int.cast_le.2 hA) (Int.cast_lt.2 hw) (Int.cast_lt.2 hh)]
  simp only [← cdet_cast, ← Int.cast_min, ← Int.cast_max, Int.cast_lt, Int.cast_le, Int.cast_inj, Int.cast_pos,
    Int.cast_lt_zero, Int.cast_nonpos]

/-- `HotPixel::intersectsScaled` decides whether the closed segment meets the half-open pixel -/
theorem intersectsScaled_iff (h : Px) (hw : h.minx < h.maxx) (hh : h.miny < h.maxy) (p0x p0y p1x p1y : ℤ) :
    intersectsScaled h p0x p0y p1x p1y = true ↔
      Meets h.minx h.maxx h.miny h.maxy p0x p0y p1x p1y := by
  unfold intersectsScaled
  split
  · rename_i hs
    rw [intersectsOriented_iff h hw hh p1x p1y p0x p0y (le_of_lt hs)]
    exact ⟨Meets.symm, Meets.symm⟩
  · rename_i hs
    exact intersectsOriented_iff h hw hh p0x p0y p1x p1y (not_lt.mp hs)

end GeosModel.Precision
