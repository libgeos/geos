import GeosModel.Model.Precision.CxxVal
import GeosModel.Proofs.Precision.RoundLemmas
/-!
# Unfolding lemmas for regenerated code instantiated at `Rat` and at `F64.Val` (used by Props/C04GenRound.lean)
-/
namespace GeosModel.Precision
open GeosModel
open GeosModel.F64 (Val)

@[simp] theorem rat_abs (a : Rat) : Cxx.Ring.abs a = absQ a := rfl
theorem rat_ofDec (m e : Int) : (Cxx.Field.ofDec m e : Rat) = (m : Rat) * Cxx.pow10 e := rfl
theorem pow10_neg_one : Cxx.pow10 (-1) = 1 / 10 := by decide +kernel
@[simp] theorem rat_dec_half : (Cxx.Field.ofDec 5 (-1) : Rat) = half := by decide +kernel
@[simp] theorem rat_dec_zero (e : Int) : (Cxx.Field.ofDec 0 e : Rat) = 0 := by
  show ((0 : Int) : Rat) * Cxx.pow10 e = 0
  simp

@[simp] theorem val_lt (a b : Val) : Cxx.Ord.lt a b = vLt a b := rfl
@[simp] theorem val_le (a b : Val) : Cxx.Ord.le a b = vLe a b := rfl
@[simp] theorem val_eq (a b : Val) : Cxx.Ord.eq a b = vFeq a b := rfl
@[simp] theorem val_add (a b : Val) : Cxx.Ring.add a b = addF a b := rfl
@[simp] theorem val_sub (a b : Val) : Cxx.Ring.sub a b = subF a b := rfl
@[simp] theorem val_mul (a b : Val) : Cxx.Ring.mul a b = mulF a b := rfl
@[simp] theorem val_neg (a : Val) : Cxx.Ring.neg a = vNegate a := rfl
@[simp] theorem val_abs (a : Val) : Cxx.Ring.abs a = vFabs a := rfl
@[simp] theorem val_div (a b : Val) : Cxx.Field.div a b = divF a b := rfl
/-- the literals of `PrecisionModel.cpp`: `0`, `0.0`, `1`, `1.0` and `GRIDSIZE_INTEGER_TOLERANCE = 1e-5` -/
@[simp] theorem val_zero : (Cxx.Ring.ofInt 0 : Val) = zero := by decide +kernel
@[simp] theorem val_one : (Cxx.Ring.ofInt 1 : Val) = one := by decide +kernel
@[simp] theorem val_dec_zero (e : Int) : (Cxx.Field.ofDec 0 e : Val) = zero := by
  show roundNE false (((0 : Int) : Rat) * Cxx.pow10 e) = zero
  have : ((0 : Int) : Rat) * Cxx.pow10 e = 0 := by simp
  rw [this]; decide +kernel
@[simp] theorem val_dec_1em5 : (Cxx.Field.ofDec 1 (-5) : Val) = tol1em5 := by decide +kernel

end GeosModel.Precision
