import GeosModel.Proofs.Precision.RoundLemmas
/-!
# `sym_round` against `java_math_round`

`symRound x = javaRound x` for `x ≥ 0`, `= −javaRound(−x)` for `x < 0` (round half AWAY from zero); the two rounding
functions of `src/util/math.cpp` differ exactly at the negative ties `k + ½ < 0`, where `sym_round` is one less.
-/
namespace GeosModel.Precision

theorem symRound_eq (x : ℚ) : symRound x = if 0 ≤ x then javaRound x else -javaRound (-x) := by
  by_cases hx : 0 ≤ x
  · simp only [hx, if_true]
    unfold symRound javaRound
    simp only [hx, if_true]
  · simp only [hx, if_false]
    have hx' : x < 0 := not_le.mp hx
    have hnx : 0 ≤ -x := by linarith
    have hfl := Int.floor_le x
    have hcl := Int.le_ceil x
    have hcl' := Int.ceil_lt_add_one x
    unfold symRound javaRound modfInt
    simp only [hx, hnx, if_true, if_false, floor_eq, ceilQ_eq, absQ_eq, half_eq, Int.floor_neg, Int.ceil_neg]
    have h1 : |x - ((⌈x⌉ : ℤ) : ℚ)| = ⌈x⌉ - x := by rw [abs_of_nonpos (by linarith)]; ring
    have h2 : |-x - ((-⌈x⌉ : ℤ) : ℚ)| = ⌈x⌉ - x := by
      push_cast
      rw [abs_of_nonneg (by linarith)]; ring
    rw [h1, h2]
    split
    · simp
    · split
      · simp
      · ring

/-- `javaRound x = ⌊x + ½⌋`, `symRound x = ⌈x − ½⌉` for negative `x` -/
theorem symRound_neg_eq_ceil (x : ℚ) (hx : x < 0) : symRound x = ⌈x - 1 / 2⌉ := by
  rw [symRound_eq, if_neg (not_le.mpr hx), javaRound_eq_floor, ← Int.ceil_neg]
  congr 1; ring

/-- the two rounding functions agree except at negative ties, where `sym_round` is one less: their branches are the
same but the last one, which is taken when the distance to `⌈x⌉` is exactly ½ -/
theorem symRound_vs_javaRound (x : ℚ) :
    symRound x = javaRound x ∨ (x < 0 ∧ (∃ k : ℤ, x = (k : ℚ) + 1 / 2) ∧ symRound x = javaRound x - 1) := by
  simp only [symRound, javaRound]
  by_cases hx : 0 ≤ x
  · rw [if_pos hx, if_pos hx]; exact .inl rfl
  rw [if_neg hx, if_neg hx]
  by_cases h1 : absQ (x - modfInt x) < half
  · rw [if_pos h1, if_pos h1]; exact .inl rfl
  by_cases h2 : half < absQ (x - modfInt x)
  · rw [if_neg h1, if_pos h2, if_neg h1, if_pos h2]; exact .inl rfl
  rw [if_neg h1, if_neg h2, if_neg h1, if_neg h2]
  refine .inr ⟨not_le.1 hx, ⟨⌈x⌉ - 1, ?_⟩, rfl⟩
  have hf : absQ (x - modfInt x) = half := le_antisymm (not_lt.1 h2) (not_lt.1 h1)
  rw [modfInt, if_neg hx, ceilQ_eq, absQ_eq, half_eq, abs_of_nonpos (sub_nonpos.2 (Int.le_ceil x))] at hf
  push_cast
  linarith

theorem symRound_tie (k : ℤ) : symRound ((k : ℚ) + 1 / 2) = if 0 ≤ k then k + 1 else k := by
  by_cases hk : 0 ≤ k
  · have : (0 : ℚ) ≤ (k : ℚ) + 1 / 2 := by
      have : (0 : ℚ) ≤ k := by exact_mod_cast hk
      linarith
    rw [symRound_eq, if_pos this, if_pos hk, javaRound_tie]
  · have hk' : k ≤ -1 := by omega
    have : (k : ℚ) + 1 / 2 < 0 := by
      have : (k : ℚ) ≤ -1 := by exact_mod_cast hk'
      linarith
    rw [symRound_eq, if_neg (not_le.mpr this), if_neg hk]
    have e : -((k : ℚ) + 1 / 2) = ((-k - 1 : ℤ) : ℚ) + 1 / 2 := by push_cast; ring
    rw [e, javaRound_tie]; ring

end GeosModel.Precision
