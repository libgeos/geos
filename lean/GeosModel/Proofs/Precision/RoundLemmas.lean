import GeosModel.Model.Precision.Round
import Mathlib.Data.Rat.Floor
import Mathlib.Tactic.Linarith
import Mathlib.Tactic.Ring
import Mathlib.Tactic.FieldSimp
/-!
# `javaRound` and `makePrecise` over exact rationals

`javaRound x = ⌊x + 1/2⌋` although the code never computes `x + 0.5`; hence nearest integer, ties toward +∞,
identity on integers, and `makePrecise` is idempotent in both branches.
-/
namespace GeosModel.Precision

theorem floor_eq (x : ℚ) : x.floor = ⌊x⌋ := rfl

theorem ceilQ_eq (x : ℚ) : ceilQ x = ⌈x⌉ := by
  unfold ceilQ
  rw [floor_eq, Int.floor_neg, neg_neg]

theorem half_eq : half = (1 / 2 : ℚ) := rfl

theorem absQ_eq (x : ℚ) : absQ x = |x| := by
  unfold absQ
  split
  · rw [abs_of_neg (by assumption)]
  · rw [abs_of_nonneg (by linarith)]

/-- in each branch of `java_math_round` the value `r` returned satisfies `r ≤ x + ½ < r + 1`, by the bounds of floor
and ceiling and `⌈x⌉ ≤ ⌊x⌋ + 1` -/
theorem javaRound_bounds (x : ℚ) : (javaRound x : ℚ) ≤ x + 1 / 2 ∧ x + 1 / 2 < javaRound x + 1 := by
  have hfl := Int.floor_le x
  have hfl' := Int.lt_floor_add_one x
  have hcl := Int.le_ceil x
  have hcf : (⌈x⌉ : ℚ) ≤ ⌊x⌋ + 1 := by exact_mod_cast Int.ceil_le_floor_add_one x
  unfold javaRound modfInt
  simp only [floor_eq, ceilQ_eq, absQ_eq, half_eq]
  by_cases hx : 0 ≤ x
  · rw [if_pos hx, if_pos hx, abs_of_nonneg (sub_nonneg.2 hfl)]
    by_cases h1 : x - (⌊x⌋ : ℚ) < 1 / 2
    · rw [if_pos h1]; exact ⟨by linarith only [hfl], by linarith only [h1]⟩
    by_cases h2 : 1 / 2 < x - (⌊x⌋ : ℚ)
    · rw [if_neg h1, if_pos h2]; exact ⟨by linarith only [hcf, h2], by linarith only [hcl]⟩
    · rw [if_neg h1, if_neg h2]; push_cast; exact ⟨by linarith only [h1], by linarith only [hfl']⟩
  · rw [if_neg hx, if_neg hx, abs_of_nonpos (sub_nonpos.2 hcl), neg_sub]
    by_cases h1 : (⌈x⌉ : ℚ) - x < 1 / 2
    · rw [if_pos h1]; exact ⟨by linarith only [h1], by linarith only [hcl]⟩
    by_cases h2 : 1 / 2 < (⌈x⌉ : ℚ) - x
    · rw [if_neg h1, if_pos h2]; exact ⟨by linarith only [hfl], by linarith only [hcf, h2]⟩
    · rw [if_neg h1, if_neg h2]; exact ⟨by linarith only [h2], by linarith only [hcl]⟩

theorem javaRound_eq_floor (x : ℚ) : javaRound x = ⌊x + 1 / 2⌋ := (Int.floor_eq_iff.2 (javaRound_bounds x)).symm

/-- `java_math_round` is Mathlib's `round` (half up) -/
theorem javaRound_eq_round (x : ℚ) : javaRound x = round x := by rw [javaRound_eq_floor, round_eq]

theorem javaRound_abs_le (x : ℚ) : |(javaRound x : ℚ) - x| ≤ 1 / 2 := by
  rw [javaRound_eq_round, abs_sub_comm]; exact abs_sub_round x

/-- the result lies in `(x − ½, x + ½]`: exact ties `x = k + ½` go to `k + 1`, i.e. toward +∞ (−2.5 ↦ −2) -/
theorem javaRound_mem (x : ℚ) : x - 1 / 2 < (javaRound x : ℚ) ∧ (javaRound x : ℚ) ≤ x + 1 / 2 :=
  ⟨by linarith [(javaRound_bounds x).2], (javaRound_bounds x).1⟩

theorem javaRound_closest (x : ℚ) (k : ℤ) : |(javaRound x : ℚ) - x| ≤ |(k : ℚ) - x| := by
  rw [javaRound_eq_round, abs_sub_comm, abs_sub_comm (k : ℚ)]; exact round_le x k

theorem javaRound_tie (k : ℤ) : javaRound ((k : ℚ) + 1 / 2) = k + 1 := by
  rw [javaRound_eq_floor, Int.floor_eq_iff]; push_cast; constructor <;> linarith

theorem javaRound_intCast (k : ℤ) : javaRound (k : ℚ) = k := by
  rw [javaRound_eq_round, round_intCast]

theorem makePreciseScale_idem (s x : ℚ) (hs : s ≠ 0) :
    makePreciseScale s (makePreciseScale s x) = makePreciseScale s x := by
  unfold makePreciseScale
  rw [div_mul_cancel₀ _ hs, javaRound_intCast]

/-- the grid branch is the scale branch with scale `1/gridSize` -/
theorem makePreciseGrid_eq_scale (g x : ℚ) : makePreciseGrid g x = makePreciseScale g⁻¹ x := by
  unfold makePreciseGrid makePreciseScale
  rw [div_inv_eq_mul, div_eq_mul_inv]

theorem makePreciseGrid_idem (g x : ℚ) (hg : g ≠ 0) :
    makePreciseGrid g (makePreciseGrid g x) = makePreciseGrid g x := by
  rw [makePreciseGrid_eq_scale, makePreciseGrid_eq_scale, makePreciseScale_idem _ _ (inv_ne_zero hg)]

theorem makePreciseQ_idem (s g x : ℚ) :
    makePreciseQ s g (makePreciseQ s g x) = makePreciseQ s g x := by
  unfold makePreciseQ
  split
  · exact makePreciseGrid_idem g x (by linarith)
  · split
    · rename_i hs; exact makePreciseScale_idem s x hs
    · rfl

/-- distances to `x` of the multiples of `1/s` are the distances to `x·s` of the integers, divided by `s` -/
theorem abs_div_sub (s a x : ℚ) (hs : 0 < s) : |a / s - x| = |a - x * s| / s := by
  rw [← abs_of_pos hs, ← abs_div, abs_of_pos hs, sub_div, mul_div_cancel_right₀ _ hs.ne']

/-- distance to the chosen grid value is at most half a grid cell (scale branch, `s > 0`) -/
theorem makePreciseScale_near (s x : ℚ) (hs : 0 < s) : |makePreciseScale s x - x| ≤ 1 / (2 * s) := by
  rw [makePreciseScale, abs_div_sub _ _ _ hs, ← div_div]
  exact div_le_div_of_nonneg_right (javaRound_abs_le _) hs.le

/-- no grid value `k / s` is closer to `x` than `makePreciseScale s x` -/
theorem makePreciseScale_closest (s x : ℚ) (hs : 0 < s) (k : ℤ) :
    |makePreciseScale s x - x| ≤ |(k : ℚ) / s - x| := by
  rw [makePreciseScale, abs_div_sub _ _ _ hs, abs_div_sub _ _ _ hs]
  exact div_le_div_of_nonneg_right (javaRound_closest _ k) hs.le

theorem makePreciseGrid_near (g x : ℚ) (hg : 0 < g) : |makePreciseGrid g x - x| ≤ g / 2 := by
  rw [makePreciseGrid_eq_scale]
  exact (makePreciseScale_near g⁻¹ x (inv_pos.2 hg)).trans_eq (by rw [one_div, mul_inv, inv_inv, mul_comm, div_eq_mul_inv])

theorem makePreciseGrid_closest (g x : ℚ) (hg : 0 < g) (k : ℤ) :
    |makePreciseGrid g x - x| ≤ |(k : ℚ) * g - x| := by
  rw [makePreciseGrid_eq_scale, ← div_inv_eq_mul]
  exact makePreciseScale_closest g⁻¹ x (inv_pos.2 hg) k

end GeosModel.Precision
