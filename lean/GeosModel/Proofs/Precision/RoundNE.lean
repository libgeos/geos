import GeosModel.Model.Precision.Round
import Mathlib.Data.Rat.Floor
import Mathlib.Tactic.Linarith
import Mathlib.Tactic.Ring
import Mathlib.Tactic.FieldSimp
import Mathlib.Tactic.Positivity
/-!
# `roundMag` (the executable round-to-nearest-even of the model) obeys the standard model of rounding

For `a/d > 0`, if `roundMag a d = some (m, e)` with a full mantissa `2^52 ≤ m`, then
`|m·2^e − a/d| ≤ 2^-53 · (m·2^e)`: relative error at most `2^-53` (relative to the rounded value).
Only two facts are used: `divRoundEven num den` is within ½ of `num/den`, and `num/den = (a/d) / 2^e` for the
exponent the function chose (whatever it chose — nothing about `Nat.log2` is needed).
-/
namespace GeosModel.Precision

/-- `divRoundEven num den` times `den` is within `den/2` of `num`; over `ℕ`, with `num / den * den` as an atom -/
theorem divRoundEven_mul (num den : ℕ) (hden : 0 < den) :
    2 * num ≤ 2 * (divRoundEven num den * den) + den ∧ 2 * (divRoundEven num den * den) ≤ 2 * num + den := by
  have h := Nat.div_add_mod' num den
  have hr := Nat.mod_lt num hden
  unfold divRoundEven
  simp only
  split
  · rw [Nat.add_mul, one_mul]; omega
  split
  · rw [Nat.add_mul]
    rcases Nat.mod_two_eq_zero_or_one (num / den) with h2 | h2 <;> rw [h2]
    · rw [zero_mul]; omega
    · rw [one_mul]; omega
  · omega

theorem divRoundEven_err (num den : ℕ) (hden : 0 < den) :
    |(divRoundEven num den : ℚ) - (num : ℚ) / den| ≤ 1 / 2 := by
  have hd : (0 : ℚ) < den := by exact_mod_cast hden
  have h : 2 * (num : ℚ) ≤ 2 * (divRoundEven num den * den) + den ∧ 2 * ((divRoundEven num den : ℚ) * den) ≤ 2 * num + den := by
    exact_mod_cast divRoundEven_mul num den hden
  rw [← mul_div_cancel_right₀ (divRoundEven num den : ℚ) hd.ne', ← sub_div, abs_div, abs_of_pos hd, div_le_iff₀ hd, abs_le]
  constructor <;> linarith [h.1, h.2]

theorem pow2_cast_of_nonneg (e : ℤ) (he : 0 ≤ e) : ((pow2 e.toNat : ℕ) : ℚ) = 2 ^ e := by
  unfold pow2; push_cast
  rw [← zpow_natCast, Int.toNat_of_nonneg he]

/-- the mantissa `roundMag` computes for the exponent `e`, before renormalisation -/
def mant (a d : ℕ) (e : ℤ) : ℕ :=
  if 0 ≤ e then divRoundEven a (d * pow2 e.toNat) else divRoundEven (a * pow2 (-e).toNat) d

/-- it is `divRoundEven` of a fraction whose value is `(a/d) / 2^e` -/
theorem mant_eq (a d : ℕ) (hd : 0 < d) (e : ℤ) :
    ∃ num den : ℕ, 0 < den ∧ mant a d e = divRoundEven num den ∧ (num : ℚ) / den = (a : ℚ) / d / 2 ^ e := by
  unfold mant
  split
  · rename_i he
    refine ⟨a, d * pow2 e.toNat, Nat.mul_pos hd (by unfold pow2; positivity), rfl, ?_⟩
    rw [Nat.cast_mul, pow2_cast_of_nonneg e he, div_div]
  · rename_i he
    refine ⟨a * pow2 (-e).toNat, d, hd, rfl, ?_⟩
    rw [Nat.cast_mul, pow2_cast_of_nonneg (-e) (by omega), zpow_neg, mul_div_right_comm, div_eq_mul_inv _ (2 ^ e)]

theorem mant_err (a d : ℕ) (hd : 0 < d) (e : ℤ) : |(mant a d e : ℚ) * 2 ^ e - (a : ℚ) / d| ≤ 2 ^ e / 2 := by
  have h2e : (0 : ℚ) < 2 ^ e := zpow_pos (by norm_num) e
  obtain ⟨num, den, hden, hm, hv⟩ := mant_eq a d hd e
  have h := divRoundEven_err num den hden
  rw [hm, ← div_mul_cancel₀ ((a : ℚ) / d) h2e.ne', ← hv, ← sub_mul, abs_mul, abs_of_pos h2e]
  exact (mul_le_mul_of_nonneg_right h h2e.le).trans_eq (by ring)

/-- the two ways `roundMag` returns a value: the mantissa carried into the next binade, or kept -/
theorem roundMag_some (a d m : ℕ) (e : ℤ) (ha : 0 < a) (h : roundMag a d = some (m, e)) :
    (mant a d (binadeExp a d) = pow2 53 ∧ m = pow2 52 ∧ e = binadeExp a d + 1) ∨
    (mant a d (binadeExp a d) ≠ pow2 53 ∧ m = mant a d (binadeExp a d) ∧ e = binadeExp a d) := by
  unfold roundMag at h
  rw [if_neg ha.ne'] at h
  simp only at h
  by_cases hc : mant a d (binadeExp a d) = pow2 53
  · refine .inl ⟨hc, ?_⟩
    unfold mant at hc
    rw [if_pos hc] at h
    simp only at h
    split at h
    · cases h
    · injection h with h; injection h with h1 h2
      exact ⟨h1.symm, h2.symm⟩
  · refine .inr ⟨hc, ?_⟩
    unfold mant at hc ⊢
    rw [if_neg hc] at h
    simp only at h
    split at h
    · cases h
    · injection h with h; injection h with h1 h2
      exact ⟨h1.symm, h2.symm⟩

theorem roundMag_rel_err (a d m : ℕ) (e : ℤ) (ha : 0 < a) (hd : 0 < d)
    (h : roundMag a d = some (m, e)) (hn : 2 ^ 52 ≤ m) :
    |(m : ℚ) * 2 ^ e - (a : ℚ) / d| ≤ (2 : ℚ)⁻¹ ^ 53 * ((m : ℚ) * 2 ^ e) := by
  have hm := mant_err a d hd (binadeExp a d)
  have h2e : (0 : ℚ) < 2 ^ binadeExp a d := zpow_pos (by norm_num) _
  rcases roundMag_some a d m e ha h with ⟨hc, rfl, rfl⟩ | ⟨_, rfl, rfl⟩
  · -- `2^52 · 2^(e+1)` is the mantissa `2^53` times `2^e`
    have hv : ((pow2 52 : ℕ) : ℚ) * 2 ^ (binadeExp a d + 1) = (2 : ℚ) ^ 53 * 2 ^ binadeExp a d := by
      rw [zpow_add₀ (by norm_num : (2 : ℚ) ≠ 0)]; unfold pow2; push_cast; ring
    have hp : ((pow2 53 : ℕ) : ℚ) = 2 ^ 53 := by unfold pow2; push_cast; rfl
    rw [hc, hp] at hm
    rw [hv]
    rw [← mul_assoc, ← mul_pow, inv_mul_cancel₀ two_ne_zero, one_pow, one_mul]
    exact hm.trans (half_le_self h2e.le)
  · calc _ ≤ 2 ^ binadeExp a d / 2 := hm
      _ = (2 : ℚ)⁻¹ ^ 53 * (2 ^ 52 * 2 ^ binadeExp a d) := by ring
      _ ≤ _ := mul_le_mul_of_nonneg_left
          (mul_le_mul_of_nonneg_right (by exact_mod_cast hn) h2e.le) (by positivity)

end GeosModel.Precision
