import GeosModel.Proofs.Precision.RoundLemmas
import Mathlib.Tactic.Positivity
/-!
# Idempotence of the *floating* `makePrecise`, from the relative-error law of rounding

`rnd` stands for "round the exact result to binary64" (`roundNE`).  The only property used is the standard
model `|rnd q − q| ≤ u·|q|` with `u = 2⁻⁵³`, and it is needed at two specific points only (the division and the
multiplication of the *second* application), so no claim is made about subnormals or overflow.  The scale (or
grid size) may be ANY positive number — no power of two / ten is required — as long as the rounded integer
`r = javaRound (rnd (x·s))` satisfies `|r| ≤ 2⁵⁰`.
-/
namespace GeosModel.Precision

/-- the floating composition `round(val * scale) / scale` with rounding function `rnd` -/
def mpScale (rnd : ℚ → ℚ) (s x : ℚ) : ℚ := rnd ((javaRound (rnd (x * s)) : ℚ) / s)

/-- the floating composition `round(val / gridSize) * gridSize` -/
def mpGrid (rnd : ℚ → ℚ) (g x : ℚ) : ℚ := rnd ((javaRound (rnd (x / g)) : ℚ) * g)

theorem javaRound_eq_of_near (y : ℚ) (r : ℤ) (h : |y - r| < 1 / 2) : javaRound y = r := by
  rw [javaRound_eq_floor, Int.floor_eq_iff]
  rw [abs_lt] at h
  constructor <;> linarith [h.1, h.2]

/-- core estimate: `w ≈ r` and `y ≈ w`, each with relative error `2⁻⁵³` (relative to the rounded value) -/
theorem near_of_two_errors (r : ℤ) (w y : ℚ) (hr : |(r : ℚ)| ≤ 2 ^ 50)
    (h1 : |w - r| ≤ (2 : ℚ)⁻¹ ^ 53 * |w|) (h2 : |y - w| ≤ (2 : ℚ)⁻¹ ^ 53 * |y|) :
    |y - r| < 1 / 2 := by
  rw [show (2 : ℚ)⁻¹ ^ 53 = 1 / 9007199254740992 by norm_num] at h1 h2
  rw [show (2 : ℚ) ^ 50 = 1125899906842624 by norm_num] at hr
  linarith [abs_sub_abs_le_abs_sub w r, abs_sub_abs_le_abs_sub y w, abs_sub_le y w r]

/-- a relative error of the quotient `z ≈ r/s` is the same relative error of the product `z·s ≈ r` -/
theorem mul_err_of_div_err (r s z u : ℚ) (hs : 0 < s) (hdiv : |z - r / s| ≤ u * |z|) : |z * s - r| ≤ u * |z * s| := by
  rw [← div_mul_cancel₀ r hs.ne', ← sub_mul, abs_mul, abs_mul, abs_of_pos hs, ← mul_assoc]
  exact mul_le_mul_of_nonneg_right hdiv hs.le

/-- the second `round(val * scale)` lands on the same integer: `z ≈ r/s`, `y ≈ z·s` ⟹ `javaRound y = r` -/
theorem second_round_eq (r : ℤ) (s z y : ℚ) (hs : 0 < s) (hr : |(r : ℚ)| ≤ 2 ^ 50)
    (hdiv : |z - (r : ℚ) / s| ≤ (2 : ℚ)⁻¹ ^ 53 * |z|) (hmul : |y - z * s| ≤ (2 : ℚ)⁻¹ ^ 53 * |y|) :
    javaRound y = r :=
  javaRound_eq_of_near _ _ (near_of_two_errors r (z * s) y hr (mul_err_of_div_err _ s z _ hs hdiv) hmul)

/-- **scale branch** (`gridSize ≤ 1`): `makePrecise ∘ makePrecise = makePrecise` for the floating composition.
`r = javaRound (rnd (x·s))` is the integer the first application rounds to.  Hypotheses: `|r| ≤ 2⁵⁰`, and the
relative-error law of `rnd` (relative to the rounded value) at the two operations of the second application. -/
theorem mpScale_idem (rnd : ℚ → ℚ) (s x : ℚ) (hs : 0 < s)
    (hr : |(javaRound (rnd (x * s)) : ℚ)| ≤ 2 ^ 50)
    (hdiv : |mpScale rnd s x - (javaRound (rnd (x * s)) : ℚ) / s| ≤ (2 : ℚ)⁻¹ ^ 53 * |mpScale rnd s x|)
    (hmul : |rnd (mpScale rnd s x * s) - mpScale rnd s x * s| ≤ (2 : ℚ)⁻¹ ^ 53 * |rnd (mpScale rnd s x * s)|) :
    mpScale rnd s (mpScale rnd s x) = mpScale rnd s x := by
  show rnd ((javaRound (rnd (mpScale rnd s x * s)) : ℚ) / s) = mpScale rnd s x
  rw [second_round_eq _ s _ _ hs hr hdiv hmul]; rfl

/-- the grid branch is the scale branch with scale `1/gridSize` -/
theorem mpGrid_eq_scale (rnd : ℚ → ℚ) (g x : ℚ) : mpGrid rnd g x = mpScale rnd g⁻¹ x := by
  unfold mpGrid mpScale
  rw [div_inv_eq_mul, div_eq_mul_inv]

/-- **grid branch** (`gridSize > 1`) -/
theorem mpGrid_idem (rnd : ℚ → ℚ) (g x : ℚ) (hg : 0 < g)
    (hr : |(javaRound (rnd (x / g)) : ℚ)| ≤ 2 ^ 50)
    (hmul : |mpGrid rnd g x - (javaRound (rnd (x / g)) : ℚ) * g| ≤ (2 : ℚ)⁻¹ ^ 53 * |mpGrid rnd g x|)
    (hdiv : |rnd (mpGrid rnd g x / g) - mpGrid rnd g x / g| ≤ (2 : ℚ)⁻¹ ^ 53 * |rnd (mpGrid rnd g x / g)|) :
    mpGrid rnd g (mpGrid rnd g x) = mpGrid rnd g x := by
  have h := mpScale_idem rnd g⁻¹ x (inv_pos.2 hg)
  simp only [← mpGrid_eq_scale, div_inv_eq_mul, ← div_eq_mul_inv] at h
  exact h hr hmul hdiv

end GeosModel.Precision
