import GeosModel.Model.Simplify.VertexIndex
import GeosModel.Proofs.EnvLemmas
/-!
The invariant `Inv` of the model of `VertexSequencePackedRtree` (with `Shape`: `WF`), proved kept by `remove`, and what it
gives for `query`: nothing removed or outside the box is returned, and every live item in the box is (`mem_queryNode_iff`,
`queryNode_sound`, `mem_queryNode_anc`).  The statements about whole histories of removals are in `Props/C18Index.lean`.
-/
namespace GeosModel.VSPR

theorem getD_set {α : Type} (l : List α) (p q : Nat) (v d : α) (h : p < l.length ∨ v = d) :
    (l.set p v).getD q d = if q = p then v else l.getD q d := by
  by_cases hq : q = p
  · subst hq
    by_cases hl : q < l.length
    · simp [List.getD_eq_getElem?_getD, hl]
    · obtain rfl := h.resolve_left hl
      simp [List.getD_eq_getElem?_getD, hl]
  · have : ¬ p = q := fun e => hq e.symm
    simp [List.getD_eq_getElem?_getD, hq, this]

/-! ### shape of the level table, invariant of the bounds -/

/-- every item that is not removed lies in the bounds of its leaf node; whatever lies in the bounds of a node lies in
the bounds of its parent (a null envelope contains nothing) -/
def Inv (t : Tree) : Prop :=
  (∀ i, i < t.items.length → isRemoved t i = false →
      Env.containsPt (bnd t 0 (i / cap)) (item t i).1 (item t i).2 = true) ∧
  (∀ l c, l + 1 < t.levelOffset.length → c < levelSize t l →
      ∀ x y, Env.containsPt (bnd t l c) x y = true → Env.containsPt (bnd t (l + 1) (c / cap)) x y = true)

theorem invC_inv (t : Tree) (h : InvC t) : Inv t := by
  refine ⟨h.1, ?_⟩
  intro l c hl hc x y hxy
  have := h.2 l (by omega) c hc
  unfold nodeOK at this
  cases hb : bnd t l c with
  | none => rw [hb] at hxy; simp [Env.containsPt] at hxy
  | some b =>
    rw [hb] at this hxy
    exact Env.covers_containsPt _ _ x y this hxy

/-- the ancestors of item `i`: node index at level `l` -/
def anc (i : Nat) : Nat → Nat
  | 0 => i / cap
  | l + 1 => anc i l / cap

theorem clampMax_eq (x m : Nat) : clampMax x m = min x m := by unfold clampMax; split <;> omega

theorem ceil_eq (n : Nat) : ceilDivisor n cap = (n + 15) / 16 := by
  unfold ceilDivisor cap; simp only; split <;> omega

theorem lt_ceil (j n : Nat) (h : 16 * j < n) : j < ceilDivisor n cap := by rw [ceil_eq]; omega

theorem div_lt_ceil (a m : Nat) (h : a < m) : a / cap < ceilDivisor m cap := lt_ceil _ _ (by unfold cap; omega)

/-- the five facts of `Shape` for a level table `X = prev :: levelOffsetsGo f sz prev` -/
structure Chain (sz : Nat) (X : List Nat) : Prop where
  len : 2 ≤ X.length
  mono : ∀ l, l < X.length - 1 → X.getD l 0 ≤ X.getD (l + 1) 0
  first : X.getD 1 0 - X.getD 0 0 = ceilDivisor sz cap
  step : ∀ l, l < X.length - 2 → X.getD (l + 2) 0 - X.getD (l + 1) 0 = ceilDivisor (X.getD (l + 1) 0 - X.getD l 0) cap
  last : X.getD (X.length - 1) 0 - X.getD (X.length - 2) 0 = 1

theorem Chain.le {sz : Nat} {X : List Nat} (ch : Chain sz X) : ∀ b a, a ≤ b → b < X.length → X.getD a 0 ≤ X.getD b 0
  | 0, a, ha, _ => by
    obtain rfl : a = 0 := by omega
    exact Nat.le_refl _
  | b + 1, a, ha, hb => by
    by_cases h : a = b + 1
    · subst h; exact Nat.le_refl _
    · exact Nat.le_trans (ch.le b a (by omega) (by omega)) (ch.mono b (by omega))

theorem Shape.chain {t : Tree} (hs : Shape t) : Chain t.items.length t.levelOffset :=
  ⟨hs.1, hs.2.2.1, hs.2.2.2.1, hs.2.2.2.2.1, by
    have h := hs.2.2.2.2.2
    rwa [levelSize, show t.levelOffset.length - 2 + 1 = t.levelOffset.length - 1 by have := hs.1; omega] at h⟩

theorem off_mono (t : Tree) (hs : Shape t) : ∀ b a, a ≤ b → b < t.levelOffset.length → off t a ≤ off t b := hs.chain.le

theorem off_succ (t : Tree) (hs : Shape t) (l : Nat) (hl : l + 1 < t.levelOffset.length) :
    off t (l + 1) = off t l + levelSize t l := by
  have := hs.2.2.1 l (by omega)
  unfold levelSize; omega

theorem anc_lt (t : Tree) (hs : Shape t) (i : Nat) (hi : i < t.items.length) :
    ∀ l, l + 1 < t.levelOffset.length → anc i l < levelSize t l := by
  intro l
  induction l with
  | zero => intro _; rw [hs.2.2.2.1]; exact div_lt_ceil _ _ hi
  | succ l ih =>
    intro hl
    rw [hs.2.2.2.2.1 l (by omega)]
    exact div_lt_ceil _ _ (ih (by omega))

theorem anc_contains (t : Tree) (hs : Shape t) (hv : Inv t) (i : Nat) (hi : i < t.items.length)
    (hr : isRemoved t i = false) :
    ∀ l, l < t.levelOffset.length → Env.containsPt (bnd t l (anc i l)) (item t i).1 (item t i).2 = true := by
  intro l
  induction l with
  | zero => intro _; exact hv.1 i hi hr
  | succ l ih =>
    intro hl
    exact hv.2 l (anc i l) hl (anc_lt t hs i hi l hl) _ _ (ih (by omega))

theorem mem_queryItemRange (t : Tree) (q : Env) (s i : Nat) :
    i ∈ queryItemRange t q s ↔ s ≤ i ∧ i < s + cap ∧ i < t.items.length ∧ isRemoved t i = false ∧
      Env.containsPt q (item t i).1 (item t i).2 = true := by
  unfold queryItemRange
  simp only [List.mem_flatMap, List.mem_range]
  constructor
  · rintro ⟨a, ha, hm⟩
    split at hm
    · exact nomatch hm
    · split at hm
      · next h1 h2 =>
        obtain rfl := List.mem_singleton.1 hm
        simp only [Bool.and_eq_true, Bool.not_eq_true'] at h2
        exact ⟨by omega, by omega, by omega, h2.1, h2.2⟩
      · exact nomatch hm
  · rintro ⟨h1, h2, h3, h4, h5⟩
    refine ⟨i - s, by omega, ?_⟩
    have e : s + (i - s) = i := by omega
    simp only [e]
    have : ¬ i ≥ t.items.length := by omega
    simp [this, h4, h5]

/-- `queryNode` answers only through a node whose bounds are not null and meet the query box -/
theorem mem_queryNode_iff (t : Tree) (q : Env) (l k i : Nat) :
    i ∈ queryNode t q l k ↔ (bnd t l k).isNull = false ∧ Env.inter q (bnd t l k) = true ∧
      match l with
      | 0 => i ∈ queryItemRange t q (k * cap)
      | l + 1 => ∃ a, a < cap ∧ k * cap + a < levelSize t l ∧ i ∈ queryNode t q l (k * cap + a) := by
  cases l with
  | zero =>
    rw [queryNode]
    cases (bnd t 0 k).isNull <;> cases Env.inter q (bnd t 0 k) <;> simp
  | succ l =>
    rw [queryNode]
    cases (bnd t (l + 1) k).isNull <;> cases Env.inter q (bnd t (l + 1) k) <;> simp

theorem queryNode_sound (t : Tree) (q : Env) : ∀ l k i, i ∈ queryNode t q l k →
    i < t.items.length ∧ isRemoved t i = false ∧ Env.containsPt q (item t i).1 (item t i).2 = true
  | 0, k, i, h => ((mem_queryItemRange t q _ i).1 ((mem_queryNode_iff t q 0 k i).1 h).2.2).2.2
  | l + 1, k, i, h => by
    obtain ⟨_, _, a, _, _, ha⟩ := (mem_queryNode_iff t q (l + 1) k i).1 h
    exact queryNode_sound t q l _ i ha

theorem mem_queryNode_anc (t : Tree) (q : Env) (hs : Shape t) (hv : Inv t) (i : Nat) (hi : i < t.items.length)
    (hr : isRemoved t i = false) (hq : Env.containsPt q (item t i).1 (item t i).2 = true) :
    ∀ l, l < t.levelOffset.length → i ∈ queryNode t q l (anc i l)
  | 0, hl => by
    have hc := anc_contains t hs hv i hi hr 0 hl
    exact (mem_queryNode_iff t q 0 (i / cap) i).2 ⟨Env.containsPt_ne_null _ _ _ hc, Env.inter_of_common_pt _ _ _ _ hq hc,
      (mem_queryItemRange t q _ i).2 ⟨by unfold cap; omega, by unfold cap; omega, hi, hr, hq⟩⟩
  | l + 1, hl => by
    have hc := anc_contains t hs hv i hi hr (l + 1) hl
    have e : anc i l / cap * cap + anc i l % cap = anc i l := by unfold cap; omega
    exact (mem_queryNode_iff t q (l + 1) (anc i l / cap) i).2 ⟨Env.containsPt_ne_null _ _ _ hc, Env.inter_of_common_pt _ _ _ _ hq hc,
      anc i l % cap, by unfold cap; omega, by rw [e]; exact anc_lt t hs i hi l hl,
      by rw [e]; exact mem_queryNode_anc t q hs hv i hi hr hq l (by omega)⟩

theorem anc_top (t : Tree) (hs : Shape t) (i : Nat) (hi : i < t.items.length) : anc i (t.levelOffset.length - 1) = 0 := by
  have h2 := hs.1
  have h := anc_lt t hs i hi (t.levelOffset.length - 2) (by omega)
  rw [hs.2.2.2.2.2] at h
  have e : t.levelOffset.length - 1 = (t.levelOffset.length - 2) + 1 := by omega
  rw [e]
  show anc i (t.levelOffset.length - 2) / cap = 0
  have : anc i (t.levelOffset.length - 2) = 0 := by omega
  rw [this]; rfl

@[simp] theorem off_markRemoved (t : Tree) (k l : Nat) : off (markRemoved t k) l = off t l := rfl
@[simp] theorem off_nullBound (t : Tree) (p l : Nat) : off (nullBound t p) l = off t l := rfl
@[simp] theorem levelSize_markRemoved (t : Tree) (k l : Nat) : levelSize (markRemoved t k) l = levelSize t l := rfl
@[simp] theorem levelSize_nullBound (t : Tree) (p l : Nat) : levelSize (nullBound t p) l = levelSize t l := rfl
@[simp] theorem bnd_markRemoved (t : Tree) (k l c : Nat) : bnd (markRemoved t k) l c = bnd t l c := rfl
@[simp] theorem item_markRemoved (t : Tree) (k i : Nat) : item (markRemoved t k) i = item t i := rfl
@[simp] theorem item_nullBound (t : Tree) (p i : Nat) : item (nullBound t p) i = item t i := rfl
@[simp] theorem isRemoved_nullBound (t : Tree) (p i : Nat) : isRemoved (nullBound t p) i = isRemoved t i := rfl

theorem isRemoved_markRemoved (t : Tree) (k i : Nat) :
    isRemoved (markRemoved t k) i = if i = k then true else isRemoved t i := getD_set _ _ _ _ _ (Or.inr rfl)

theorem bnd_nullBound (t : Tree) (p l c : Nat) :
    bnd (nullBound t p) l c = if off t l + c = p then none else bnd t l c := getD_set _ _ _ _ _ (Or.inr rfl)

theorem inv_markRemoved (t : Tree) (k : Nat) (h : Inv t) : Inv (markRemoved t k) := by
  refine ⟨?_, h.2⟩
  intro i hi hr
  rw [isRemoved_markRemoved] at hr
  by_cases e : i = k
  · simp [e] at hr
  · simp only [e, if_false] at hr
    exact h.1 i hi hr

/-- the loops of `isItemsNodeEmpty` / `isNodeEmpty` visit every position `i < n` of node `j` -/
theorem all_node (n j : Nat) (P : Nat → Bool)
    (h : (List.range (clampMax (j * cap + cap) n - j * cap)).all (fun i => P (j * cap + i)) = true) :
    ∀ i, i / cap = j → i < n → P i = true := by
  intro i hij hi
  rw [List.all_eq_true] at h
  have := h (i - j * cap) (by rw [List.mem_range, clampMax_eq]; unfold cap at *; omega)
  rwa [show j * cap + (i - j * cap) = i by unfold cap at *; omega] at this

/-- what a `true` answer of `isItemsNodeEmpty` means -/
theorem isItemsNodeEmpty_spec (t : Tree) (j : Nat) (h : isItemsNodeEmpty t j = true) :
    ∀ i, i / cap = j → i < t.items.length → isRemoved t i = true := all_node _ j _ h

/-- what a `true` answer of `isNodeEmpty(1, k)` means -/
theorem isNodeEmpty_spec (t : Tree) (k : Nat) (h : isNodeEmpty t 1 k = true) :
    ∀ c, c / cap = k → c < off t 1 → (t.bounds.getD c none).isNull = true := all_node _ k (fun c => (t.bounds.getD c none).isNull) h

theorem containsPt_none (x y : Int) : Env.containsPt none x y = false := rfl

/-- nulling the bounds entry `p` keeps the invariant if `p` is the leaf of no live item and every node below `p` contains nothing -/
theorem inv_nullBound (t : Tree) (hv : Inv t) (p : Nat)
    (hleaf : ∀ i, i < t.items.length → isRemoved t i = false → off t 0 + i / cap ≠ p)
    (hnode : ∀ l c, l + 1 < t.levelOffset.length → c < levelSize t l → off t (l + 1) + c / cap = p →
      ∀ x y, Env.containsPt (bnd t l c) x y = false) : Inv (nullBound t p) := by
  constructor
  · intro i hi hr
    rw [bnd_nullBound, if_neg (hleaf i hi hr)]
    exact hv.1 i hi hr
  · intro l c hl hc x y hxy
    rw [bnd_nullBound] at hxy ⊢
    split at hxy
    · exact absurd hxy (by simp [containsPt_none])
    · split
      · next e => rw [hnode l c hl hc e x y] at hxy; exact absurd hxy (by simp)
      · exact hv.2 l c hl hc x y hxy

/-- … so does nulling the bounds of a leaf node all of whose items are removed -/
theorem inv_nullBound_leaf (t : Tree) (hs : Shape t) (hv : Inv t) (j : Nat) (hj : j < levelSize t 0)
    (he : ∀ i, i / cap = j → i < t.items.length → isRemoved t i = true) : Inv (nullBound t j) := by
  have h0 := hs.2.1
  refine inv_nullBound t hv j (fun i hi hr e => ?_) (fun l c hl hc e => ?_)
  · rw [he i (by omega) hi] at hr; exact absurd hr (by simp)
  · have h1 : off t 1 = off t 0 + levelSize t 0 := off_succ t hs 0 (by have := hs.1; omega)
    have h2 := off_mono t hs (l + 1) 1 (by omega) hl
    generalize c / cap = q at e
    omega

/-- … and of a level-1 node all of whose children are null -/
theorem inv_nullBound_node (t : Tree) (hs : Shape t) (hv : Inv t) (h3 : 2 < t.levelOffset.length) (k : Nat)
    (hk : k < levelSize t 1)
    (he : ∀ c, c / cap = k → c < off t 1 → (t.bounds.getD c none).isNull = true) : Inv (nullBound t (off t 1 + k)) := by
  have h0 := hs.2.1
  have h1 : off t 1 = off t 0 + levelSize t 0 := off_succ t hs 0 (by omega)
  refine inv_nullBound t hv _ (fun i hi hr => ?_) (fun l c hl hc e x y => ?_)
  · have : anc i 0 < levelSize t 0 := anc_lt t hs i hi 0 (by omega)
    have ea : anc i 0 = i / cap := rfl
    generalize i / cap = q at *
    omega
  · cases l with
    | zero =>
      have hn := he c (Nat.add_left_cancel e) (by omega)
      have : bnd t 0 c = t.bounds.getD c none := by unfold bnd; rw [h0, Nat.zero_add]
      rw [this]
      cases hb : t.bounds.getD c none with
      | none => rfl
      | some b => rw [hb] at hn; exact absurd hn (by simp [Env.isNull])
    | succ l =>
      have h2 : off t 2 = off t 1 + levelSize t 1 := off_succ t hs 1 (by omega)
      have := off_mono t hs (l + 1 + 1) 2 (by omega) hl
      generalize c / cap = q at e
      omega

/-- `remove` marks the item and then only nulls bounds: what `markRemoved` establishes and `nullBound` keeps holds after `remove` -/
theorem remove_ind (P : Tree → Prop) (hn : ∀ u p, P u → P (nullBound u p)) (t : Tree) (k : Nat) (h : P (markRemoved t k)) :
    P (remove t k) := by
  unfold remove
  simp only
  split
  · exact h
  · split
    · exact hn _ _ h
    · split
      · exact hn _ _ h
      · exact hn _ _ (hn _ _ h)

theorem shape_remove (t : Tree) (k : Nat) (hs : Shape t) : Shape (remove t k) := remove_ind Shape (fun _ _ h => h) t k hs

theorem inv_remove (t : Tree) (k : Nat) (hs : Shape t) (hv : Inv t) (hk : k < t.items.length) : Inv (remove t k) := by
  have hs1 : Shape (markRemoved t k) := hs
  have hv1 := inv_markRemoved t k hv
  unfold remove
  simp only
  split
  · exact hv1
  · rename_i hE
    simp only [Bool.not_eq_true, Bool.not_eq_false'] at hE
    have hj : k / cap < levelSize (markRemoved t k) 0 := anc_lt t hs k hk 0 (by have := hs.1; omega)
    have hv2 := inv_nullBound_leaf (markRemoved t k) hs1 hv1 (k / cap) hj (isItemsNodeEmpty_spec _ _ (by simpa using hE))
    have hs2 : Shape (nullBound (markRemoved t k) (k / cap)) := hs
    split
    · exact hv2
    · rename_i hL
      split
      · exact hv2
      · rename_i hN
        have h3 : 2 < t.levelOffset.length := Nat.lt_of_not_le hL
        have hk1 : k / cap / cap < levelSize (nullBound (markRemoved t k) (k / cap)) 1 := anc_lt t hs k hk 1 h3
        exact inv_nullBound_node _ hs2 hv2 h3 _ hk1 (isNodeEmpty_spec _ _ (by simpa using hN))

theorem items_remove (t : Tree) (k : Nat) : (remove t k).items = t.items := remove_ind (·.items = t.items) (fun _ _ h => h) t k rfl

theorem isRemoved_remove (t : Tree) (k i : Nat) : isRemoved (remove t k) i = if i = k then true else isRemoved t i :=
  remove_ind (isRemoved · i = _) (fun _ _ h => h) t k (isRemoved_markRemoved t k i)

/-- well-formed trees: `Shape` and `Inv` -/
def WF (t : Tree) : Prop := Shape t ∧ Inv t

theorem wf_removes (t : Tree) (hw : WF t) (ks : List Nat) (hk : ∀ k ∈ ks, k < t.items.length) : WF (ks.foldl remove t) := by
  induction ks generalizing t with
  | nil => exact hw
  | cons k r ih =>
    simp only [List.foldl_cons]
    apply ih
    · exact ⟨shape_remove t k hw.1, inv_remove t k hw.1 hw.2 (hk k (by simp))⟩
    · intro k' hk'
      rw [items_remove]
      exact hk k' (by simp [hk'])

theorem isRemoved_removes (t : Tree) (ks : List Nat) (i : Nat) :
    isRemoved (ks.foldl remove t) i = (isRemoved t i || ks.contains i) := by
  induction ks generalizing t with
  | nil => simp
  | cons k r ih =>
    simp only [List.foldl_cons, ih, isRemoved_remove, List.contains_cons]
    by_cases e : i = k
    · simp [e]
    · have : (i == k) = false := by simp [e]
      simp [e, this]

theorem items_removes (t : Tree) (ks : List Nat) : (ks.foldl remove t).items = t.items := by
  induction ks generalizing t with
  | nil => rfl
  | cons k r ih => simp only [List.foldl_cons, ih, items_remove]

end GeosModel.VSPR
