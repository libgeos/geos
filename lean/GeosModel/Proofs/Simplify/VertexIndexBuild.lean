import GeosModel.Proofs.Simplify.VertexIndex
/-!
What `build` produces, for every non-empty coordinate list: the level table is a `Chain` (`shape_build`), and the bounds
array satisfies `J` after the item level and after each node level — the two `do … while` loops of `fillItemBounds` /
`fillLevelBounds` and the loop over the levels of `createBounds`, with the flat index arithmetic of the C++.
`Props/C18Index.lean` reads well-formedness off `J`.
-/
namespace GeosModel.VSPR

/-- one more level below a chain -/
theorem Chain.cons {sz prev : Nat} {R : List Nat} (ih : Chain (ceilDivisor sz cap) ((prev + ceilDivisor sz cap) :: R)) :
    Chain sz (prev :: (prev + ceilDivisor sz cap) :: R) where
  len := Nat.le_succ_of_le ih.len
  mono
    | 0, _ => Nat.le_add_right _ _
    | l + 1, hl => ih.mono l (Nat.lt_of_succ_lt_succ hl)
  first := Nat.add_sub_cancel_left _ _
  step
    | 0, _ => ih.first.trans (congrArg (ceilDivisor · cap) (Nat.add_sub_cancel_left _ _).symm)
    | l + 1, hl => ih.step l (by simp only [List.length_cons] at hl ⊢; omega)
  last := by
    have := ih.last
    have hl := ih.len
    simp only [List.length_cons] at this hl ⊢
    obtain ⟨n, hn⟩ : ∃ n, R.length = n + 1 := ⟨R.length - 1, by omega⟩
    rw [hn] at this ⊢
    exact this

theorem chain_go : ∀ (f sz prev : Nat), 1 ≤ sz → sz < f → Chain sz (prev :: levelOffsetsGo f sz prev)
  | 0, sz, prev, h1, h2 => by omega
  | f + 1, sz, prev, h1, h2 => by
    have hc : 1 ≤ ceilDivisor sz cap := lt_ceil 0 sz h1
    unfold levelOffsetsGo levelNodeCount
    simp only
    by_cases hgt : ceilDivisor sz cap > 1
    · rw [if_pos hgt]
      exact (chain_go f (ceilDivisor sz cap) (prev + ceilDivisor sz cap) hc (by rw [ceil_eq] at hgt ⊢; omega)).cons
    · rw [if_neg hgt]
      obtain hc1 : ceilDivisor sz cap = 1 := by omega
      rw [hc1]
      refine ⟨Nat.le_refl 2, fun l hl => ?_, (Nat.add_sub_cancel_left _ _).trans hc1.symm,
        fun l hl => absurd hl (Nat.not_lt_zero l), Nat.add_sub_cancel_left _ _⟩
      obtain rfl : l = 0 := by simpa using hl
      exact Nat.le_add_right _ _

theorem shape_build (items : List (Int × Int)) (h : items ≠ []) : Shape (build items) := by
  have c := chain_go (items.length + 1) items.length 0 (List.length_pos_iff.mpr h) (by omega)
  exact ⟨c.len, rfl, c.mono, c.first, c.step, c.last⟩

namespace Chain
variable {sz : Nat} {X : List Nat} (ch : Chain sz X)
include ch

theorem size_pos (h : 1 ≤ sz) : ∀ l, l < X.length - 1 → X.getD l 0 < X.getD (l + 1) 0
  | 0, _ => by
    show X.getD 0 0 < X.getD 1 0
    have := ch.first; have := lt_ceil 0 sz h; omega
  | l + 1, hl => by
    show X.getD (l + 1) 0 < X.getD (l + 2) 0
    have h1 := size_pos h l (by omega)
    have h2 := ch.step l (by omega)
    have h3 := lt_ceil 0 (X.getD (l + 1) 0 - X.getD l 0) (by omega)
    omega

/-- the leaf node of item `i` lies below every node level -/
theorem leaf_lt (i : Nat) (hi : i < sz) (l : Nat) (hl1 : 1 ≤ l) (hl : l < X.length) : i / 16 < X.getD l 0 := by
  have h1 := lt_ceil (i / 16) sz (by omega)
  have h2 := ch.first
  have h3 := ch.le l 1 hl1 hl
  omega

/-- the parent of node `c` of level `l` is a node of level `l + 1` … -/
theorem parent_lt (l c : Nat) (hl : l < X.length - 2) (h : X.getD l 0 + c < X.getD (l + 1) 0) :
    X.getD (l + 1) 0 + c / 16 < X.getD (l + 2) 0 := by
  have h2 := ch.step l hl
  have h3 := lt_ceil (c / 16) (X.getD (l + 1) 0 - X.getD l 0) (by omega)
  omega

/-- … or, on the last level but one, the root -/
theorem parent_le_top (l c : Nat) (hl : l < X.length - 1) (h : X.getD l 0 + c < X.getD (l + 1) 0) :
    X.getD (l + 1) 0 + c / 16 ≤ X.getD (X.length - 1) 0 := by
  by_cases h2 : l < X.length - 2
  · exact Nat.le_of_lt (Nat.lt_of_lt_of_le (ch.parent_lt l c h2 h) (ch.le (X.length - 1) (l + 2) (by omega) (by omega)))
  · obtain rfl : l = X.length - 2 := by omega
    have := ch.last
    have e : X.length - 2 + 1 = X.length - 1 := by omega
    rw [e] at h ⊢
    obtain rfl : c = 0 := by omega
    exact Nat.le_refl _

end Chain

/-! ### envelopes of slices -/

theorem mem_slice {α : Type} (l : List α) (s e i : Nat) (d : α) (h1 : s ≤ i) (h2 : i < e) (h3 : i < l.length) :
    l.getD i d ∈ (l.drop s).take (e - s) := by
  have hlen : i - s < ((l.drop s).take (e - s)).length := by simp; omega
  have : ((l.drop s).take (e - s))[i - s] = l.getD i d := by
    simp only [List.getElem_take, List.getElem_drop]
    have e1 : s + (i - s) = i := by omega
    simp [e1, List.getD_eq_getElem?_getD, h3]
  rw [← this]
  exact List.getElem_mem hlen

theorem computeNodeEnvelope_contains (b : List Env) (s e i : Nat) (h1 : s ≤ i) (h2 : i < e) (h3 : i < b.length)
    (x y : Int) (h : Env.containsPt (b.getD i none) x y = true) :
    Env.containsPt (computeNodeEnvelope b s e) x y = true := by
  unfold computeNodeEnvelope
  exact Env.foldl_union x y _ none (Or.inr ⟨_, mem_slice b s e i none h1 h2 h3, h⟩)

theorem computeItemEnvelope_contains (items : List (Int × Int)) (s e i : Nat) (h1 : s ≤ i) (h2 : i < e) (h3 : i < items.length) :
    Env.containsPt (computeItemEnvelope items s e) (items.getD i (0, 0)).1 (items.getD i (0, 0)).2 = true := by
  unfold computeItemEnvelope
  rw [← List.foldl_map (f := ptBox) (g := fun env b => Env.union env b)]
  exact Env.foldl_union _ _ _ none (Or.inr ⟨ptBox (items.getD i (0, 0)), List.mem_map.2 ⟨_, mem_slice items s e i (0, 0) h1 h2 h3, rfl⟩,
    by simp [ptBox, Env.containsPt]⟩)

/-- a node envelope reads nothing at or above its end position -/
theorem computeNodeEnvelope_set (b : List Env) (p : Nat) (v : Env) (s e : Nat) (h : e ≤ p) :
    computeNodeEnvelope (b.set p v) s e = computeNodeEnvelope b s e := by
  unfold computeNodeEnvelope
  rw [← List.drop_take, ← List.drop_take, List.take_set_of_le h]

/-! ### the two filling loops -/

/-- `G` is a loop `do { nodeEnd = clampMax(nodeStart + 16, stop); b[bi] = E(b, nodeStart, nodeEnd); … } while (nodeEnd < stop)`
whose envelope computation `E` reads nothing at or above `d0` -/
structure IsFill (E : List Env → Nat → Nat → Env) (G : Nat → Nat → Nat → List Env → List Env) (d0 stop : Nat) : Prop where
  eq : ∀ f ns bi b, G (f + 1) ns bi b =
    if clampMax (ns + cap) stop < stop
    then G f (clampMax (ns + cap) stop) (bi + 1) (b.set bi (E b ns (clampMax (ns + cap) stop)))
    else b.set bi (E b ns (clampMax (ns + cap) stop))
  reads : ∀ b p v s e, d0 ≤ p → e ≤ stop → E (b.set p v) s e = E b s e

/-- Both filling loops are this `do … while` (`G`, given by its defining equation): entry `d0 + k` of the bounds receives the
envelope `E b s e` of the `k`-th run of 16 source positions, `s = s0 + 16 k`, as long as the run starts before `stop`.  `E` may
read the array being filled, but not the part being written (`hG.reads`), so every run is computed from the initial array. -/
theorem fill_run (E : List Env → Nat → Nat → Env) (G : Nat → Nat → Nat → List Env → List Env) (s0 d0 stop : Nat)
    (hG : IsFill E G d0 stop) :
    ∀ (f k : Nat) (b : List Env), s0 + 16 * k < stop → stop - (s0 + 16 * k) < f →
      (∀ j, s0 + 16 * j < stop → d0 + j < b.length) →
      (G f (s0 + 16 * k) (d0 + k) b).length = b.length ∧
      (∀ p, p < d0 + k → (G f (s0 + 16 * k) (d0 + k) b).getD p none = b.getD p none) ∧
      (∀ j, k ≤ j → s0 + 16 * j < stop →
        (G f (s0 + 16 * k) (d0 + k) b).getD (d0 + j) none = E b (s0 + 16 * j) (min (s0 + 16 * j + 16) stop))
  | 0, _, _, _, h, _ => by omega
  | f + 1, k, b, hk, hf, hb => by
    have hbk := hb k hk
    rw [hG.eq, clampMax_eq, cap]
    by_cases hc : min (s0 + 16 * k + 16) stop < stop
    · have he : min (s0 + 16 * k + 16) stop = s0 + 16 * (k + 1) := by omega
      rw [if_pos hc, he, Nat.add_assoc]
      obtain ⟨i1, i2, i3⟩ := fill_run E G s0 d0 stop hG f (k + 1) (b.set (d0 + k) (E b (s0 + 16 * k) (s0 + 16 * (k + 1))))
        (by omega) (by omega) (fun j hj => by rw [List.length_set]; exact hb j hj)
      refine ⟨i1.trans List.length_set, fun p hp => ?_, fun j hj hjs => ?_⟩
      · rw [i2 p (Nat.lt_succ_of_lt hp), getD_set _ _ _ _ _ (Or.inl hbk), if_neg (Nat.ne_of_lt hp)]
      · by_cases hjk : j = k
        · subst hjk
          rw [i2 (d0 + j) (Nat.lt_succ_self _), getD_set _ _ _ _ _ (Or.inl hbk), if_pos rfl, he]
        · rw [i3 j (Nat.lt_of_le_of_ne hj (Ne.symm hjk)) hjs, hG.reads _ _ _ _ _ (Nat.le_add_right _ _) (Nat.min_le_right _ _)]
    · rw [if_neg hc]
      refine ⟨List.length_set, fun p hp => ?_, fun j hj hjs => ?_⟩
      · rw [getD_set _ _ _ _ _ (Or.inl hbk), if_neg (Nat.ne_of_lt hp)]
      · obtain rfl : j = k := by omega
        rw [getD_set _ _ _ _ _ (Or.inl hbk), if_pos rfl]

/-- the loop run from its start -/
theorem fill_spec (E : List Env → Nat → Nat → Env) (G : Nat → Nat → Nat → List Env → List Env) (s0 d0 stop : Nat)
    (hG : IsFill E G d0 stop)
    (f : Nat) (b : List Env) (hs : s0 < stop) (hf : stop - s0 < f) (hb : ∀ j, s0 + 16 * j < stop → d0 + j < b.length) :
    (G f s0 d0 b).length = b.length ∧ (∀ p, p < d0 → (G f s0 d0 b).getD p none = b.getD p none) ∧
    (∀ j, s0 + 16 * j < stop → (G f s0 d0 b).getD (d0 + j) none = E b (s0 + 16 * j) (min (s0 + 16 * j + 16) stop)) := by
  have h := fill_run E G s0 d0 stop hG f 0 b hs hf hb
  exact ⟨h.1, h.2.1, fun j hj => h.2.2 j (Nat.zero_le j) hj⟩

/-! ### the fold over the levels -/

theorem getLastD_eq (X : List Nat) (h : 1 ≤ X.length) : X.getLastD 0 = X.getD (X.length - 1) 0 := by
  cases X with
  | nil => simp at h
  | cons a r => simp [List.getLastD_eq_getLast?, List.getLast?_eq_getElem?, List.getD_eq_getElem?_getD]

/-- state of the bounds array after the item level and the first `m` node levels have been filled -/
def J (items : List (Int × Int)) (lo : List Nat) (m : Nat) (b : List Env) : Prop :=
  b.length = lo.getD (lo.length - 1) 0 + 1 ∧
  (∀ i, i < items.length →
    Env.containsPt (b.getD (i / 16) none) (items.getD i (0, 0)).1 (items.getD i (0, 0)).2 = true) ∧
  (∀ l, l < m → ∀ c, lo.getD l 0 + c < lo.getD (l + 1) 0 → ∀ x y,
    Env.containsPt (b.getD (lo.getD l 0 + c) none) x y = true →
    Env.containsPt (b.getD (lo.getD (l + 1) 0 + c / 16) none) x y = true)

/-- position `A + c` of a level lies in the run of 16 that starts at `A + 16 (c / 16)` and is cut off at the level's end `B` -/
theorem run_mem (A B c : Nat) (h : A + c < B) :
    A + 16 * (c / 16) < B ∧ A + 16 * (c / 16) ≤ A + c ∧ A + c < min (A + 16 * (c / 16) + 16) B := by omega

/-- filling level `m + 1` leaves everything below it as it was (`s2`), so the invariant of the lower levels is kept, and puts
into entry `c / 16` of the new level the envelope of the run of 16 that contains node `c` of level `m` (`s3`) -/
theorem J_step (items : List (Int × Int)) (hn : 1 ≤ items.length) (lo : List Nat) (c : Chain items.length lo)
    (m : Nat) (hm : m < lo.length - 1) (b : List Env) (hJ : J items lo m b) : J items lo (m + 1) (fillLevelBounds lo (m + 1) b) := by
  obtain ⟨jl, jleaf, jnode⟩ := hJ
  have hm' : m + 1 < lo.length := by omega
  have hAB := c.size_pos hn m hm
  have hBT := c.le (lo.length - 1) (m + 1) hm (by omega)
  obtain ⟨s1, s2, s3⟩ := fill_spec (fun b s e => computeNodeEnvelope b s e) (fillLevelBoundsGo (lo.getD (m + 1) 0))
    (lo.getD m 0) (lo.getD (m + 1) 0) (lo.getD (m + 1) 0)
    ⟨fun _ _ _ _ => rfl, fun b p v s e hp he => computeNodeEnvelope_set b p v s e (Nat.le_trans he hp)⟩ (b.length + 1) b hAB (by omega)
    (fun j hj => by have := c.parent_le_top m (16 * j) hm hj; omega)
  have e : fillLevelBounds lo (m + 1) b =
    fillLevelBoundsGo (lo.getD (m + 1) 0) (b.length + 1) (lo.getD m 0) (lo.getD (m + 1) 0) b := rfl
  rw [e]
  generalize fillLevelBoundsGo (lo.getD (m + 1) 0) (b.length + 1) (lo.getD m 0) (lo.getD (m + 1) 0) b = b' at s1 s2 s3
  refine ⟨s1.trans jl, fun i hi => ?_, fun l hl cc hcc x y hxy => ?_⟩
  · rw [s2 _ (c.leaf_lt i hi (m + 1) (Nat.le_add_left 1 m) hm')]
    exact jleaf i hi
  · by_cases hlm : l < m
    · have h1 := c.le (m + 1) (l + 1) (Nat.succ_le_succ (Nat.le_of_lt hlm)) hm'
      have h2 := Nat.lt_of_lt_of_le (c.parent_lt l cc (by omega) hcc) (c.le (m + 1) (l + 2) (Nat.succ_le_succ hlm) hm')
      rw [s2 _ (Nat.lt_of_lt_of_le hcc h1)] at hxy
      rw [s2 _ h2]
      exact jnode l hlm cc hcc x y hxy
    · obtain rfl : l = m := by omega
      obtain ⟨r1, r2, r3⟩ := run_mem _ _ cc hcc
      rw [s2 _ hcc] at hxy
      rw [s3 _ r1]
      exact computeNodeEnvelope_contains b _ _ _ r2 r3 (by omega) x y hxy

theorem J_fold (items : List (Int × Int)) (hn : 1 ≤ items.length) (lo : List Nat) (c : Chain items.length lo) (b1 : List Env)
    (h0 : J items lo 0 b1) : ∀ m, m ≤ lo.length - 1 →
    J items lo m ((List.range m).foldl (fun b k => fillLevelBounds lo (k + 1) b) b1) := by
  intro m
  induction m with
  | zero => intro _; simpa using h0
  | succ m ih =>
    intro hm
    rw [List.range_succ, List.foldl_append]
    simp only [List.foldl_cons, List.foldl_nil]
    exact J_step items hn lo c m (by omega) _ (ih (by omega))

/-- the item level: after `fillItemBounds` every item lies in the bounds of its leaf node -/
theorem J_items (items : List (Int × Int)) (hn : 1 ≤ items.length) (lo : List Nat) (c : Chain items.length lo) :
    J items lo 0 (fillItemBoundsGo items (items.length + 1) 0 0 (List.replicate (lo.getLastD 0 + 1) none)) := by
  have hlen := c.len
  have hlast := getLastD_eq lo (by omega)
  have hfirst := c.first
  have htop := c.le (lo.length - 1) 1 (by omega) (by omega)
  obtain ⟨f1, _, f3⟩ := fill_spec (fun _ s e => computeItemEnvelope items s e) (fillItemBoundsGo items) 0 0 items.length
    ⟨fun _ _ _ _ => rfl, fun _ _ _ _ _ _ _ => rfl⟩ (items.length + 1) (List.replicate (lo.getLastD 0 + 1) none) hn (by omega)
    (fun j hj => by have := lt_ceil j items.length (by omega); simp only [List.length_replicate]; omega)
  refine ⟨by rw [f1, List.length_replicate, hlast], fun i hi => ?_, fun l hl => absurd hl (Nat.not_lt_zero l)⟩
  obtain ⟨r1, r2, r3⟩ := run_mem 0 _ i (by rwa [Nat.zero_add])
  have := f3 (i / 16) r1
  simp only [Nat.zero_add] at this r2 r3
  rw [this]
  exact computeItemEnvelope_contains items _ _ i r2 r3 hi

end GeosModel.VSPR
