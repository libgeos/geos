import GeosModel.Model.Simplify.Contracts
/-!
The contracts as propositions, and what a `true` verdict of the checkers' parts means (`*_sound` lemmas: by unfolding the
checker and induction over its loops); the three whole checkers are in `Props/C18.lean`.  The geometric leaves (`segRel`, `locateInRing`, `locateInPolygon`) are the
exact predicates of `Base/Kernel`, whose own meaning is the subject of C07.
-/
namespace GeosModel.Simplify
open GeosModel.Kernel

/-- pointwise relation of two lists of equal length -/
inductive All2 {α β : Type} (R : α → β → Prop) : List α → List β → Prop
  | nil : All2 R [] []
  | cons {a b as bs} : R a b → All2 R as bs → All2 R (a :: as) (b :: bs)

theorem All2.length_eq {α β : Type} {R : α → β → Prop} {l1 : List α} {l2 : List β} (h : All2 R l1 l2) :
    l1.length = l2.length := by
  induction h with
  | nil => rfl
  | cons _ _ ih => simp [ih]

theorem All2.mono {α β : Type} {R S : α → β → Prop} (hrs : ∀ a b, R a b → S a b) {l1 : List α} {l2 : List β}
    (h : All2 R l1 l2) : All2 S l1 l2 := by
  induction h with
  | nil => exact .nil
  | cons h _ ih => exact .cons (hrs _ _ h) ih

theorem zipAll_sound {α : Type} (f : α → α → Bool) : ∀ (l1 l2 : List α), zipAll f l1 l2 = true →
    All2 (fun a b => f a b = true) l1 l2
  | [], [], _ => .nil
  | a :: as, b :: bs, h => by
    simp only [zipAll, Bool.and_eq_true] at h
    exact .cons h.1 (zipAll_sound f as bs h.2)
  | [], _ :: _, h => by simp [zipAll] at h
  | _ :: _, [], h => by simp [zipAll] at h

theorem allPairs_sound {α : Type} (ok : α → α → Bool) : ∀ (l : List α), allPairs ok l = true →
    l.Pairwise (fun a b => ok a b = true)
  | [], _ => List.Pairwise.nil
  | a :: r, h => by
    simp only [allPairs, Bool.and_eq_true, List.all_eq_true] at h
    exact List.Pairwise.cons h.1 (allPairs_sound ok r h.2)

theorem memB_iff (v : Pt) (l : List Pt) : memB v l = true ↔ v ∈ l := by
  simp [memB]

theorem isSub_sound : ∀ (a b : List Pt), isSub a b = true → a.Sublist b
  | [], b, _ => List.nil_sublist b
  | _ :: _, [], h => by simp [isSub] at h
  | x :: xs, y :: ys, h => by
    simp only [isSub] at h
    by_cases hxy : x = y
    · subst hxy
      simp only [if_true] at h
      exact List.Sublist.cons_cons x (isSub_sound xs ys h)
    · simp only [hxy, if_false] at h
      exact List.Sublist.cons y (isSub_sound (x :: xs) ys h)

theorem cyclicSub_sound (out inp : List Pt) (h : cyclicSub out inp = true) :
    ∃ k, out.Sublist (inp.rotateLeft k) := by
  simp only [cyclicSub, List.any_eq_true] at h
  obtain ⟨k, _, hk⟩ := h
  exact ⟨k, isSub_sound _ _ hk⟩

/-- the meaning of the contact-free segment test -/
theorem segOKStrict_spec (s t : Seg) (h : segOKStrict s t = true) :
    segRel s.1 s.2 t.1 t.2 = .disjoint ∨ (segRel s.1 s.2 t.1 t.2 = .point false ∧ shareEnd s t = true) := by
  unfold segOKStrict at h
  split at h
  · left; assumption
  · right; exact ⟨by assumption, h⟩
  · simp at h

theorem noProperCross_spec (s t : Seg) (h : noProperCross s t = true) : segRel s.1 s.2 t.1 t.2 ≠ .point true := by
  unfold noProperCross at h
  intro hc
  simp [hc] at h

structure StrictlyValid (lines : List (List Pt)) (polys : List (List Ring)) : Prop where
  lines_len : ∀ l ∈ lines, 2 ≤ l.length
  rings_closed : ∀ r ∈ polys.flatMap id, closed r = true ∧ 4 ≤ r.length
  /-- no vertex occurs twice anywhere (the closing vertex of a ring / closed line aside) -/
  nodup : (lines.flatMap lineVerts ++ (polys.flatMap id).flatMap core).Nodup
  /-- any two segments are disjoint or touch only in a common endpoint (no crossing, no overlap, no T-contact) -/
  segs_ok : (lines.flatMap segs ++ (polys.flatMap id).flatMap segs).Pairwise
      fun s t => segRel s.1 s.2 t.1 t.2 = .disjoint ∨ (segRel s.1 s.2 t.1 t.2 = .point false ∧ shareEnd s t = true)
  /-- holes strictly inside their shell, not inside one another -/
  nest : ∀ p ∈ polys, polyNestOK p = true
  /-- no polygon's shell starts inside another polygon -/
  apart : polys.Pairwise fun a b => shellOutside a b = true ∧ shellOutside b a = true

def TpsLine (inp out : List Pt) : Prop :=
  out.Sublist inp ∧ out.head? = inp.head? ∧ out.getLast? = inp.getLast? ∧ 2 ≤ out.length

def TpsRing (inp out : Ring) : Prop :=
  closed out = true ∧ 4 ≤ out.length ∧ ∃ k, (core out).Sublist ((core inp).rotateLeft k)

structure TpsContract (inLines outLines : List (List Pt)) (inPolys outPolys : List (List Ring)) : Prop where
  /-- same number of lines; each output line a subsequence of its input line with both endpoints kept -/
  lines : All2 TpsLine inLines outLines
  /-- same number of polygons and of rings in each; each output ring a closed cyclic subsequence of its input ring -/
  rings : All2 (All2 TpsRing) inPolys outPolys
  valid : StrictlyValid outLines outPolys

theorem tpsLineOK_sound (inp out : List Pt) (h : tpsLineOK inp out = true) : TpsLine inp out := by
  simp only [tpsLineOK, Bool.and_eq_true, decide_eq_true_eq] at h
  obtain ⟨⟨⟨h1, h2⟩, h3⟩, h4⟩ := h
  refine ⟨isSub_sound _ _ h1, h2, h3, ?_⟩
  split at h4 <;> omega

theorem tpsRingOK_sound (inp out : Ring) (h : tpsRingOK inp out = true) : TpsRing inp out := by
  simp only [tpsRingOK, Bool.and_eq_true, decide_eq_true_eq] at h
  exact ⟨h.1.1, h.1.2, cyclicSub_sound _ _ h.2⟩

structure RingHull (grow : Bool) (inp out : Ring) : Prop where
  closed : closed out = true
  len : 4 ≤ out.length
  /-- hull vertices are input vertices in ring order (either orientation) -/
  subset : ∃ k, (core out).Sublist ((core inp).rotateLeft k) ∨ (core out).Sublist ((core inp).reverse.rotateLeft k)
  /-- growing hull: every input vertex is inside or on the hull ring -/
  contains : grow = true → ∀ v ∈ inp, locateInRing v out ≠ .exterior
  /-- shrinking hull: no input vertex is strictly inside the hull ring -/
  within : grow = false → ∀ v ∈ inp, locateInRing v out ≠ .interior
  /-- no input edge properly crosses a hull edge -/
  nocross : ∀ s ∈ segs inp, ∀ t ∈ segs out, segRel s.1 s.2 t.1 t.2 ≠ .point true

theorem ringHullOK_sound (grow : Bool) (inp out : Ring) (h : ringHullOK grow inp out = true) : RingHull grow inp out := by
  simp only [ringHullOK, Bool.and_eq_true, Bool.or_eq_true, decide_eq_true_eq, List.all_eq_true] at h
  obtain ⟨⟨⟨⟨h1, h2⟩, h3⟩, h4⟩, h5⟩ := h
  refine ⟨h1, h2, ?_, ?_, ?_, ?_⟩
  · rcases h3 with h3 | h3
    · obtain ⟨k, hk⟩ := cyclicSub_sound _ _ h3; exact ⟨k, Or.inl hk⟩
    · obtain ⟨k, hk⟩ := cyclicSub_sound _ _ h3; exact ⟨k, Or.inr hk⟩
  · intro hg v hv
    simp only [hg, if_true, List.all_eq_true] at h4
    simpa using h4 v hv
  · intro hg v hv
    simp only [hg, Bool.false_eq_true, if_false, List.all_eq_true] at h4
    simpa using h4 v hv
  · intro s hs t ht
    exact noProperCross_spec s t (h5 s hs t ht)

/-- one polygon: shell hull in the requested direction, hole hulls in the opposite one, same number of holes -/
def PolyHull (outer : Bool) (inp out : List Ring) : Prop :=
  ∃ shi hsi sho hso, inp = shi :: hsi ∧ out = sho :: hso ∧ RingHull outer shi sho ∧ All2 (RingHull (!outer)) hsi hso

theorem polyHullOK_sound (outer : Bool) (inp out : List Ring) (h : polyHullOK outer inp out = true) :
    PolyHull outer inp out := by
  match inp, out, h with
  | shi :: hsi, sho :: hso, h =>
    simp only [polyHullOK, Bool.and_eq_true] at h
    exact ⟨shi, hsi, sho, hso, rfl, rfl, ringHullOK_sound _ _ _ h.1,
      (zipAll_sound _ _ _ h.2).mono (ringHullOK_sound _)⟩
  | [], _, h => simp [polyHullOK] at h
  | _ :: _, [], h => simp [polyHullOK] at h

structure HullContract (outer : Bool) (inPolys outPolys : List (List Ring)) : Prop where
  polys : All2 (PolyHull outer) inPolys outPolys
  valid : StrictlyValid [] outPolys

structure CovRing (inAll outAll : List Seg) (inp out : Ring) : Prop where
  closed : closed out = true
  len : 4 ≤ out.length
  subset : ∃ k, (alignedCore inp out).Sublist ((core inp).rotateLeft k)
  /-- every output segment stands for a non-empty stretch of input segments that was entirely shared with another
  ring — then the output segment occurs in exactly two output rings — or entirely on the boundary — then once -/
  matched : ∀ s ∈ cycPairs (alignedCore inp out),
    span (core inp) s.1 s.2 ≠ [] ∧
    (((∀ e ∈ span (core inp) s.1 s.2, segCount inAll e = 2) ∧ segCount outAll s = 2) ∨
     ((∀ e ∈ span (core inp) s.1 s.2, segCount inAll e = 1) ∧ segCount outAll s = 1))

theorem covRingOK_sound (inAll outAll : List Seg) (inp out : Ring) (h : covRingOK inAll outAll inp out = true) :
    CovRing inAll outAll inp out := by
  simp only [covRingOK, Bool.and_eq_true, decide_eq_true_eq, List.all_eq_true] at h
  obtain ⟨⟨⟨h1, h2⟩, h3⟩, h4⟩ := h
  refine ⟨h1, h2, cyclicSub_sound _ _ h3, ?_⟩
  intro s hs
  have := h4 s hs
  simp only [Bool.and_eq_true, Bool.or_eq_true, Bool.not_eq_true', List.isEmpty_eq_false_iff, List.all_eq_true,
    beq_iff_eq] at this
  exact ⟨this.1, this.2⟩

structure CovContract (preserveBoundary : Bool) (inPolys outPolys : List (List Ring)) : Prop where
  /-- same number of polygons and rings; every ring edge-matched as described by `CovRing`; nodes kept; boundary kept -/
  rings : All2 (All2 fun i o =>
      CovRing ((inPolys.flatMap id).flatMap segs) ((outPolys.flatMap id).flatMap segs) i o ∧
      (∀ v ∈ core i, 3 ≤ ringCountOf (inPolys.flatMap id) v → v ∈ core o) ∧
      (preserveBoundary = true → ∀ e ∈ segs i, segCount ((inPolys.flatMap id).flatMap segs) e = 1 →
        ∃ t ∈ segs o, sameSeg e t = true)) inPolys outPolys
  simple : ∀ r ∈ outPolys.flatMap id, (core r).Nodup
  /-- distinct output segments are identical, disjoint, or touch in a common endpoint -/
  segs_ok : ((((outPolys.flatMap id).flatMap segs).map normSeg).eraseDups).Pairwise fun s t => segOKCov s t = true

end GeosModel.Simplify
