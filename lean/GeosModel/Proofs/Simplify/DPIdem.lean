import GeosModel.Proofs.Simplify.DP
/-!
Idempotence of the Douglas–Peucker recursion on open lines: running it on its own output changes nothing.
Key fact: the scan loop returns the *first* vertex attaining the maximum distance; that vertex is kept, every
vertex before it is strictly nearer, so on the output (a subsequence containing it) the scan picks it again.
-/
namespace GeosModel.DP
variable {Pt D : Type}

/-- order laws plus compatibility of `>` with `<=` -/
structure OrdLaws2 (o : Ops Pt D) : Prop extends OrdLaws o where
  gt_of_gt_of_le : ∀ a b c, o.gt a b = true → o.le c b = true → o.gt a c = true

theorem scan_append (o : Ops Pt D) (a b : Pt) : ∀ (l1 l2 : List Pt) (k : Nat) (acc : D × Option Nat),
    scan o a b (l1 ++ l2) k acc = scan o a b l2 (k + l1.length) (scan o a b l1 k acc)
  | [], l2, k, acc => by simp [scan]
  | p :: ps, l2, k, acc => by
    simp only [List.cons_append, scan, List.length_cons]
    rw [scan_append o a b ps l2 (k + 1)]
    congr 1
    omega

theorem scan_noupdate (o : Ops Pt D) (a b : Pt) : ∀ (ps : List Pt) (k : Nat) (acc : D × Option Nat),
    (∀ p ∈ ps, o.gt (o.dist a b p) acc.1 = false) → scan o a b ps k acc = acc
  | [], _, _, _ => rfl
  | p :: ps, k, acc, h => by
    simp only [scan, h p (by simp), Bool.false_eq_true, if_false]
    exact scan_noupdate o a b ps (k + 1) acc (fun q hq => h q (List.mem_cons_of_mem _ hq))

theorem sect_idem (o : Ops Pt D) (L : OrdLaws2 o) (tol : D) (fuel : Nat) (a : Pt) (mid : List Pt) (b : Pt) :
    mid.length < fuel → ∀ fuel', (sect o tol fuel a mid b).length < fuel' →
      sect o tol fuel' a (sect o tol fuel a mid b) b = sect o tol fuel a mid b := by
  refine sect_rec o tol (fun f a mid b s _ => s = sect o tol f a mid b → mid.length < f → ∀ f', s.length < f' → sect o tol f' a s b = s)
    ?_ ?_ ?_ fuel a mid b rfl
  · -- unchanged: the second run, with enough fuel, is the first
    intro f a mid b h hf f' hf'
    rw [sect_fuel_irrel o tol f' f a mid b hf' hf, ← h]
  · intro f a mid b _ _ _ f' _
    exact sect_nil o tol a b f'
  · intro f a l m r b hle hk ih1 ih2 _ hf f' hf'
    rcases farthest_spec o a b (l ++ m :: r) with h0 | ⟨l', m', r', e1, e2, e3, e4⟩
    · rw [h0] at hk; exact nomatch hk
    obtain ⟨rfl, e1'⟩ := List.append_inj e1 (by rw [e2] at hk; exact Option.some.inj hk.symm)
    obtain ⟨rfl, rfl⟩ := List.cons.inj e1'
    simp only [List.length_append, List.length_cons] at hf hf'
    generalize ho1 : sect o tol f a l m = o1 at *
    generalize ho2 : sect o tol f m r b = o2 at *
    have hs1 : o1.Sublist l := ho1 ▸ sect_sublist o tol f a l m
    have hs2 : o2.Sublist r := ho2 ▸ sect_sublist o tol f m r b
    -- the second scan picks `m` again
    have hpick1 : o.gt (o.dist a b m) (scan o a b o1 0 (o.init, none)).1 = true := by
      apply L.gt_of_gt_of_le _ _ _ e3
      rcases farthest_spec o a b o1 with h | ⟨l1, p, r1, hp, h, -⟩
      · rw [← farthest, h]; exact scan_mono o L.toOrdLaws a b l 0 (o.init, none)
      · rw [← farthest, h]; exact farthest_bound o L.toOrdLaws a b l p (hs1.subset (hp ▸ by simp))
    have hpick : farthest o a b (o1 ++ m :: o2) = (o.dist a b m, some o1.length) := by
      rw [farthest, scan_append]
      simp only [scan, Nat.zero_add, hpick1, if_true]
      exact scan_noupdate o a b o2 _ _ (fun p hp => e4 p (hs2.subset hp))
    cases f' with
    | zero => omega
    | succ n' =>
      rw [sect_split o tol n' a o1 m o2 b (by rw [hpick]; rw [e2] at hle; exact hle) (by rw [hpick]),
        ih1 rfl (by omega) n' (by omega), ih2 rfl (by omega) n' (by omega)]
end GeosModel.DP
