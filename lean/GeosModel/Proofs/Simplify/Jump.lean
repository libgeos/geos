import GeosModel.Model.Simplify.Jump
import GeosModel.Proofs.Kernel.RayCountCorrect
/-!
`ComponentJumpChecker` (Model/Simplify/Jump.lean): the loop over the components is a `List.any`, so neither the order of the
components nor their grouping matters; and the parity test of one component means "inside the closed curve made of the section and
the flattening segment" (`hasJumpAtComponent_iff_inside`, through the crossing count that C07 proves correct).
-/
namespace GeosModel.Jump
open GeosModel.Kernel GeosModel.RayCount

/-- the loop over the components looks for one that jumps -/
theorem hasJumpLoop_eq_any (self : Nat) (env : Env) (sect : List Seg) (seg : Seg) (comps : List (Nat × Pt)) :
    hasJumpLoop self env sect seg comps =
      comps.any fun c => decide (c.1 ≠ self) && Env.containsPt env c.2.x c.2.y && hasJumpAtComponent c.2 sect seg := by
  induction comps with
  | nil => rfl
  | cons c r ih =>
    obtain ⟨i, p⟩ := c
    rw [List.any_cons, ← ih, hasJumpLoop]
    by_cases h1 : i = self
    · simp only [h1, if_true, ne_eq, not_true_eq_false, decide_false, Bool.false_and, Bool.false_or]
    · cases h2 : Env.containsPt env p.x p.y <;> cases h3 : hasJumpAtComponent p sect seg <;> simp [h1]

/-- component `c` is one that makes `hasJump` answer `true`: another component, its point in the box of the section,
crossing parities of section and flattening segment differ -/
def Jumps (self : Nat) (env : Env) (sect : List Seg) (seg : Seg) (c : Nat × Pt) : Prop :=
  c.1 ≠ self ∧ Env.containsPt env c.2.x c.2.y = true ∧ hasJumpAtComponent c.2 sect seg = true

theorem hasJumpLoop_iff (self : Nat) (env : Env) (sect : List Seg) (seg : Seg) (comps : List (Nat × Pt)) :
    hasJumpLoop self env sect seg comps = true ↔ ∃ c ∈ comps, Jumps self env sect seg c := by
  simp only [hasJumpLoop_eq_any, List.any_eq_true, Jumps, Bool.and_eq_true, decide_eq_true_eq, and_assoc]

theorem hasJumpLoop_perm (self : Nat) (env : Env) (sect : List Seg) (seg : Seg) (c1 c2 : List (Nat × Pt))
    (h : c1.Perm c2) : hasJumpLoop self env sect seg c1 = hasJumpLoop self env sect seg c2 := by
  rw [hasJumpLoop_eq_any, hasJumpLoop_eq_any, h.any_eq]

theorem hasJumpAtComponent_self (p : Pt) (seg : Seg) : hasJumpAtComponent p [seg] seg = false := by
  simp [hasJumpAtComponent]

/-! ### what the parity test means: the component point is inside the closed curve "section + flattening segment" -/

theorem countSegs_count (p : Pt) : ∀ (segs : List Seg) (st : RCC),
    (countSegs p st segs).count = st.count + (segs.map (fun e => segInc p e.1 e.2)).sum
  | [], st => by simp [countSegs]
  | e :: r, st => by
    simp only [countSegs, List.map_cons, List.sum_cons]
    rw [countSegs_count p r, countSegment_eq]
    simp only; omega

/-- off the segments, the crossing count counts the segments the ray crosses -/
theorem crossingCount_eq (p : Pt) (segs : List Seg) (h : ∀ e ∈ segs, onSegment e.1 e.2 p = false) :
    crossingCount p segs = (segs.filter (fun e => crosses p e.1 e.2)).length := by
  have h' : segs.any (fun e => segOn p e.1 e.2) = false :=
    List.any_eq_false.2 fun e he hs => Bool.false_ne_true ((h e he).symm.trans (segOn_sound p e.1 e.2 hs))
  unfold crossingCount
  rw [countSegs_count, sum_segInc p segs h']
  simp [RCC.init]

/-- swapping the end points exchanges the upward and the downward case, which exclude each other, and the sign of `det` -/
theorem crosses_swap (p a b : Pt) : crosses p b a = crosses p a b := by
  unfold crosses
  rw [det_swap12]
  generalize det a b p = d
  rw [show decide (-d > 0) = decide (d < 0) from decide_eq_decide.2 (by omega),
    show decide (-d < 0) = decide (d > 0) from decide_eq_decide.2 (by omega)]
  generalize hU : (decide (a.y ≤ p.y) && decide (p.y < b.y)) = up
  generalize hD : (decide (b.y ≤ p.y) && decide (p.y < a.y)) = down
  cases up <;> cases down <;> try rfl
  simp only [Bool.and_eq_true, decide_eq_true_eq] at hU hD
  omega

/-- **meaning of `hasJumpAtComponent`**: for a component point that lies on none of the segments involved, the parities of the
crossing counts of the section `vs` (from `a` to `b`) and of the flattening segment `(a, b)` differ exactly when the point lies
inside the closed curve formed by the section and the flattening segment (even–odd rule, `Kernel.locateInRing`) — flattening would
move the component to the other side of the line -/
theorem hasJumpAtComponent_iff_inside (p : Pt) (vs : List Pt) (a b : Pt) (hb : vs.getLast? = some b)
    (hoff : ∀ e ∈ edges (vs ++ [a]), onSegment e.1 e.2 p = false) :
    hasJumpAtComponent p (edges vs) (a, b) = decide (locateInRing p (vs ++ [a]) = Loc.interior) := by
  have hE := edges_append_last vs b a hb
  have hnb : (edges (vs ++ [a])).any (fun e => onSegment e.1 e.2 p) = false :=
    List.any_eq_false.2 fun e he => by rw [hoff e he]; exact Bool.false_ne_true
  unfold hasJumpAtComponent locateInRing
  rw [crossingCount_eq p _ fun e he => hoff e (by rw [hE]; exact List.mem_append_left _ he),
    crossingCount_eq p [(a, b)] fun e he => by
      rw [List.mem_singleton.1 he, ← onSegment_symm]; exact hoff (b, a) (by rw [hE]; simp)]
  simp only [hnb, Bool.false_eq_true, if_false]
  rw [hE, List.filter_append, List.length_append]
  simp only [List.filter_cons, List.filter_nil]
  rw [crosses_swap p a b]
  -- with `S` crossings of the section and `c ∈ {0, 1}` of the segment: the parities differ iff `S + c` is odd
  generalize ((edges vs).filter fun e => crosses p e.1 e.2).length = S
  cases crosses p a b <;> simp
  · rcases Nat.mod_two_eq_zero_or_one S with h | h <;> simp [h]
  · rcases Nat.mod_two_eq_zero_or_one S with h | h <;> simp [h] <;> omega

end GeosModel.Jump
