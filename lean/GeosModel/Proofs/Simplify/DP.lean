import GeosModel.Model.Simplify.DP
/-!
Lemmas about the Douglas–Peucker model: what the farthest-vertex scan returns (an upper bound of every distance it saw;
`scan_spec`), one induction for the recursion (`sect_rec`) and what it yields (a *segment cover* of the input, a sublist), the
mask formulation equals the list formulation, fuel beyond the section length changes nothing, and the shape of the list when the
ring post-step fires.
-/
namespace GeosModel.DP
variable {Pt D : Type}

/-- what the theorems need of `>` / `<=` on `D` (true of IEEE doubles without NaN, of `Int`, `Rat`, …) -/
structure OrdLaws (o : Ops Pt D) : Prop where
  le_refl : ∀ a, o.le a a = true
  le_trans : ∀ a b c, o.le a b = true → o.le b c = true → o.le a c = true
  not_gt_le : ∀ a b, o.gt a b = false → o.le a b = true
  gt_le : ∀ a b, o.gt a b = true → o.le b a = true

theorem getLast?_append_cons {α : Type} (l : List α) (b : α) (r : List α) :
    (l ++ b :: r).getLast? = (b :: r).getLast? := by
  rw [List.getLast?_append, List.getLast?_cons]; simp

/-! ### specification relations -/

/-- `Within P a mid b out`: `out` are the kept interior vertices of the section `a, mid…, b`, and every dropped
vertex `p` lying between consecutive kept vertices `x, y` (of `a :: out ++ [b]`) satisfies `P x y p`. -/
inductive Within (P : Pt → Pt → Pt → Prop) : Pt → List Pt → Pt → List Pt → Prop
  | flat (a : Pt) (mid : List Pt) (b : Pt) : (∀ p ∈ mid, P a b p) → Within P a mid b []
  | split (a : Pt) (l : List Pt) (m : Pt) (r : List Pt) (b : Pt) (o1 o2 : List Pt) :
      Within P a l m o1 → Within P m r b o2 → Within P a (l ++ m :: r) b (o1 ++ m :: o2)

/-- `SegCover P inp out`: `out` starts and ends where `inp` does, and `inp` is `out` with, between each two
consecutive output vertices `a, b`, a run `ds` of dropped vertices all satisfying `P a b ·`. -/
inductive SegCover (P : Pt → Pt → Pt → Prop) : List Pt → List Pt → Prop
  | last (b : Pt) : SegCover P [b] [b]
  | seg (a : Pt) (ds : List Pt) (b : Pt) (rest out : List Pt) :
      (∀ p ∈ ds, P a b p) → SegCover P (b :: rest) (b :: out) → SegCover P (a :: (ds ++ b :: rest)) (a :: b :: out)

theorem within_keep_all (P : Pt → Pt → Pt → Prop) : ∀ (mid : List Pt) (a b : Pt), Within P a mid b mid
  | [], a, b => Within.flat a [] b (by simp)
  | m :: r, a, b => by
    have h := Within.split a [] m r b [] r (Within.flat a [] m (by simp)) (within_keep_all P r m b)
    simpa using h

theorem within_to_segcover (P : Pt → Pt → Pt → Prop) {a : Pt} {mid : List Pt} {b : Pt} {o : List Pt}
    (h : Within P a mid b o) :
    ∀ (tl otl : List Pt), SegCover P (b :: tl) (b :: otl) → SegCover P (a :: (mid ++ b :: tl)) (a :: (o ++ b :: otl)) := by
  induction h with
  | flat a mid b hp => intro tl otl hs; exact SegCover.seg a mid b tl otl hp hs
  | split a l m r b o1 o2 _ _ ih1 ih2 =>
    intro tl otl hs
    have h2 := ih2 tl otl hs
    have h1 := ih1 (r ++ b :: tl) (o2 ++ b :: otl) h2
    simpa [List.append_assoc] using h1

theorem segcover_mono {P Q : Pt → Pt → Pt → Prop} (hpq : ∀ a b p, P a b p → Q a b p) {inp out : List Pt}
    (h : SegCover P inp out) : SegCover Q inp out := by
  induction h with
  | last b => exact SegCover.last b
  | seg a ds b rest out hp _ ih => exact SegCover.seg a ds b rest out (fun p hm => hpq _ _ _ (hp p hm)) ih

theorem segcover_sublist {P : Pt → Pt → Pt → Prop} {inp out : List Pt} (h : SegCover P inp out) : out.Sublist inp := by
  induction h with
  | last b => exact List.Sublist.refl _
  | seg a ds b rest out _ _ ih =>
    exact List.Sublist.cons_cons a (ih.trans (List.sublist_append_right ds (b :: rest)))

theorem segcover_head {P : Pt → Pt → Pt → Prop} {inp out : List Pt} (h : SegCover P inp out) : out.head? = inp.head? := by
  cases h <;> rfl

theorem segcover_getLast {P : Pt → Pt → Pt → Prop} {inp out : List Pt} (h : SegCover P inp out) :
    out.getLast? = inp.getLast? := by
  induction h with
  | last b => rfl
  | seg a ds b rest out _ _ ih =>
    rw [List.getLast?_cons_cons, ih]
    exact (getLast?_append_cons (a :: ds) b rest).symm

/-- consecutive pairs -/
def pairs : List Pt → List (Pt × Pt)
  | a :: b :: r => (a, b) :: pairs (b :: r)
  | _ => []

/-- the sentence of the property: every input vertex is an output vertex or satisfies `P` for some output segment -/
theorem segcover_mem {P : Pt → Pt → Pt → Prop} {inp out : List Pt} (h : SegCover P inp out) :
    ∀ p ∈ inp, p ∈ out ∨ ∃ s ∈ pairs out, P s.1 s.2 p := by
  induction h with
  | last b => intro p hp; exact Or.inl hp
  | seg a ds b rest out hp _ ih =>
    intro p hm
    simp only [List.mem_cons, List.mem_append] at hm
    rcases hm with rfl | hm | rfl | hm
    · exact Or.inl (by simp)
    · exact Or.inr ⟨(a, b), by simp [pairs], hp p hm⟩
    · exact Or.inl (by simp)
    · rcases ih p (by simp [hm]) with h1 | ⟨s, hs, hps⟩
      · exact Or.inl (List.mem_cons_of_mem _ h1)
      · exact Or.inr ⟨s, by simp [pairs, hs], hps⟩

/-! ### the scan loop -/

/-- the running maximum never decreases … -/
theorem scan_mono (o : Ops Pt D) (L : OrdLaws o) (a b : Pt) : ∀ (ps : List Pt) (k : Nat) (acc : D × Option Nat),
    o.le acc.1 (scan o a b ps k acc).1 = true
  | [], _, acc => L.le_refl _
  | q :: ps, k, acc => by
    rw [scan]
    split
    · next hg => exact L.le_trans _ _ _ (L.gt_le _ _ hg) (scan_mono o L a b ps (k + 1) (o.dist a b q, some k))
    · exact scan_mono o L a b ps (k + 1) acc

/-- … and bounds every distance the loop has seen -/
theorem scan_bound (o : Ops Pt D) (L : OrdLaws o) (a b : Pt) : ∀ (ps : List Pt) (k : Nat) (acc : D × Option Nat),
    ∀ p ∈ ps, o.le (o.dist a b p) (scan o a b ps k acc).1 = true
  | q :: ps, k, acc, p, hp => by
    rw [scan]
    rcases List.mem_cons.mp hp with rfl | hp
    · refine L.le_trans _ _ _ ?_ (scan_mono o L a b ps (k + 1) _)
      split
      · exact L.le_refl _
      · next hg => exact L.not_gt_le _ _ (Bool.eq_false_iff.mpr hg)
    · exact scan_bound o L a b ps (k + 1) _ p hp

/-- after the loop `maxDistance` bounds the distance of every interior vertex -/
theorem farthest_bound (o : Ops Pt D) (L : OrdLaws o) (a b : Pt) (mid : List Pt) :
    ∀ p ∈ mid, o.le (o.dist a b p) (farthest o a b mid).1 = true := fun p hp =>
  scan_bound o L a b mid 0 (o.init, none) p hp

/-- What the farthest-vertex loop returns: either nothing exceeded the running maximum and the state is unchanged, or the
list splits at the last update `m` — which exceeded the maximum of everything before it and is exceeded by nothing after it —
and the state is `m`'s distance and position. -/
theorem scan_spec (o : Ops Pt D) (a b : Pt) : ∀ (ps : List Pt) (k : Nat) (acc : D × Option Nat),
    (scan o a b ps k acc = acc ∧ ∀ p ∈ ps, o.gt (o.dist a b p) acc.1 = false) ∨
    ∃ l m r, ps = l ++ m :: r ∧ scan o a b ps k acc = (o.dist a b m, some (k + l.length)) ∧
      o.gt (o.dist a b m) (scan o a b l k acc).1 = true ∧ ∀ p ∈ r, o.gt (o.dist a b p) (o.dist a b m) = false
  | [], _, _ => Or.inl ⟨rfl, fun _ h => nomatch h⟩
  | q :: ps, k, acc => by
    rw [scan]
    generalize hacc : (if o.gt (o.dist a b q) acc.1 then (o.dist a b q, some k) else acc) = acc'
    rcases scan_spec o a b ps (k + 1) acc' with ⟨h1, h2⟩ | ⟨l, m, r, h1, h2, h3, h4⟩
    · rw [h1]
      by_cases hg : o.gt (o.dist a b q) acc.1 = true
      · rw [if_pos hg] at hacc
        exact Or.inr ⟨[], q, ps, rfl, hacc.symm, hg, by rwa [← hacc] at h2⟩
      · rw [if_neg hg] at hacc
        exact Or.inl ⟨hacc.symm, fun p hp => (List.mem_cons.mp hp).elim (· ▸ Bool.eq_false_iff.mpr hg) (hacc ▸ h2 p)⟩
    · exact Or.inr ⟨q :: l, m, r, by rw [h1]; rfl, by rw [h2, List.length_cons, Nat.add_right_comm, Nat.add_assoc],
        by rw [scan, hacc]; exact h3, h4⟩

/-- … for the whole section: `maxIndex` is set exactly when some vertex exceeded the initial `-1.0` -/
theorem farthest_spec (o : Ops Pt D) (a b : Pt) (mid : List Pt) :
    farthest o a b mid = (o.init, none) ∨
    ∃ l m r, mid = l ++ m :: r ∧ farthest o a b mid = (o.dist a b m, some l.length) ∧
      o.gt (o.dist a b m) (farthest o a b l).1 = true ∧ ∀ p ∈ r, o.gt (o.dist a b p) (o.dist a b m) = false := by
  rcases scan_spec o a b mid 0 (o.init, none) with ⟨h, _⟩ | ⟨l, m, r, h1, h2, h3, h4⟩
  · exact Or.inl h
  · exact Or.inr ⟨l, m, r, h1, by rw [farthest, h2, Nat.zero_add], h3, h4⟩

/-- the relative index found by the farthest-vertex scan points into the section interior -/
theorem farthest_idx (o : Ops Pt D) (a b : Pt) (mid : List Pt) (k : Nat) (h : (farthest o a b mid).2 = some k) :
    k < mid.length := by
  rcases farthest_spec o a b mid with h0 | ⟨l, m, r, h1, h2, -⟩
  · rw [h0] at h; exact nomatch h
  · rw [h2] at h; rw [h1, ← Option.some.inj h, List.length_append, List.length_cons]; omega

/-- if no vertex exceeded the initial `maxDistance`, it still is the initial value -/
theorem farthest_none (o : Ops Pt D) (a b : Pt) (mid : List Pt) (h : (farthest o a b mid).2 = none) :
    (farthest o a b mid).1 = o.init := by
  rcases farthest_spec o a b mid with h0 | ⟨l, m, r, -, h2, -⟩
  · rw [h0]
  · rw [h2] at h; exact nomatch h

/-! ### the recursion -/

/-- One induction for the recursion of `simplifySection`, for the kept vertices `sect` and the `usePt` mask `sectionMask`
together: a section is left unchanged (out of fuel, or the degenerate cases the model keeps), dropped as a whole (empty, or
`maxDistance <= tolerance`), or split at the farthest vertex `m = mid[k]`, which is kept. -/
theorem sect_rec (o : Ops Pt D) (tol : D) (motive : Nat → Pt → List Pt → Pt → List Pt → List Bool → Prop)
    (keep : ∀ f a mid b, motive f a mid b mid (mid.map fun _ => true))
    (drop : ∀ f a mid b, (∀ x xs, mid = x :: xs → o.le (farthest o a b mid).1 tol = true) →
      motive f a mid b [] (mid.map fun _ => false))
    (split : ∀ f a l m r b, ¬ o.le (farthest o a b (l ++ m :: r)).1 tol = true →
      (farthest o a b (l ++ m :: r)).2 = some l.length →
      motive f a l m (sect o tol f a l m) (sectionMask o tol f a l m) →
      motive f m r b (sect o tol f m r b) (sectionMask o tol f m r b) →
      motive (f + 1) a (l ++ m :: r) b (sect o tol f a l m ++ m :: sect o tol f m r b)
        (sectionMask o tol f a l m ++ true :: sectionMask o tol f m r b)) :
    ∀ f a mid b, motive f a mid b (sect o tol f a mid b) (sectionMask o tol f a mid b)
  | 0, a, mid, b => keep 0 a mid b
  | f + 1, a, [], b => drop (f + 1) a [] b (fun _ _ h => nomatch h)
  | f + 1, a, x :: xs, b => by
    simp only [sect, sectionMask]
    split
    · next hle => exact drop _ _ _ _ (fun _ _ _ => hle)
    · next hle =>
      split
      · exact keep _ _ _ _
      · next k hk =>
        split
        · exact keep _ _ _ _
        · next m rest hd =>
          have hsplit : (x :: xs) = (x :: xs).take k ++ m :: rest := by rw [← hd, List.take_append_drop]
          have hkl : ((x :: xs).take k).length = k := by
            have := congrArg List.length hd
            simp only [List.length_drop, List.length_cons] at this
            rw [List.length_take, List.length_cons]; omega
          have := split f a ((x :: xs).take k) m rest b (by rw [← hsplit]; exact hle) (by rw [← hsplit, hkl]; exact hk)
            (sect_rec o tol motive keep drop split f a _ m) (sect_rec o tol motive keep drop split f m rest b)
          rw [← hsplit] at this
          exact this

theorem sect_nil (o : Ops Pt D) (tol : D) (a b : Pt) : ∀ fuel, sect o tol fuel a [] b = []
  | 0 => rfl
  | _ + 1 => rfl

theorem sect_split (o : Ops Pt D) (tol : D) (f : Nat) (a : Pt) (l : List Pt) (m : Pt) (r : List Pt) (b : Pt)
    (hle : ¬ o.le (farthest o a b (l ++ m :: r)).1 tol = true) (hk : (farthest o a b (l ++ m :: r)).2 = some l.length) :
    sect o tol (f + 1) a (l ++ m :: r) b = sect o tol f a l m ++ m :: sect o tol f m r b := by
  cases hc : l ++ m :: r with
  | nil => exact absurd hc (by simp)
  | cons x xs =>
    simp only [sect]
    rw [← hc, if_neg hle, hk]
    simp only [List.drop_left, List.take_left]

/-- whenever the code drops a whole section, `P` holds for each of its vertices ⇒ the result is `Within P` -/
theorem section_within (o : Ops Pt D) (tol : D) (P : Pt → Pt → Pt → Prop)
    (hdrop : ∀ a b mid, o.le (farthest o a b mid).1 tol = true → ∀ p ∈ mid, P a b p)
    (fuel : Nat) (a : Pt) (mid : List Pt) (b : Pt) : Within P a mid b (sect o tol fuel a mid b) :=
  sect_rec o tol (fun _ a mid b s _ => Within P a mid b s) (fun _ a mid b => within_keep_all P mid a b)
    (fun _ a mid b h => Within.flat a mid b (by
      cases mid with
      | nil => exact fun _ hp => nomatch hp
      | cons x xs => exact hdrop a b _ (h x xs rfl)))
    (fun _ a l m r b _ _ h1 h2 => Within.split a l m r b _ _ h1 h2) fuel a mid b

/-- the kept interior vertices are interior vertices, in order -/
theorem sect_sublist (o : Ops Pt D) (tol : D) (fuel : Nat) (a : Pt) (mid : List Pt) (b : Pt) :
    (sect o tol fuel a mid b).Sublist mid :=
  sect_rec o tol (fun _ _ mid _ s _ => s.Sublist mid) (fun _ _ mid _ => List.Sublist.refl mid)
    (fun _ _ mid _ _ => List.nil_sublist mid)
    (fun _ _ _ m _ _ _ _ h1 h2 => List.Sublist.append h1 (List.Sublist.cons_cons m h2)) fuel a mid b

theorem list_ends {α : Type} : ∀ (l : List α), l = [] ∨ (∃ a, l = [a]) ∨ ∃ a mid b, l = a :: (mid ++ [b])
  | [] => Or.inl rfl
  | a :: r => by
    rcases List.eq_nil_or_concat r with rfl | ⟨mid, b, rfl⟩
    · exact Or.inr (Or.inl ⟨a, rfl⟩)
    · exact Or.inr (Or.inr ⟨a, mid, b, by rw [List.concat_eq_append]⟩)

theorem simplifyLine_ends (o : Ops Pt D) (tol : D) (a : Pt) (mid : List Pt) (b : Pt) :
    simplifyLine o tol (a :: (mid ++ [b])) = a :: (sect o tol (mid.length + 1) a mid b ++ [b]) := by
  simp [simplifyLine]

theorem simplifyLine_segcover (o : Ops Pt D) (tol : D) (P : Pt → Pt → Pt → Prop)
    (hdrop : ∀ a b mid, o.le (farthest o a b mid).1 tol = true → ∀ p ∈ mid, P a b p)
    (pts : List Pt) (hne : pts ≠ []) : SegCover P pts (simplifyLine o tol pts) := by
  rcases list_ends pts with rfl | ⟨a, rfl⟩ | ⟨a, mid, b, rfl⟩
  · exact absurd rfl hne
  · exact SegCover.last a
  · rw [simplifyLine_ends]
    exact within_to_segcover P (section_within o tol P hdrop _ a mid b) [] [] (SegCover.last b)

/-! ### mask formulation = list formulation -/

theorem applyMask_all_true : ∀ (l : List Pt), applyMask l (l.map fun _ => true) = l
  | [] => rfl
  | p :: ps => congrArg (p :: ·) (applyMask_all_true ps)

theorem applyMask_all_false : ∀ (l : List Pt), applyMask l (l.map fun _ => false) = []
  | [] => rfl
  | _ :: ps => applyMask_all_false ps

theorem applyMask_append : ∀ (l1 : List Pt) (m1 : List Bool) (l2 : List Pt) (m2 : List Bool),
    m1.length = l1.length → applyMask (l1 ++ l2) (m1 ++ m2) = applyMask l1 m1 ++ applyMask l2 m2
  | [], [], _, _, _ => rfl
  | [], _ :: _, _, _, h => nomatch h
  | _ :: _, [], _, _, h => nomatch h
  | p :: ps, u :: us, l2, m2, h => by
    have ih := applyMask_append ps us l2 m2 (Nat.succ.inj h)
    cases u
    · exact ih
    · exact congrArg (p :: ·) ih

theorem sectionMask_nil (o : Ops Pt D) (tol : D) (fuel : Nat) (a b : Pt) : sectionMask o tol fuel a [] b = [] := by
  cases fuel <;> simp [sectionMask]

/-- no vertex exceeded the initial `maxDistance` and the section is not dropped: the mask stays all `true` -/
theorem sectionMask_of_none (o : Ops Pt D) (tol : D) (a b : Pt) (mid : List Pt)
    (hle : ¬ o.le (farthest o a b mid).1 tol = true) (hs : (farthest o a b mid).2 = none) :
    ∀ fuel, sectionMask o tol fuel a mid b = mid.map fun _ => true
  | 0 => rfl
  | fuel + 1 => by
    cases mid with
    | nil => rfl
    | cons x xs => simp only [sectionMask, hle, hs, Bool.false_eq_true, ↓reduceIte]

/-- the dropping and the splitting branch of `sectionMask`, as equations -/
theorem sectionMask_drop (o : Ops Pt D) (tol : D) (f : Nat) (a b : Pt) (mid : List Pt)
    (hle : o.le (farthest o a b mid).1 tol = true) : sectionMask o tol (f + 1) a mid b = mid.map fun _ => false := by
  cases mid with
  | nil => rfl
  | cons x xs => simp only [sectionMask, hle, if_true]

theorem sectionMask_split (o : Ops Pt D) (tol : D) (f : Nat) (a b : Pt) (mid : List Pt) (k : Nat) (m : Pt) (rest : List Pt)
    (hle : ¬ o.le (farthest o a b mid).1 tol = true) (hk : (farthest o a b mid).2 = some k) (hd : mid.drop k = m :: rest) :
    sectionMask o tol (f + 1) a mid b = sectionMask o tol f a (mid.take k) m ++ true :: sectionMask o tol f m rest b := by
  cases mid with
  | nil => simp at hd
  | cons x xs => simp only [sectionMask, hle, hk, hd, Bool.false_eq_true, if_false]
/-- the mask has one flag per interior vertex, and collecting through it gives the kept vertices -/
theorem sectionMask_spec (o : Ops Pt D) (tol : D) (fuel : Nat) (a : Pt) (mid : List Pt) (b : Pt) :
    (sectionMask o tol fuel a mid b).length = mid.length ∧
      applyMask mid (sectionMask o tol fuel a mid b) = sect o tol fuel a mid b :=
  sect_rec o tol (fun _ _ mid _ s k => k.length = mid.length ∧ applyMask mid k = s)
    (fun _ _ mid _ => ⟨List.length_map _, applyMask_all_true mid⟩)
    (fun _ _ mid _ _ => ⟨List.length_map _, applyMask_all_false mid⟩)
    (fun _ _ l m r _ _ _ h1 h2 => ⟨by simp only [List.length_append, List.length_cons, h1.1, h2.1],
      by rw [applyMask_append _ _ _ _ h1.1, h1.2]; exact congrArg (_ ++ m :: ·) h2.2⟩) fuel a mid b

theorem sectionMask_length (o : Ops Pt D) (tol : D) (fuel : Nat) (a : Pt) (mid : List Pt) (b : Pt) :
    (sectionMask o tol fuel a mid b).length = mid.length := (sectionMask_spec o tol fuel a mid b).1

theorem applyMask_section (o : Ops Pt D) (tol : D) (fuel : Nat) (a : Pt) (mid : List Pt) (b : Pt) :
    applyMask mid (sectionMask o tol fuel a mid b) = sect o tol fuel a mid b := (sectionMask_spec o tol fuel a mid b).2

theorem simplifyLineMask_ends (o : Ops Pt D) (tol : D) (a : Pt) (mid : List Pt) (b : Pt) :
    simplifyLineMask o tol (a :: (mid ++ [b])) =
      applyMask (a :: (mid ++ [b])) (true :: (sectionMask o tol (mid.length + 1) a mid b ++ [true])) := by
  simp [simplifyLineMask]

/-! ### fuel: `mid.length + 1` is enough, more changes nothing -/

theorem sect_fuel_irrel (o : Ops Pt D) (tol : D) :
    ∀ (f1 f2 : Nat) (a : Pt) (mid : List Pt) (b : Pt), mid.length < f1 → mid.length < f2 →
      sect o tol f1 a mid b = sect o tol f2 a mid b
  | 0, _, _, _, _, h, _ => by omega
  | _ + 1, 0, _, _, _, _, h => by omega
  | n1 + 1, n2 + 1, a, [], b, _, _ => by simp [sect]
  | n1 + 1, n2 + 1, a, x :: xs, b, h1, h2 => by
    simp only [sect]
    split
    · rfl
    · split
      · rfl
      · rename_i k _
        split
        · rfl
        · rename_i m rest hd
          have hlen : ((x :: xs).drop k).length = rest.length + 1 := by rw [hd]; simp
          have hk : k < (x :: xs).length := by
            rw [List.length_drop] at hlen; omega
          have ht : ((x :: xs).take k).length < n1 ∧ ((x :: xs).take k).length < n2 := by
            rw [List.length_take]; omega
          have hr : rest.length < n1 ∧ rest.length < n2 := by
            rw [List.length_drop] at hlen; omega
          rw [sect_fuel_irrel o tol n1 n2 a _ m ht.1 ht.2, sect_fuel_irrel o tol n1 n2 m rest b hr.1 hr.2]

/-! ### the ring post-step -/

theorem pairs_cons (z a : Pt) : ∀ (l : List Pt), l.head? = some a → pairs (z :: l) = (z, a) :: pairs l
  | _ :: _, h => by obtain rfl := Option.some.inj h; rfl

theorem pairs_append_singleton (z : Pt) : ∀ (l : List Pt) (q : Pt), l.getLast? = some q →
    pairs (l ++ [z]) = pairs l ++ [(q, z)]
  | [], _, h => by simp at h
  | [a], q, h => by
    have : a = q := by simpa using h
    subst this; simp [pairs]
  | a :: b :: r, q, h => by
    have ih := pairs_append_singleton z (b :: r) q (by simpa [List.getLast?_cons_cons] using h)
    simp only [List.cons_append] at ih ⊢
    simp only [pairs]
    rw [ih]
    simp

/-- shape of `coordList` when the ring post-step fires: `p0 :: core ++ [z]`, `core` running from `p1` to `q`, and `p0` within
the tolerance of the segment `(q, p1)` -/
theorem ringFires_shape (o : Ops Pt D) (tol : D) (out : List Pt) (h : ringFires o tol out = true) :
    ∃ p0 p1 q core z, out = p0 :: (core ++ [z]) ∧ ringCore out = core ∧ core.head? = some p1 ∧ core.getLast? = some q ∧
      o.le (o.dist q p1 p0) tol = true := by
  unfold ringFires at h
  rw [Bool.and_eq_true, decide_eq_true_eq] at h
  obtain ⟨hlen, hc⟩ := h
  rcases list_ends out with rfl | ⟨a, rfl⟩ | ⟨p0, mid, z, rfl⟩
  · exact nomatch hlen
  · exact absurd hlen (by simp)
  · cases mid with
    | nil => exact absurd hlen (by simp)
    | cons p1 t =>
      have hd : (p0 :: (p1 :: t ++ [z])).dropLast = p0 :: p1 :: t := List.dropLast_concat (l₁ := p0 :: p1 :: t)
      rw [hd] at hc
      have hq : (p0 :: p1 :: t).getLast? = some ((p1 :: t).getLast (by simp)) := by
        rw [List.getLast?_cons_cons, List.getLast?_eq_some_getLast]
      rw [hq] at hc
      exact ⟨p0, p1, _, p1 :: t, z, rfl, List.dropLast_concat (l₁ := p1 :: t), rfl, List.getLast?_eq_some_getLast _, hc⟩

end GeosModel.DP
