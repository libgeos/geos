import GeosModel.Model.Fix.Cxx
/-!
Loop lemmas for the bridge theorems of the regenerated element loops of `GeometryFixer` (`Props/C17Gen.lean`):
an index loop `for (i = 0; i < g->getNumGeometries(); i++) … g->getGeometryN(i) …` is the loop over the element list, and
the loops of the model (`filterMap` of the element functions) in closed form.  Core Lean only.
-/
namespace GeosModel.Fix

/-- an index loop over `[k, k + xs.length)` whose body at `k + i` is `f xs[i]` is the loop over `xs` -/
theorem forIn_range'_pointwise {α σ : Type} (f : α → σ → Id (ForInStep σ)) :
    ∀ (xs : List α) (h : Nat → σ → Id (ForInStep σ)) (k : Nat) (init : σ),
      (∀ i (hi : i < xs.length) b, h (k + i) b = f xs[i] b) →
      forIn (List.range' k xs.length) init h = forIn xs init f := by
  intro xs
  induction xs with
  | nil => intro h k init _; rfl
  | cons x xs ih =>
    intro h k init hp
    have h0 : ∀ b, h k b = f x b := by intro b; have := hp 0 (by simp) b; simpa using this
    simp only [List.length_cons, List.range'_succ, List.forIn_cons, h0]
    congr 1
    funext r
    cases r with
    | done b => rfl
    | yield b =>
      refine ih h (k + 1) b (fun i hi b' => ?_)
      have := hp (i + 1) (by simpa using hi) b'
      simp only [List.getElem_cons_succ] at this
      rw [← this]; congr 1; omega

theorem elemAt_getElem (s : Shape) (i : Nat) (h : i < s.elems.length) : s.elemAt i = s.elems[i] := by
  simp [Shape.elemAt, h]

/-- the C++ index loop `for (i = 0; i < g->getNumGeometries(); i++) … g->getGeometryN(i) …` over a Multi* / collection is
the loop over its element list, once the body at an index whose element is `a` is a step function of `a` -/
theorem forIn_elemAt {σ : Type} (s : Shape) (hn : s.numGeometries = s.elems.length) (f : Shape → σ → Id (ForInStep σ))
    (h : Nat → σ → Id (ForInStep σ)) (init : σ) (hp : ∀ a ∈ s.elems, ∀ i b, s.elemAt i = a → h i b = f a b) :
    forIn [0:s.numGeometries] init h = forIn s.elems init f := by
  simp only [hn, Std.Legacy.Range.forIn_eq_forIn_range', Std.Legacy.Range.size, Nat.sub_zero, Nat.add_sub_cancel, Nat.div_one]
  refine forIn_range'_pointwise f s.elems h 0 init fun i hi b => ?_
  rw [Nat.zero_add]
  exact hp _ (List.getElem_mem hi) i b (elemAt_getElem s i hi)

/-! ### the model's loops in closed form -/

/-- loop bodies of the model, as named functions (so that statements about them can be rewritten with) -/
def stepCollect (r : Shape → Option Res) (a : Shape) (b : Vec) : Id (ForInStep Vec) := pure (ForInStep.yield (b.push (r a)))
def stepFilter (r : Shape → Option Res) (a : Shape) (b : Vec) : Id (ForInStep Vec) :=
  match r a with
  | none => pure (ForInStep.yield b)
  | some x => pure (ForInStep.yield (b.push (some x)))
def stepLines (r : Shape → Option Res) (a : Shape) (s : Vec × Bool) : Id (ForInStep (Vec × Bool)) :=
  match r a with
  | none => pure (ForInStep.yield s)
  | some x => pure (ForInStep.yield (s.1.push (some x), s.2 || x.ty != Ty.lineString))

/-- `fixCollection`'s loop: one result per element -/
theorem forIn_collect (r : Shape → Option Res) : ∀ (gs : List Shape) (init : Vec),
    forIn (m := Id) gs init (stepCollect r) = pure (init ++ gs.map r)
  | [], init => by simp
  | g :: gs, init => by
    simp only [List.forIn_cons, stepCollect, pure_bind]
    rw [forIn_collect r gs]; simp [Vec.push]

/-- a loop that appends the non-null element results -/
theorem forIn_filter (r : Shape → Option Res) : ∀ (gs : List Shape) (init : Vec),
    forIn (m := Id) gs init (stepFilter r) = pure (init ++ (gs.filterMap r).map some)
  | [], init => by simp
  | g :: gs, init => by
    -- one step, then the rest of the list; `r g` decides whether the step pushes
    cases hr : r g
    · simp only [List.forIn_cons, stepFilter, hr, pure_bind, forIn_filter r gs]; simp [hr]
    · simp only [List.forIn_cons, stepFilter, hr, pure_bind, forIn_filter r gs]; simp [Vec.push, hr]

/-- `fixMultiLineString`'s loop: the surviving element results and whether one of them is not a LineString -/
theorem forIn_lines (r : Shape → Option Res) : ∀ (gs : List Shape) (v : Vec) (m : Bool),
    forIn (m := Id) gs (v, m) (stepLines r)
      = pure (v ++ (gs.filterMap r).map some, m || (gs.filterMap r).any (fun x => x.ty != Ty.lineString))
  | [], v, m => by simp
  | g :: gs, v, m => by
    cases hr : r g
    · simp only [List.forIn_cons, stepLines, hr, pure_bind, forIn_lines r gs]; simp [hr]
    · simp only [List.forIn_cons, stepLines, hr, pure_bind, forIn_lines r gs]; simp [Vec.push, hr, Bool.or_assoc]

theorem results_map_some (l : List Res) : Vec.results (l.map some) = some l := by
  simp [Vec.results, List.filterMap_map]

/-! the factory calls on a vector without null entries -/
theorem createGeometryCollectionOf_some (l : List Res) : createGeometryCollectionOf () (l.map some) = some (.coll l) := by
  rw [createGeometryCollectionOf, results_map_some]; rfl
theorem createMultiLineStringOf_some (l : List Res) :
    createMultiLineStringOf () (l.map some) = some (.atom .multiLineString l.isEmpty) := by
  rw [createMultiLineStringOf, results_map_some]; rfl
theorem createMultiPointOf_some (l : List Res) :
    createMultiPointOf () (l.map some) = some (.atom .multiPoint l.isEmpty) := by
  rw [createMultiPointOf, results_map_some]; rfl

end GeosModel.Fix
