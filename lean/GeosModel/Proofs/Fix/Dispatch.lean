import GeosModel.Model.Fix.Dispatch
import Mathlib.Tactic.SplitIfs
/-! Case lemmas for the element functions of the GeometryFixer dispatch model (C17 core). -/
namespace GeosModel.Fix

/-- a property holds of an `if` when it holds of each branch under that branch's condition -/
theorem of_ite {α : Type} {P : α → Prop} {c : Prop} [Decidable c] {a b : α} (ha : c → P a) (hb : ¬ c → P b) :
    P (if c then a else b) := by
  by_cases h : c
  · rw [if_pos h]; exact ha h
  · rw [if_neg h]; exact hb h

/-- what `fixLineStringElement` can return -/
def LineCases (keep : Bool) (r : Option Res) : Prop :=
  r = none ∨ r = some (.atom .lineString false) ∨ (keep = true ∧ r = some (.atom .point false))

theorem lineElem_cases (keep e : Bool) (c : Nat) : LineCases keep (fixLineStringElement keep e c) :=
  of_ite (fun _ => .inl rfl) fun _ => of_ite (fun h => .inr (.inr ⟨(Bool.and_eq_true_iff.1 h).1, rfl⟩)) fun _ =>
    of_ite (fun _ => .inl rfl) fun _ => .inr (.inl rfl)

/-- what `fixLinearRingElement` can return -/
def RingCases (keep : Bool) (r : Option Res) : Prop :=
  r = none ∨ r = some (.atom .linearRing false) ∨ r = some (.atom .lineString false) ∨
    (keep = true ∧ r = some (.atom .point false))

theorem ringElem_cases (keep e v : Bool) (c : Nat) : RingCases keep (fixLinearRingElement keep e c v) :=
  of_ite (fun _ => .inl rfl) fun _ => of_ite (fun h => .inr (.inr (.inr ⟨(Bool.and_eq_true_iff.1 h).1, rfl⟩))) fun _ =>
    of_ite (fun _ => .inr (.inr (.inl rfl))) fun _ => of_ite (fun _ => .inl rfl) fun _ =>
      of_ite (fun _ => .inr (.inl rfl)) fun _ => .inr (.inr (.inl rfl))

theorem Area.res_cases (a : Area) :
    a.res = .atom .polygon true ∨ a.res = .atom .polygon false ∨ a.res = .atom .multiPolygon false := by
  cases a <;> simp [Area.res]

theorem Area.res_isEmpty (a : Area) : a.res.isEmpty = (a == .empty) := by cases a <;> rfl

/-- what `fixPolygonElement` can return -/
def PolyCases (keep : Bool) (r : Option Res) : Prop :=
  r = none ∨ r = some (.atom .polygon false) ∨ r = some (.atom .polygon true) ∨ r = some (.atom .multiPolygon false) ∨
    (keep = true ∧ (r = some (.atom .point false) ∨ r = some (.atom .lineString false)))

theorem polyElem_cases (keep se : Bool) (a w : Area) (c n : Nat) : PolyCases keep (fixPolygonElement keep se a c n w) := by
  have hres (x : Area) : PolyCases keep (some x.res) := by
    rcases x.res_cases with h | h | h <;> simp [PolyCases, h]
  refine of_ite (fun _ => of_ite (fun hk => ?_) fun _ => .inl rfl) fun _ => of_ite (fun _ => hres a) fun _ => hres w
  rcases lineElem_cases keep se c with h | h | ⟨-, h⟩
  · exact .inl h
  · exact .inr (.inr (.inr (.inr ⟨hk, .inr h⟩)))
  · exact .inr (.inr (.inr (.inr ⟨hk, .inl h⟩)))

theorem fixList_eq_map (keep : Bool) (l : List Shape) : fixList keep l = l.map (fix keep) := by
  induction l with
  | nil => simp [fixList]
  | cons a r ih => simp [fixList, ih]

theorem fixLineString_ty (keep e : Bool) (c : Nat) :
    (fixLineString keep e c).ty = .lineString ∨ (keep = true ∧ (fixLineString keep e c).ty = .point) := by
  unfold fixLineString
  rcases lineElem_cases keep e c with h | h | ⟨hk, h⟩ <;> rw [h] <;> simp [Res.ty, *]

theorem multiLine_elems (keep : Bool) (ls : List Shape) :
    ∀ r ∈ ls.filterMap (Shape.lineElem keep),
      r = .atom .lineString false ∨ (keep = true ∧ r = .atom .point false) := by
  intro r hr
  obtain ⟨l, _, hl⟩ := List.mem_filterMap.mp hr
  cases l with
  | line e c =>
    simp only [Shape.lineElem] at hl
    rcases lineElem_cases keep e c with h1 | h1 | ⟨hk, h1⟩ <;> rw [h1] at hl <;> simp_all
  | _ => simp [Shape.lineElem] at hl

theorem multiLine_ty (keep : Bool) (ls : List Shape) :
    (fix keep (.multiLine ls)).ty = .multiLineString ∨ (fix keep (.multiLine ls)).ty = .lineString ∨
    (keep = true ∧ ((fix keep (.multiLine ls)).ty = .point ∨ (fix keep (.multiLine ls)).ty = .collection)) := by
  have helem := multiLine_elems keep ls
  simp only [fix]
  by_cases h0 : ls.isEmpty = true
  · simp [h0, Res.ty]
  · simp only [h0, if_false, Bool.false_eq_true]
    generalize ls.filterMap (Shape.lineElem keep) = fixed at helem
    match fixed, helem with
    | [], _ => simp [Res.ty]
    | [one], helem =>
      rcases helem one (by simp) with h1 | ⟨hk, h1⟩ <;> simp [Res.ty, *]
    | a :: b :: r, helem =>
      dsimp only
      by_cases hany : ((a :: b :: r).any fun r => r.ty != Ty.lineString) = true
      · rw [if_pos hany]
        obtain ⟨x, hx, hne⟩ := List.any_eq_true.mp hany
        rcases helem x hx with rfl | ⟨hk, -⟩
        · simp [Res.ty] at hne
        · exact .inr (.inr ⟨hk, .inr rfl⟩)
      · rw [if_neg hany]; simp [Res.ty]

end GeosModel.Fix
