import GeosModel.Proofs.Construct.InteriorPoint
import Mathlib.Tactic.Linarith
import Mathlib.Tactic.Ring
/-!
The even–odd argument behind `InteriorPointArea`: on a scan line that passes through no vertex, the crossings the
scan collects are exactly the crossings of `Kernel.locateInRing`'s ray, so a grid point strictly inside a section
`(c₂ᵢ, c₂ᵢ₊₁)` of the sorted crossing list lies on no ring and inside an odd number of rings.  This file has the steps;
the conclusion is drawn where it is stated, in `Props/C20.lean` §6b.

`Check.lean` and `InteriorPoint.lean` are core Lean only; this file adds `ring`/`linarith` but does not build on
`Proofs/Kernel`, so `mem_of_mem_edges` and `locateInRing_off` stand beside their twins `PolyLocate.edges_mem`,
`PolyLocate.locateInRing_off`.  The insertion sort `sortQ` is proved sorted here and not through `Norm/Sort.lean`: the
order on `Q` is transitive only between fractions with positive denominator (`QPos`), which `CmpOK` cannot express.
-/
namespace GeosModel.Construct
open GeosModel.Kernel

/-- the crossing abscissa `x` is strictly right of the grid point `p` -/
def rightOf (p : Pt) (x : Q) : Bool := (Q.ofInt p.x).lt x
/-- … strictly left of it -/
def leftOf (p : Pt) (x : Q) : Bool := x.lt (Q.ofInt p.x)

theorem rightOf_iff {p : Pt} {x : Q} : rightOf p x = true ↔ 0 < x.num - p.x * x.den := by
  simp only [rightOf, Q.lt, Q.ofInt, decide_eq_true_eq, Nat.cast_one, mul_one, sub_pos]

theorem leftOf_iff {p : Pt} {x : Q} : leftOf p x = true ↔ x.num - p.x * x.den < 0 := by
  simp only [leftOf, Q.lt, Q.ofInt, decide_eq_true_eq, Nat.cast_one, mul_one, sub_neg]

theorem crosses_none {p a b : Pt} (h : (a.y < p.y ∧ b.y < p.y) ∨ (p.y < a.y ∧ p.y < b.y)) : crosses p a b = false := by
  have h1 : ¬ (a.y ≤ p.y ∧ p.y < b.y) := by omega
  have h2 : ¬ (b.y ≤ p.y ∧ p.y < a.y) := by omega
  simp only [crosses, Bool.and_eq_true, decide_eq_true_eq, h1, h2, if_false]
theorem crosses_up {p a b : Pt} (h1 : a.y ≤ p.y) (h2 : p.y < b.y) : crosses p a b = decide (det a b p > 0) := by
  simp only [crosses, Bool.and_eq_true, decide_eq_true_eq, h1, h2, and_self, if_true]
theorem crosses_down {p a b : Pt} (h1 : b.y ≤ p.y) (h2 : p.y < a.y) : crosses p a b = decide (det a b p < 0) := by
  have h0 : ¬ (a.y ≤ p.y ∧ p.y < b.y) := by omega
  simp only [crosses, Bool.and_eq_true, decide_eq_true_eq, h0, h1, h2, and_self, if_true, if_false]

/-! ## the crossing abscissa and the orientation determinant -/

theorem crossX_den_pos (y2 : Int) (a b : Pt) : 0 < (crossX y2 a b).den := by
  unfold crossX
  split
  · exact Nat.one_pos
  · exact Nat.mul_pos Nat.one_pos (Q.div_den_pos _ _)

/-- `(crossX, p.y)` lies on the line through `a` and `b`: the determinant of `a, b, p` is the horizontal offset of
`p` from the crossing, up to the positive denominator and the factor `b.y - a.y` -/
theorem crossX_line {p a b : Pt} (h : a.y ≠ b.y) :
    (b.y - a.y) * ((crossX (2 * p.y) a b).num - p.x * (crossX (2 * p.y) a b).den) =
      (crossX (2 * p.y) a b).den * det a b p := by
  unfold crossX det
  split
  · rename_i hx; simp only [Q.ofInt, Nat.cast_one, hx]; ring
  · have hs := Q.div_spec (n := (2 * p.y - 2 * a.y) * (b.x - a.x)) (d := 2 * (b.y - a.y)) (by omega)
    simp only [Q.add, Q.ofInt, Nat.cast_mul, Nat.cast_one]
    linarith

theorem pos_iff_of_mul_eq {k m x y : Int} (hk : 0 < k) (hm : 0 < m) (h : k * x = m * y) : 0 < x ↔ 0 < y :=
  (mul_pos_iff_of_pos_left hk).symm.trans (h ▸ mul_pos_iff_of_pos_left hm)

theorem rightOf_crossX_up {p a b : Pt} (h1 : a.y < p.y) (h2 : p.y < b.y) :
    rightOf p (crossX (2 * p.y) a b) = decide (det a b p > 0) := by
  rw [Bool.eq_iff_iff, rightOf_iff, decide_eq_true_eq]
  exact pos_iff_of_mul_eq (by omega) (Int.natCast_pos.2 (crossX_den_pos _ a b)) (crossX_line (by omega))

theorem rightOf_crossX_down {p a b : Pt} (h1 : b.y < p.y) (h2 : p.y < a.y) :
    rightOf p (crossX (2 * p.y) a b) = decide (det a b p < 0) := by
  rw [Bool.eq_iff_iff, rightOf_iff, decide_eq_true_eq, ← Int.neg_pos]
  refine pos_iff_of_mul_eq (k := a.y - b.y) (by omega) (Int.natCast_pos.2 (crossX_den_pos (2 * p.y) a b)) ?_
  rw [mul_neg, ← crossX_line (by omega), ← neg_mul, neg_sub]

/-- **the scan's crossing rule is the ray's crossing rule**: for an edge whose end points are not on the line through
`p`, `Kernel.crosses` holds exactly when the scan records a crossing strictly right of `p` -/
theorem crosses_eq_scan {p a b : Pt} (ha : a.y ≠ p.y) (hb : b.y ≠ p.y) :
    crosses p a b = (match edgeCrossing (2 * p.y) a b with | none => false | some x => rightOf p x) := by
  rcases Int.lt_or_gt_of_ne ha with ha' | ha' <;> rcases Int.lt_or_gt_of_ne hb with hb' | hb'
  · rw [edgeCrossing_same_side (Or.inl ⟨by omega, by omega⟩), crosses_none (Or.inl ⟨ha', hb'⟩)]
  · rw [edgeCrossing_straddle (Or.inl ⟨by omega, by omega⟩), crosses_up (Int.le_of_lt ha') hb']
    exact (rightOf_crossX_up ha' hb').symm
  · rw [edgeCrossing_straddle (Or.inr ⟨by omega, by omega⟩), crosses_down (Int.le_of_lt hb') ha']
    exact (rightOf_crossX_down hb' ha').symm
  · rw [edgeCrossing_same_side (Or.inr ⟨by omega, by omega⟩), crosses_none (Or.inr ⟨ha', hb'⟩)]

theorem onSegment_crossing {p a b : Pt} (ha : a.y ≠ p.y) (hb : b.y ≠ p.y) (h : onSegment a b p = true) :
    ∃ x, edgeCrossing (2 * p.y) a b = some x ∧ rightOf p x = false ∧ leftOf p x = false := by
  simp only [onSegment, inBox, Bool.and_eq_true, beq_iff_eq, decide_eq_true_eq] at h
  obtain ⟨hdet, ⟨_, h3⟩, h4⟩ := h
  rw [min_le_iff] at h3; rw [le_max_iff] at h4
  have hst : (a.y < p.y ∧ p.y < b.y) ∨ (b.y < p.y ∧ p.y < a.y) := by
    rcases Int.lt_or_gt_of_ne ha with ha' | ha'
    · exact Or.inl ⟨ha', lt_of_le_of_ne (h4.resolve_left (Int.not_le.2 ha')) hb.symm⟩
    · exact Or.inr ⟨lt_of_le_of_ne (h3.resolve_left (Int.not_le.2 ha')) hb, ha'⟩
  clear h3 h4 ha hb
  have hab : b.y - a.y ≠ 0 := by omega
  refine ⟨_, edgeCrossing_straddle (by omega), ?_⟩
  have h0 := crossX_line (p := p) (a := a) (b := b) fun e => hab (by rw [e, sub_self])
  rw [hdet, mul_zero, mul_eq_zero] at h0
  rw [Bool.eq_false_iff, Bool.eq_false_iff, Ne, Ne, rightOf_iff, leftOf_iff, h0.resolve_left hab]
  exact ⟨Int.lt_irrefl 0, Int.lt_irrefl 0⟩

theorem crossCount_eq {p : Pt} : ∀ (es : List (Pt × Pt)), (∀ e ∈ es, e.1.y ≠ p.y ∧ e.2.y ≠ p.y) →
    (es.filter (fun e => crosses p e.1 e.2)).length =
      ((es.filterMap (fun e => edgeCrossing (2 * p.y) e.1 e.2)).filter (rightOf p)).length := by
  intro es h
  rw [← List.countP_eq_length_filter, ← List.countP_eq_length_filter, List.countP_filterMap]
  refine List.countP_congr fun e he => ?_
  rw [crosses_eq_scan (h e he).1 (h e he).2]
  cases edgeCrossing (2 * p.y) e.1 e.2 <;> rfl

theorem edges_off {p : Pt} {ring : List Pt} (h : ∀ v ∈ ring, v.y ≠ p.y) :
    ∀ e ∈ edges ring, e.1.y ≠ p.y ∧ e.2.y ≠ p.y :=
  fun _ he => ⟨h _ (mem_of_mem_edges he).1, h _ (mem_of_mem_edges he).2⟩

theorem locateInRing_off {p : Pt} {ring : List Pt} (h : ∀ e ∈ edges ring, onSegment e.1 e.2 p = false) :
    locateInRing p ring =
      if ((edges ring).filter (fun e => crosses p e.1 e.2)).length % 2 == 1 then .interior else .exterior := by
  unfold locateInRing
  have : (edges ring).any (fun e => onSegment e.1 e.2 p) = false := by
    rw [List.any_eq_false]; intro e he; simp [h e he]
  simp only [this, Bool.false_eq_true, if_false]

def above (p v : Pt) : Bool := decide (p.y < v.y)

theorem edgeCrossing_none_or_some {p a b : Pt} (ha : a.y ≠ p.y) (hb : b.y ≠ p.y) :
    (above p a = above p b ∧ edgeCrossing (2 * p.y) a b = none) ∨
    (above p a ≠ above p b ∧ ∃ x, edgeCrossing (2 * p.y) a b = some x) := by
  unfold above
  by_cases h : (p.y < a.y ↔ p.y < b.y)
  · exact Or.inl ⟨decide_eq_decide.2 h, edgeCrossing_same_side (by omega)⟩
  · exact Or.inr ⟨mt decide_eq_decide.1 h, _, edgeCrossing_straddle (by omega)⟩

theorem ne_iff_of_ne : ∀ {a b : Bool}, a ≠ b → ∀ z, a ≠ z ↔ b = z := by decide

theorem polyline_parity {p : Pt} : ∀ (r : List Pt) (a z : Pt), (∀ v ∈ a :: r, v.y ≠ p.y) → (a :: r).getLast? = some z →
    ((ringCrossings (2 * p.y) (a :: r)).length % 2 = 1 ↔ above p a ≠ above p z)
  | [], a, z, _, hz => by
    rw [List.getLast?_singleton] at hz; cases hz
    simp [ringCrossings, edges]
  | b :: r, a, z, h, hz => by
    have ih := polyline_parity r b z (fun v hv => h v (List.mem_cons_of_mem _ hv)) (by rwa [List.getLast?_cons_cons] at hz)
    unfold ringCrossings at ih ⊢
    rw [edges, List.filterMap_cons]
    rcases edgeCrossing_none_or_some (h a List.mem_cons_self) (h b (List.mem_cons_of_mem _ List.mem_cons_self)) with
      ⟨hs, hn⟩ | ⟨hs, x, hx⟩
    · rw [hn, hs]; exact ih
    · -- one more crossing, and `a`, `b` are on different sides
      rw [hx, List.length_cons, ne_iff_of_ne hs, ← Decidable.not_not (p := _ = above p z), ← ne_eq, ← ih]
      omega

theorem ring_crossings_even {p : Pt} {ring : List Pt} (h : ∀ v ∈ ring, v.y ≠ p.y) (hc : ring = [] ∨ isClosedRing ring = true) :
    (ringCrossings (2 * p.y) ring).length % 2 = 0 := by
  rcases hc with rfl | hc
  · rfl
  · match ring, hc, h with
    | a :: r, hc, h =>
      have : ¬ _ % 2 = 1 := fun hodd => (polyline_parity r a a h (of_decide_eq_true hc)).1 hodd rfl
      omega

/-! ## the sorted crossing list and its pairs -/

def QPos (l : List Q) : Prop := ∀ q ∈ l, 0 < q.den

theorem insertQ_perm (x : Q) : ∀ l : List Q, (insertQ x l).Perm (x :: l)
  | [] => List.Perm.refl _
  | y :: r => by
    simp only [insertQ]
    split
    · exact ((insertQ_perm x r).cons y).trans (List.Perm.swap x y r)
    · exact List.Perm.refl _

theorem sortQ_perm : ∀ l : List Q, (sortQ l).Perm l
  | [] => List.Perm.refl _
  | x :: r => (insertQ_perm x (sortQ r)).trans ((sortQ_perm r).cons x)

def SortedQ (l : List Q) : Prop := l.Pairwise (fun a b => a.le b = true)

theorem insertQ_sorted (x : Q) (hx : 0 < x.den) : ∀ l : List Q, QPos l → SortedQ l → SortedQ (insertQ x l)
  | [], _, _ => List.pairwise_singleton _ x
  | y :: r, hp, hs => by
    obtain ⟨hy, hr⟩ := List.forall_mem_cons.1 hp
    obtain ⟨h1, h2⟩ := List.pairwise_cons.1 hs
    rw [insertQ]; split
    · rename_i hlt
      refine List.pairwise_cons.2 ⟨fun z hz => ?_, insertQ_sorted x hx r hr h2⟩
      rcases List.mem_cons.mp ((insertQ_perm x r).mem_iff.mp hz) with rfl | hz
      exacts [Q.le_of_lt' hlt, h1 z hz]
    · rename_i hlt
      have hxy := Q.le_of_not_lt' hlt
      exact List.pairwise_cons.2
        ⟨fun z hz => (List.mem_cons.mp hz).elim (· ▸ hxy) fun hz => Q.le_trans' hy hxy (h1 z hz), hs⟩

theorem sortQ_pos {l : List Q} (h : QPos l) : QPos (sortQ l) :=
  fun q hq => h q ((sortQ_perm l).mem_iff.mp hq)

theorem sortQ_sorted : ∀ l : List Q, QPos l → SortedQ (sortQ l)
  | [], _ => by simp [sortQ, SortedQ]
  | x :: r, h => by
    have hr : QPos r := fun q hq => h q (List.mem_cons_of_mem _ hq)
    exact insertQ_sorted x (h x List.mem_cons_self) (sortQ r) (sortQ_pos hr) (sortQ_sorted r hr)

theorem pairUp_mem : ∀ (l : List Q) (c d : Q), (c, d) ∈ pairUp l →
    ∃ pre post, l = pre ++ c :: d :: post ∧ pre.length % 2 = 0
  | [], _, _, h => by simp [pairUp] at h
  | [_], _, _, h => by simp [pairUp] at h
  | a :: b :: r, c, d, h => by
    simp only [pairUp, List.mem_cons, Prod.mk.injEq] at h
    rcases h with ⟨rfl, rfl⟩ | h
    · exact ⟨[], r, rfl, rfl⟩
    · obtain ⟨pre, post, e, hl⟩ := pairUp_mem r c d h
      exact ⟨a :: b :: pre, post, by simp [e], by simp [List.length_cons]; omega⟩

/-- a grid point strictly inside the section `(c, d)` of a sorted crossing list: every crossing is strictly left or
strictly right of it, and the number of those to the right is `1 + |post|` -/
theorem section_count {p : Pt} {pre post : List Q} {c d : Q} (hpos : QPos (pre ++ c :: d :: post))
    (hs : SortedQ (pre ++ c :: d :: post)) (hc : leftOf p c = true) (hd : rightOf p d = true) :
    ((pre ++ c :: d :: post).filter (rightOf p)).length = 1 + post.length ∧
    ∀ x ∈ pre ++ c :: d :: post, rightOf p x = true ∨ leftOf p x = true := by
  obtain ⟨-, hcd, hpre⟩ := List.pairwise_append.1 hs
  have hdp := (List.pairwise_cons.1 (List.pairwise_cons.1 hcd).2).1
  have hleft : ∀ x ∈ pre, leftOf p x = true := fun x hx =>
    Q.lt_of_le_of_lt' (hpos x (by simp [hx])) (hpos c (by simp)) (hpre x hx c List.mem_cons_self) hc
  have hright : ∀ x ∈ post, rightOf p x = true := fun x hx =>
    Q.lt_of_lt_of_le' (hpos d (by simp)) (hpos x (by simp [hx])) hd (hdp x hx)
  have hnr : ∀ x, leftOf p x = true → rightOf p x = false := fun x hx => Q.lt_asymm' hx
  constructor
  · rw [List.filter_append, List.filter_cons, List.filter_cons,
      List.filter_eq_nil_iff.2 fun x hx => by simp [hnr x (hleft x hx)], List.filter_eq_self.2 hright]
    simp [hnr c hc, hd]; omega
  · intro x hx
    simp only [List.mem_append, List.mem_cons] at hx
    rcases hx with hx | rfl | rfl | hx
    exacts [Or.inr (hleft x hx), Or.inr hc, Or.inl hd, Or.inl (hright x hx)]

theorem flatMap_pos (y2 : Int) (rings : List (List Pt)) : QPos (rings.flatMap (ringCrossings y2)) := by
  intro q hq
  obtain ⟨r, _, hr⟩ := List.mem_flatMap.mp hq
  obtain ⟨e, _, he⟩ := List.mem_filterMap.mp hr
  rcases edgeCrossing_none_or_crossX y2 e.1 e.2 with h | h <;> rw [h] at he <;> cases he
  exact crossX_den_pos y2 e.1 e.2

theorem length_flatMap_mod_two {α β : Type} (f : α → List β) : ∀ (l : List α),
    (l.flatMap f).length % 2 = (l.filter fun a => (f a).length % 2 == 1).length % 2
  | [] => rfl
  | a :: r => by
    rw [List.flatMap_cons, List.length_append, List.filter_cons, Nat.add_mod, length_flatMap_mod_two f r]
    rcases Nat.mod_two_eq_zero_or_one (f a).length with h | h <;> rw [h]
    · rw [if_neg (by decide), Nat.zero_add, Nat.mod_mod]
    · rw [if_pos (by decide), List.length_cons, Nat.add_comm 1, Nat.mod_add_mod]

/-- for a ring off the line through `p` and `p` on none of its edges, `locateInRing` is the parity of the recorded
crossings right of `p` -/
theorem locateInRing_scan {p : Pt} {ring : List Pt} (hoff : ∀ v ∈ ring, v.y ≠ p.y)
    (hedge : ∀ e ∈ edges ring, onSegment e.1 e.2 p = false) :
    locateInRing p ring =
      if ((ringCrossings (2 * p.y) ring).filter (rightOf p)).length % 2 == 1 then .interior else .exterior := by
  rw [locateInRing_off hedge, crossCount_eq _ (edges_off hoff)]; rfl

theorem midpoint_strictly_inside {p : Pt} {s : Q × Q} (h1 : 0 < s.1.den) (h2 : 0 < s.2.den) (hw : s.1.lt s.2 = true)
    (hm : 2 * p.x * ((s.1.den : Int) * s.2.den) = s.1.num * s.2.den + s.2.num * s.1.den) :
    leftOf p s.1 = true ∧ rightOf p s.2 = true := by
  have hd1 : (0 : Int) < s.1.den := Int.natCast_pos.2 h1
  have hd2 : (0 : Int) < s.2.den := Int.natCast_pos.2 h2
  have hw' : s.1.num * s.2.den < s.2.num * s.1.den := of_decide_eq_true hw
  rw [leftOf_iff, rightOf_iff]
  -- both offsets, multiplied by the other denominator, are half the (positive) width
  constructor
  · have : (s.1.num - p.x * s.1.den) * s.2.den < 0 * s.2.den := by linarith
    exact lt_of_mul_lt_mul_right this hd2.le
  · have : 0 * s.1.den < (s.2.num - p.x * s.2.den) * s.1.den := by linarith
    exact lt_of_mul_lt_mul_right this hd1.le

theorem sections_pos {y2 : Int} {rings : List (List Pt)} {s : Q × Q} (hs : s ∈ sections y2 rings) :
    0 < s.1.den ∧ 0 < s.2.den := by
  unfold sections at hs
  obtain ⟨pre, post, hL, _⟩ := pairUp_mem _ s.1 s.2 hs
  have hpos := sortQ_pos (flatMap_pos y2 rings)
  rw [hL] at hpos
  exact ⟨hpos s.1 (by simp), hpos s.2 (by simp)⟩

end GeosModel.Construct
