import GeosModel.Model.Construct.InteriorPoint
import GeosModel.Proofs.Construct.Check
/-!
Lemmas about the model of `InteriorPointArea`'s scan line (`Model/Construct/InteriorPoint.lean`):
the interval `(loY, hiY)` kept by `ScanLineYOrdinateFinder::updateInterval` always straddles the centre, only
shrinks, and leaves every ordinate it has seen outside its interior — so the scan line `(loY + hiY) / 2` passes
through no vertex of any ring, lies on no horizontal edge, and the vertex-on-the-line rules of
`isEdgeCrossingCounted` are never used.  Then the crossing rule itself (`edgeCrossing` is rejected or counted at `crossX`)
and `findBestMidpoint` (`bestFrom_spec`).
-/
namespace GeosModel.Construct
open GeosModel.Kernel

/-- the interval straddles the centre: `loY ≤ centreY < hiY` (with `s2 = 2·centreY`) -/
def ScanInv (s2 : Int) (st : Int × Int) : Prop := 2 * st.1 ≤ s2 ∧ s2 < 2 * st.2

theorem updateInterval_spec {s2 : Int} {st : Int × Int} (y : Int) (h : ScanInv s2 st) :
    ScanInv s2 (updateInterval s2 st y) ∧ st.1 ≤ (updateInterval s2 st y).1 ∧ (updateInterval s2 st y).2 ≤ st.2 ∧
      (y ≤ (updateInterval s2 st y).1 ∨ (updateInterval s2 st y).2 ≤ y) := by
  -- `y` at or below the centre can only raise `loY`, above it can only lower `hiY`; in each case the end moves or stays
  unfold updateInterval ScanInv at *
  split <;> split <;> (try dsimp only) <;> omega

/-- the two middle conjuncts carry the induction: an ordinate left outside by one step stays outside because the
interval only shrinks afterwards -/
theorem scanFold_spec (s2 : Int) : ∀ (ys : List Int) (st : Int × Int), ScanInv s2 st →
    ScanInv s2 (scanFold s2 st ys) ∧ st.1 ≤ (scanFold s2 st ys).1 ∧ (scanFold s2 st ys).2 ≤ st.2 ∧
    ∀ y ∈ ys, y ≤ (scanFold s2 st ys).1 ∨ (scanFold s2 st ys).2 ≤ y
  | [], st, h => ⟨h, Int.le_refl _, Int.le_refl _, fun _ hy => nomatch hy⟩
  | y :: r, st, h => by
    obtain ⟨h1, h2, h3, h4⟩ := updateInterval_spec y h
    obtain ⟨i1, i2, i3, i4⟩ := scanFold_spec s2 r (updateInterval s2 st y) h1
    rw [show scanFold s2 st (y :: r) = scanFold s2 (updateInterval s2 st y) r from rfl]
    refine ⟨i1, by omega, by omega, fun z hz => ?_⟩
    rcases List.mem_cons.mp hz with rfl | hz
    · omega
    · exact i4 z hz

theorem mem_ringYs {rings : List (List Pt)} {ring : List Pt} {v : Pt} (hr : ring ∈ rings) (hv : v ∈ ring) :
    v.y ∈ ringYs rings := by
  unfold ringYs
  exact List.mem_flatMap.mpr ⟨ring, hr, List.mem_map.mpr ⟨v, hv, rfl⟩⟩

theorem mem_of_mem_edges : ∀ {l : List Pt} {e : Pt × Pt}, e ∈ edges l → e.1 ∈ l ∧ e.2 ∈ l
  | [], _, h => by simp [edges] at h
  | [_], _, h => by simp [edges] at h
  | a :: b :: r, e, h => by
    simp only [edges, List.mem_cons] at h
    rcases h with rfl | h
    · simp
    · have := mem_of_mem_edges (l := b :: r) h
      exact ⟨List.mem_cons_of_mem _ this.1, List.mem_cons_of_mem _ this.2⟩

/-- the abscissa where the line through `a`, `b` meets `2y = y2`, for `a.y ≠ b.y` -/
def crossX (y2 : Int) (a b : Pt) : Q :=
  if a.x = b.x then Q.ofInt a.x
  else Q.add (Q.ofInt a.x) (Q.div ((y2 - 2 * a.y) * (b.x - a.x)) (2 * (b.y - a.y)))

theorem edgeCrossing_straddle {y2 : Int} {a b : Pt}
    (h : (2 * a.y < y2 ∧ y2 < 2 * b.y) ∨ (2 * b.y < y2 ∧ y2 < 2 * a.y)) :
    edgeCrossing y2 a b = some (crossX y2 a b) := by
  have h1 : ¬ (y2 < 2 * a.y ∧ y2 < 2 * b.y) ∧ ¬ (2 * a.y < y2 ∧ 2 * b.y < y2) ∧ ¬ a.y = b.y ∧
      ¬ (2 * a.y = y2 ∧ 2 * b.y < y2) ∧ ¬ (2 * b.y = y2 ∧ 2 * a.y < y2) := by omega
  rw [edgeCrossing, if_neg h1.1, if_neg h1.2.1, if_neg h1.2.2.1, if_neg h1.2.2.2.1, if_neg h1.2.2.2.2, crossX]
  split <;> rfl

theorem edgeCrossing_same_side {y2 : Int} {a b : Pt}
    (h : (2 * a.y < y2 ∧ 2 * b.y < y2) ∨ (y2 < 2 * a.y ∧ y2 < 2 * b.y)) : edgeCrossing y2 a b = none := by
  unfold edgeCrossing
  rcases h with h | h
  · rw [if_neg (by omega), if_pos h]
  · rw [if_pos h]

theorem ite_none_or {α : Type} {c : Prop} [Decidable c] {t : Option α} {v : α} (h : t = none ∨ t = some v) :
    (if c then none else t) = none ∨ (if c then none else t) = some v := by
  split
  · exact Or.inl rfl
  · exact h

/-- five rules reject an edge; an edge that is counted is counted at `crossX` -/
theorem edgeCrossing_none_or_crossX (y2 : Int) (a b : Pt) :
    edgeCrossing y2 a b = none ∨ edgeCrossing y2 a b = some (crossX y2 a b) :=
  ite_none_or <| ite_none_or <| ite_none_or <| ite_none_or <| ite_none_or <| Or.inr <| by rw [crossX]; split <;> rfl

theorem ite_none_of {α : Type} {c : Prop} [Decidable c] {t : Option α} (h : t = none) : (if c then none else t) = none := by
  split
  · rfl
  · exact h

theorem edgeCrossing_horizontal {y2 : Int} {a b : Pt} (h : a.y = b.y) : edgeCrossing y2 a b = none :=
  ite_none_of <| ite_none_of <| if_pos h

theorem edgeCrossing_isSome_iff {y2 : Int} {p0 p1 : Pt} (h0 : 2 * p0.y ≠ y2) (h1 : 2 * p1.y ≠ y2) :
    (edgeCrossing y2 p0 p1).isSome = true ↔ (2 * p0.y < y2 ∧ y2 < 2 * p1.y) ∨ (2 * p1.y < y2 ∧ y2 < 2 * p0.y) := by
  refine ⟨fun h => ?_, fun h => by rw [edgeCrossing_straddle h]; rfl⟩
  rcases Int.lt_or_gt_of_ne h0 with h0 | h0 <;> rcases Int.lt_or_gt_of_ne h1 with h1 | h1
  · rw [edgeCrossing_same_side (Or.inl ⟨h0, h1⟩)] at h; cases h
  · exact Or.inl ⟨h0, h1⟩
  · exact Or.inr ⟨h1, h0⟩
  · rw [edgeCrossing_same_side (Or.inr ⟨h0, h1⟩)] at h; cases h

theorem bestFrom_spec : ∀ (secs : List (Q × Q)) (w0 : Q) (best : Option (Q × Q)),
    (∀ s, best = some s → width s = w0) →
    let r := bestFrom w0 best secs
    (∀ s, r.2 = some s → width s = r.1) ∧ (r.2 = best ∨ ∃ s ∈ secs, r.2 = some s) := by
  intro secs
  induction secs with
  | nil => intro w0 best h; exact ⟨h, Or.inl rfl⟩
  | cons s r ih =>
    intro w0 best h
    simp only [bestFrom]
    split
    · obtain ⟨a, b⟩ := ih (width s) (some s) (by intro t ht; cases ht; rfl)
      exact ⟨a, Or.inr (b.elim (fun b => ⟨s, List.mem_cons_self, b⟩) fun ⟨t, ht, e⟩ => ⟨t, List.mem_cons_of_mem _ ht, e⟩)⟩
    · obtain ⟨a, b⟩ := ih w0 best h
      exact ⟨a, b.imp_right fun ⟨t, ht, e⟩ => ⟨t, List.mem_cons_of_mem _ ht, e⟩⟩

end GeosModel.Construct
