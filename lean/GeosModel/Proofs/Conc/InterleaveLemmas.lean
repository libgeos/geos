import GeosModel.Model.Conc.Interleave
/-! Invariants of the SC interleaving semantics: lock ownership / discipline, and per-thread sequential views. -/
namespace GeosModel.Conc

@[simp] theorem upd_same {α} (f : Nat → α) (a : Nat) (b : α) : upd f a b a = b := by simp [upd]
theorem upd_other {α} (f : Nat → α) (a x : Nat) (b : α) (h : x ≠ a) : upd f a b x = f x := by simp [upd, h]

theorem upd_self {α} (f : Nat → α) (a : Nat) : upd f a (f a) = f := by
  funext x; unfold upd; split <;> simp_all

/-! ### stepping: what `step` does -/

/-- thread `t` runs its next event `e`: memory and `t`'s transcript change as in the sequential reference step
(`seqStep`); a mutex is taken only when free and released only by its owner; nothing else changes -/
theorem step_spec {s s' : St} {t : Tid} (h : step s t = some s') :
    ∃ e es, s.rest t = e :: es ∧ s'.rest = upd s.rest t es ∧ s'.done = upd s.done t (s.done t ++ [e]) ∧
      s'.mem = (seqStep s.mem (s.out t) e).1 ∧ s'.out = upd s.out t (seqStep s.mem (s.out t) e).2 ∧
      match e with
      | .lock m => s.owner m = none ∧ s'.owner = upd s.owner m (some t) ∧ s'.held = upd s.held t (m :: s.held t)
      | .unlock m => s.owner m = some t ∧ s'.owner = upd s.owner m none ∧ s'.held = upd s.held t ((s.held t).erase m)
      | _ => s'.owner = s.owner ∧ s'.held = s.held := by
  unfold step at h
  match hr : s.rest t with
  | [] => rw [hr] at h; cases h
  | e :: es =>
    rw [hr] at h
    refine ⟨e, es, rfl, ?_⟩
    cases e with
    | read _ | out _ => cases h; exact ⟨rfl, rfl, rfl, rfl, rfl, rfl⟩
    | write _ _ | rmw _ _ => cases h; exact ⟨rfl, rfl, rfl, (upd_self _ _).symm, rfl, rfl⟩
    | lock m =>
      cases ho : s.owner m with
      | none => simp only [ho] at h; cases h; exact ⟨rfl, rfl, rfl, (upd_self _ _).symm, ho, rfl, rfl⟩
      | some o => simp only [ho] at h; cases h
    | unlock m =>
      by_cases ho : s.owner m = some t
      · simp only [if_pos ho] at h; cases h; exact ⟨rfl, rfl, rfl, (upd_self _ _).symm, ho, rfl, rfl⟩
      · simp only [if_neg ho] at h; cases h

theorem step_some_rest {s s' : St} {t : Tid} (h : step s t = some s') :
    ∃ e es, s.rest t = e :: es ∧ s'.rest = upd s.rest t es ∧ s'.done = upd s.done t (s.done t ++ [e]) :=
  let ⟨e, es, h1, h2, h3, _⟩ := step_spec h
  ⟨e, es, h1, h2, h3⟩

/-- what every step preserves, every schedule preserves -/
theorem exec_invariant {P : St → Prop} (hstep : ∀ {s s' : St} {t : Tid}, P s → step s t = some s' → P s') :
    ∀ (sched : List Tid) (s s' : St), P s → exec s sched = some s' → P s'
  | [], s, s', inv, h => by cases h; exact inv
  | t :: ts, s, s', inv, h => by
    simp only [exec] at h
    match hs : step s t with
    | none => rw [hs] at h; cases h
    | some s1 => rw [hs] at h; exact exec_invariant hstep ts s1 s' (hstep inv hs) h

/-! ### invariant 1: discipline + lock ownership -/

structure LockInv (tag : CellId → Tag) (s : St) : Prop where
  ok : ∀ t, okFrom tag t (s.held t) (s.rest t) = true
  own : ∀ t m, m ∈ s.held t → s.owner m = some t
  nodup : ∀ t, (s.held t).Nodup

theorem lockInv_init (tag : CellId → Tag) (mem0 : CellId → Val) (p : Prog) (h : Disciplined tag p) :
    LockInv tag (St.init mem0 p) :=
  ⟨fun t => h t, fun t m hm => by simp [St.init] at hm, fun t => by simp [St.init]⟩

theorem lockInv_step (tag : CellId → Tag) {s s' : St} {u : Tid} (inv : LockInv tag s) (h : step s u = some s') :
    LockInv tag s' := by
  obtain ⟨e, es, hr, hrest, -, -, -, hl⟩ := step_spec h
  have hok := inv.ok u
  rw [hr] at hok
  -- `u` now holds `H'`; the other threads keep their events and their mutexes
  have fin : ∀ H', s'.held = upd s.held u H' → okFrom tag u H' es = true → H'.Nodup →
      (∀ t m, m ∈ upd s.held u H' t → s'.owner m = some t) → LockInv tag s' := fun H' hheld hes hnd hown => by
    refine ⟨fun t => ?_, fun t m hm => hown t m (hheld ▸ hm), fun t => ?_⟩
    · -- `ok`: `u` continues with `es` under `H'`, the others are untouched
      rw [hheld, hrest]
      by_cases htu : t = u
      · subst htu; rwa [upd_same, upd_same]
      · rw [upd_other _ _ _ _ htu, upd_other _ _ _ _ htu]; exact inv.ok t
    · -- `nodup`
      rw [hheld]
      by_cases htu : t = u
      · subst htu; rwa [upd_same]
      · rw [upd_other _ _ _ _ htu]; exact inv.nodup t
  -- events that do not touch locks
  have plain_case : s'.owner = s.owner ∧ s'.held = s.held → okFrom tag u (s.held u) es = true → LockInv tag s' :=
    fun ⟨h3, h2⟩ hes => fin _ (h2.trans (upd_self _ _).symm) hes (inv.nodup u) fun t m hm => by
      rw [h3]; rw [upd_self] at hm; exact inv.own t m hm
  cases e with
  | read _ | write _ _ | rmw _ _ => simp only [okFrom, Bool.and_eq_true] at hok; exact plain_case hl hok.2
  | out _ => exact plain_case hl hok
  | lock m =>
    obtain ⟨ho, howner, hheld⟩ := hl
    simp only [okFrom, Bool.and_eq_true, Bool.not_eq_true', List.contains_eq_mem, decide_eq_false_iff_not] at hok
    refine fin _ hheld hok.2 (List.nodup_cons.mpr ⟨hok.1, inv.nodup u⟩) fun t m' hm => ?_
    rw [howner]
    by_cases htu : t = u
    · subst htu
      rw [upd_same, List.mem_cons] at hm
      by_cases hmm : m' = m
      · subst hmm; exact upd_same ..
      · rw [upd_other _ _ _ _ hmm]; exact inv.own t m' (hm.resolve_left hmm)
    · rw [upd_other _ _ _ _ htu] at hm
      have := inv.own t m' hm
      have hmm : m' ≠ m := by rintro rfl; rw [ho] at this; cases this
      rwa [upd_other _ _ _ _ hmm]
  | unlock m =>
    obtain ⟨ho, howner, hheld⟩ := hl
    simp only [okFrom, Bool.and_eq_true, List.contains_eq_mem, decide_eq_true_eq] at hok
    refine fin _ hheld hok.2 (List.Nodup.erase _ (inv.nodup u)) fun t m' hm => ?_
    rw [howner]
    by_cases htu : t = u
    · subst htu
      rw [upd_same] at hm
      have hne : m' ≠ m := by rintro rfl; exact ((List.Nodup.mem_erase_iff (inv.nodup t)).mp hm).1 rfl
      rw [upd_other _ _ _ _ hne]; exact inv.own t m' (List.mem_of_mem_erase hm)
    · rw [upd_other _ _ _ _ htu] at hm
      have := inv.own t m' hm
      have hmm : m' ≠ m := by rintro rfl; rw [ho] at this; cases this; exact htu rfl
      rwa [upd_other _ _ _ _ hmm]

theorem lockInv_exec (tag : CellId → Tag) : ∀ (sched : List Tid) (s s' : St), LockInv tag s →
    exec s sched = some s' → LockInv tag s' :=
  exec_invariant fun inv h => lockInv_step tag inv h

/-- one event of a disciplined thread: its access, if any, is permitted by the tag of the cell, and the rest is
disciplined under the mutexes then held -/
theorem okFrom_cons (tag : CellId → Tag) (t : Tid) (h : List MutexId) (e : Event) (es : List Event)
    (hok : okFrom tag t h (e :: es) = true) :
    (∀ c w, e.access = some (c, w) → accessOK (tag c) t h w = true) ∧ ∃ h', okFrom tag t h' es = true := by
  cases e with
  | read _ | write _ _ | rmw _ _ =>
    simp only [okFrom, Bool.and_eq_true] at hok
    exact ⟨fun c w ha => by cases ha; exact hok.1, h, hok.2⟩
  | lock _ | unlock _ =>
    simp only [okFrom, Bool.and_eq_true] at hok
    exact ⟨fun c w ha => (nomatch ha), _, hok.2⟩
  | out _ => exact ⟨fun c w ha => (nomatch ha), h, hok⟩

/-- the head access of a disciplined thread is permitted by the tag of the cell -/
theorem head_access_ok (tag : CellId → Tag) (t : Tid) (h : List MutexId) (e : Event) (es : List Event)
    (c : CellId) (w : Bool) (hok : okFrom tag t h (e :: es) = true) (ha : e.access = some (c, w)) :
    accessOK (tag c) t h w = true := (okFrom_cons tag t h e es hok).1 c w ha

/-- two different threads may both access a cell, one of them writing, only if the cell is atomic or guarded by a
mutex both hold -/
theorem accessOK_conflict {tg : Tag} {t1 t2 : Tid} {h1 h2 : List MutexId} {w1 w2 : Bool} (hne : t1 ≠ t2)
    (a1 : accessOK tg t1 h1 w1 = true) (a2 : accessOK tg t2 h2 w2 = true) (hw : w1 = true ∨ w2 = true) :
    tg = .atomic ∨ ∃ m, tg = .guardedBy m ∧ m ∈ h1 ∧ m ∈ h2 := by
  cases tg with
  | immutableAfterInit => simp only [accessOK, Bool.not_eq_true'] at a1 a2; rcases hw with hw | hw <;> simp_all
  | atomic => exact Or.inl rfl
  | guardedBy m =>
    simp only [accessOK, List.contains_eq_mem, decide_eq_true_eq] at a1 a2
    exact Or.inr ⟨m, rfl, a1, a2⟩
  | threadPrivate o => simp only [accessOK, beq_iff_eq] at a1 a2; exact absurd (a1.symm.trans a2) hne
  | plain => simp [accessOK] at a1

/-- no state satisfying the invariant is racy -/
theorem not_racy_of_lockInv (tag : CellId → Tag) (s : St) (inv : LockInv tag s) : ¬ Racy (tagAtomic tag) s := by
  rintro ⟨t1, t2, e1, e2, r1, r2, hne, h1, h2, c, w1, w2, ha1, ha2, hw, hat⟩
  have ok1 := inv.ok t1; rw [h1] at ok1
  have ok2 := inv.ok t2; rw [h2] at ok2
  rcases accessOK_conflict hne (head_access_ok tag t1 _ e1 r1 c w1 ok1 ha1) (head_access_ok tag t2 _ e2 r2 c w2 ok2 ha2) hw
    with htag | ⟨m, -, m1, m2⟩
  · rw [tagAtomic, htag] at hat; cases hat
  · exact hne (Option.some.inj ((inv.own t1 m m1).symm.trans (inv.own t2 m m2)))

/-! ### invariant 2: every thread sees its own sequential run -/

theorem seqRun_append (m : CellId → Val) (tr : List Val) (es : List Event) (e : Event) :
    seqRun m tr (es ++ [e]) = seqStep (seqRun m tr es).1 (seqRun m tr es).2 e := by
  induction es generalizing m tr with
  | nil => simp [seqRun]
  | cons a as ih => simp only [List.cons_append, seqRun]; exact ih _ _

theorem seqStep_mem_congr {m m' : CellId → Val} (tr tr' : List Val) (e : Event) {c : CellId} (h : m c = m' c) :
    (seqStep m tr e).1 c = (seqStep m' tr' e).1 c := by
  cases e with
  | write c0 v =>
    simp only [seqStep, upd]; split
    · rfl
    · exact h
  | rmw c0 d =>
    simp only [seqStep, upd]; split
    · rename_i hc; subst hc; rw [h]
    · exact h
  | _ => exact h

theorem seqStep_out_congr {m m' : CellId → Val} (tr : List Val) (e : Event) (h : ∀ c, e = .read c → m c = m' c) :
    (seqStep m tr e).2 = (seqStep m' tr e).2 := by
  cases e with
  | read c => simp only [seqStep, h c rfl]
  | _ => rfl

theorem seqStep_frame (m : CellId → Val) (tr : List Val) (e : Event) {c : CellId} (h : e.access ≠ some (c, true)) :
    (seqStep m tr e).1 c = m c := by
  cases e with
  | write c0 v => exact upd_other _ _ _ _ fun hc => h (by rw [hc]; rfl)
  | rmw c0 d => exact upd_other _ _ _ _ fun hc => h (by rw [hc]; rfl)
  | _ => rfl

structure ViewInv (mem0 : CellId → Val) (p : Prog) (s : St) : Prop where
  split : ∀ t, s.done t ++ s.rest t = p t
  outEq : ∀ t, s.out t = (seqRun mem0 [] (s.done t)).2
  memEq : ∀ t c, readsCell (p t) c → s.mem c = (seqRun mem0 [] (s.done t)).1 c

theorem viewInv_init (mem0 : CellId → Val) (p : Prog) : ViewInv mem0 p (St.init mem0 p) :=
  ⟨fun t => by simp [St.init], fun t => by simp [St.init, seqRun], fun t c _ => by simp [St.init, seqRun]⟩

theorem viewInv_step (mem0 : CellId → Val) (p : Prog) (hind : Independent p) {s s' : St} {u : Tid}
    (inv : ViewInv mem0 p s) (h : step s u = some s') : ViewInv mem0 p s' := by
  obtain ⟨e, es, hr, hrest, hdone, hmem, hout, -⟩ := step_spec h
  have hsplit := inv.split u
  rw [hr] at hsplit
  have he_mem : e ∈ p u := by rw [← hsplit]; simp
  refine ⟨fun t => ?_, fun t => ?_, fun t c hc => ?_⟩
  · -- `split`: `u` moved `e` from `rest` to `done`
    rw [hdone, hrest]
    by_cases htu : t = u
    · subst htu; rw [upd_same, upd_same, ← hsplit, List.append_assoc]; rfl
    · rw [upd_other _ _ _ _ htu, upd_other _ _ _ _ htu]; exact inv.split t
  · -- `outEq`: `u`'s view agrees with the memory on the cell it reads; the other transcripts are untouched
    rw [hdone, hout]
    by_cases htu : t = u
    · subst htu
      rw [upd_same, upd_same, seqRun_append, ← inv.outEq t]
      exact seqStep_out_congr _ _ fun c hc => inv.memEq t c (show Event.read c ∈ p t from hc ▸ he_mem)
    · rw [upd_other _ _ _ _ htu, upd_other _ _ _ _ htu]; exact inv.outEq t
  · -- `memEq`: for `u` by congruence of `seqStep`; for another thread `t`, `u` does not write what `t` reads
    rw [hdone, hmem]
    by_cases htu : t = u
    · subst htu
      rw [upd_same, seqRun_append]
      exact seqStep_mem_congr _ _ _ (inv.memEq t c hc)
    · rw [upd_other _ _ _ _ htu, seqStep_frame _ _ _ fun ha => hind t u c htu hc ⟨e, he_mem, ha⟩]
      exact inv.memEq t c hc

theorem viewInv_exec (mem0 : CellId → Val) (p : Prog) (hind : Independent p) : ∀ (sched : List Tid) (s s' : St),
    ViewInv mem0 p s → exec s sched = some s' → ViewInv mem0 p s' :=
  exec_invariant fun inv h => viewInv_step mem0 p hind inv h

/-! ### discipline ⇒ which cells can be read by one thread and written by another -/

theorem okFrom_mem_access (tag : CellId → Tag) (t : Tid) : ∀ (es : List Event) (h : List MutexId),
    okFrom tag t h es = true → ∀ e ∈ es, ∀ c w, e.access = some (c, w) → ∃ h', accessOK (tag c) t h' w = true
  | a :: as, h, hok, e, he, c, w, ha => by
    rcases List.mem_cons.mp he with rfl | he'
    · exact ⟨h, head_access_ok tag t h e as c w hok ha⟩
    · obtain ⟨h', hok'⟩ := (okFrom_cons tag t h a as hok).2
      exact okFrom_mem_access tag t as h' hok' e he' c w ha

end GeosModel.Conc
