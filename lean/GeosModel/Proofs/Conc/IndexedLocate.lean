import GeosModel.Model.Conc.IndexedLocate
import GeosModel.Proofs.Kernel.IndexedLocateCorrect
import GeosModel.Proofs.Conc.InterleaveLemmas
/-! `IndexedPointInAreaLocator::locate` is a function of (rings, point): independent of the order in which the interval
index reports the stabbed segments and of extra reported segments; equal to the even–odd specification. -/
namespace GeosModel.Conc.Locate
open GeosModel.Kernel GeosModel.RayCount

/-- this model's visitor is the one of `Model/Kernel/PolyLocate.lean` (`stabs` is `PolyLocate.inYRange`, `segsOf` is
`PolyLocate.allSegs`), so its facts carry over -/
theorem locateVisited_eq (p : Pt) (v : List Seg) : locateVisited p v = getLocation (PolyLocate.visit p v) := rfl

/-- **extra segments are harmless**: visiting all segments gives what visiting exactly the stabbed ones gives -/
theorem locateVisited_filter (p : Pt) (segs : List Seg) :
    locateVisited p (segs.filter (stabs p)) = locateVisited p segs :=
  congrArg getLocation (PolyLocate.visit_filter p segs)

/-- **the report order is irrelevant** -/
theorem locateVisited_perm (p : Pt) {v w : List Seg} (h : v.Perm w) : locateVisited p v = locateVisited p w :=
  congrArg getLocation (PolyLocate.visit_perm p h)

/-- whatever the interval tree reports — the stabbed segments in any order, with or without further segments of the
same geometry that are not stabbed — `locate` answers `locate rings p` -/
theorem locate_any_report (rings : List (List Pt)) (p : Pt) (visited : List Seg)
    (h : (visited.filter (stabs p)).Perm ((segsOf rings).filter (stabs p))) :
    locateVisited p visited = locate rings p := by
  unfold locate
  rw [← locateVisited_filter p visited]
  exact locateVisited_perm p h

/-- **`locate` is the even–odd rule over all rings** (every ring closed): boundary iff the point is on some segment,
otherwise interior iff the number of segments crossed by the ray is odd -/
theorem locate_eq_evenOdd (rings : List (List Pt)) (hc : ∀ r ∈ rings, Closed r) (p : Pt) :
    locate rings p = evenOdd rings p := by
  unfold locate evenOdd
  rw [locateVisited_filter, locateVisited_eq, PolyLocate.visit_eq]
  have hany : (segsOf rings).any (fun s => segOn p s.1 s.2) = (segsOf rings).any (fun e => onSegment e.1 e.2 p) := by
    rw [show segsOf rings = PolyLocate.allSegs rings from rfl, PolyLocate.any_allSegs p rings hc, PolyLocate.allSegs,
      List.any_flatMap]
  unfold getLocation
  simp only [hany]
  cases hb : (segsOf rings).any (fun e => onSegment e.1 e.2 p)
  · rw [sum_segInc p _ (hany.trans hb)]
  · rfl

/-- a polygon without holes: `locate` is `Kernel.locateInRing` of the shell -/
theorem locate_single_ring (ring : List Pt) (hc : Closed ring) (p : Pt) : locate [ring] p = locateInRing p ring := by
  rw [locate_eq_evenOdd [ring] (by intro r hr; simp at hr; subst hr; exact hc) p]
  have hs : segsOf [ring] = edges ring := by simp [segsOf]
  simp only [evenOdd, hs, locateInRing]

/-! ### the call as events of the interleaving model -/

theorem okFrom_locateThread (tag : CellId → Tag) (idx : CellId) (hidx : tag idx = .immutableAfterInit) (t : Tid)
    (rings : List (List Pt)) : ∀ (qs : List Pt) (h : List MutexId), okFrom tag t h (locateThread idx rings qs) = true
  | [], h => by simp [locateThread, okFrom]
  | q :: qs, h => by
    have ih := okFrom_locateThread tag idx hidx t rings qs h
    simp only [locateThread, List.flatMap_cons, locateCall, List.cons_append, List.nil_append] at ih ⊢
    simp [okFrom, accessOK, hidx, ih]

theorem locateThread_no_write (idx : CellId) (rings : List (List Pt)) (qs : List Pt) (c : CellId) :
    ¬ writesCell (locateThread idx rings qs) c := by
  rintro ⟨e, he, ha⟩
  simp only [locateThread, List.mem_flatMap, locateCall] at he
  obtain ⟨q, _, hq⟩ := he
  simp only [List.mem_cons, List.not_mem_nil, or_false] at hq
  rcases hq with rfl | rfl <;> simp [Event.access] at ha

theorem seqRun_locateThread (m : CellId → Val) (idx : CellId) (rings : List (List Pt)) :
    ∀ (qs : List Pt) (tr : List Val),
      seqRun m tr (locateThread idx rings qs) = (m, tr ++ qs.flatMap (fun q => [m idx, locCode (locate rings q)]))
  | [], tr => by simp [locateThread, seqRun]
  | q :: qs, tr => by
    have ih := seqRun_locateThread m idx rings qs (tr ++ [m idx] ++ [locCode (locate rings q)])
    simp only [locateThread, List.flatMap_cons, locateCall, List.cons_append, List.nil_append] at ih ⊢
    simp only [seqRun, seqStep]
    rw [ih]
    simp

end GeosModel.Conc.Locate
