import GeosModel.Model.Relate.RectFast
import GeosModel.Proofs.Kernel.SegSegCorrect
import GeosModel.Proofs.Kernel.PolyLocateCorrect
import GeosModel.Proofs.EnvLemmas
/-!
# The rectangle fast path never overlooks a witnessed intersection

Lemmas for Props/C02: every vertex lies in the envelope built from it; two segments that meet have intersecting
envelopes, hence so have the boxes around them — so none of the envelope pre-filters of
`RectangleIntersects::intersects` can discard a crossing or a contained corner.
-/
namespace GeosModel.RectFast
open GeosModel GeosModel.Kernel GeosModel.SegSeg GeosModel.PolyLocate

/-- closed box membership -/
def BoxHas (b : Box) (p : Pt) : Prop := b.minx ≤ p.x ∧ p.x ≤ b.maxx ∧ b.miny ≤ p.y ∧ p.y ≤ b.maxy

theorem containsPt_iff (b : Box) (p : Pt) : Env.containsPt (some b) p.x p.y = true ↔ BoxHas b p := by
  simp [Env.containsPt, BoxHas, and_assoc]

theorem containsPt_some {e : Env} {p : Pt} (h : Env.containsPt e p.x p.y = true) : ∃ b, e = some b ∧ BoxHas b p := by
  cases e with
  | none => simp [Env.containsPt] at h
  | some b => exact ⟨b, rfl, (containsPt_iff b p).mp h⟩

theorem boxOf_has (p : Pt) : BoxHas (boxOf p) p :=
  ⟨Int.le_refl _, Int.le_refl _, Int.le_refl _, Int.le_refl _⟩

/-- `Envelope::expandToInclude` keeps what either box has: the new bounds are the smaller minimum and the larger maximum -/
theorem union_has {a o : Box} {p : Pt} (h : BoxHas a p ∨ BoxHas o p) :
    ∃ b, Env.union (some a) (some o) = some b ∧ BoxHas b p := by
  have lo : ∀ {u v x : Int}, v ≤ x ∨ u ≤ x → (if u < v then u else v) ≤ x := by intro u v x h; split <;> omega
  have hi : ∀ {u v x : Int}, x ≤ v ∨ x ≤ u → x ≤ (if u > v then u else v) := by intro u v x h; split <;> omega
  refine ⟨_, rfl, ?_⟩
  rcases h with ⟨h1, h2, h3, h4⟩ | ⟨h1, h2, h3, h4⟩
  · exact ⟨lo (.inl h1), hi (.inl h2), lo (.inl h3), hi (.inl h4)⟩
  · exact ⟨lo (.inr h1), hi (.inr h2), lo (.inr h3), hi (.inr h4)⟩

/-- every vertex lies in the envelope expanded over the vertices -/
theorem envOfPts_mem : ∀ (l : List Pt) (p : Pt), p ∈ l → ∃ b, envOfPts l = some b ∧ BoxHas b p
  | [], p, h => by simp at h
  | q :: r, p, h => by
    unfold envOfPts
    have ih := envOfPts_mem r p
    cases hr : envOfPts r with
    | none =>
      rcases List.mem_cons.mp h with rfl | h'
      · exact ⟨boxOf p, rfl, boxOf_has p⟩
      · obtain ⟨b, hb, _⟩ := ih h'
        rw [hr] at hb; cases hb
    | some o =>
      rcases List.mem_cons.mp h with rfl | h'
      · exact union_has (.inl (boxOf_has p))
      · obtain ⟨b, hb, hp⟩ := ih h'
        rw [hr] at hb; cases hb
        exact union_has (.inr hp)

theorem envOfPts_has {l : List Pt} {b : Box} {p : Pt} (h : envOfPts l = some b) (hp : p ∈ l) : BoxHas b p := by
  obtain ⟨b', hb', hp'⟩ := envOfPts_mem l p hp
  rw [h] at hb'; cases hb'
  exact hp'

theorem inter_of_common {A B : Box} {p : Pt} (ha : BoxHas A p) (hb : BoxHas B p) : Env.inter (some A) (some B) = true := by
  obtain ⟨a1, a2, a3, a4⟩ := ha
  obtain ⟨b1, b2, b3, b4⟩ := hb
  simp only [Env.inter, Bool.and_eq_true, decide_eq_true_eq]
  omega

theorem span_not_separated {lo hi lo' hi' a b c d : Int} (ha : lo ≤ a ∧ a ≤ hi) (hb : lo ≤ b ∧ b ≤ hi)
    (hc : lo' ≤ c ∧ c ≤ hi') (hd : lo' ≤ d ∧ d ≤ hi') (h1 : ¬ max c d < min a b) (h2 : ¬ max a b < min c d) :
    lo' ≤ hi ∧ hi' ≥ lo := by
  omega

/-- boxes around two segments whose envelopes intersect -/
theorem inter_of_segEnv {A B : Box} {a b c d : Pt} (ha : BoxHas A a) (hb : BoxHas A b) (hc : BoxHas B c) (hd : BoxHas B d)
    (h : envIntersects a b c d = true) : Env.inter (some A) (some B) = true := by
  obtain ⟨hx1, hx2, hy1, hy2⟩ := (envIntersects_iff a b c d).mp h
  obtain ⟨a1, a2, a3, a4⟩ := ha
  obtain ⟨b1, b2, b3, b4⟩ := hb
  obtain ⟨c1, c2, c3, c4⟩ := hc
  obtain ⟨d1, d2, d3, d4⟩ := hd
  have hx := span_not_separated ⟨a1, a2⟩ ⟨b1, b2⟩ ⟨c1, c2⟩ ⟨d1, d2⟩ hx1 hx2
  have hy := span_not_separated ⟨a3, a4⟩ ⟨b3, b4⟩ ⟨c3, c4⟩ ⟨d3, d4⟩ hy1 hy2
  simp only [Env.inter, Bool.and_eq_true, decide_eq_true_eq]
  exact ⟨⟨⟨hx.1, hx.2⟩, hy.1⟩, hy.2⟩

theorem classify_disjoint_of_code_zero (r : LI) (h : r.code = 0) : r.classify = .disjoint := by
  unfold LI.classify; rw [h]; rfl

/-- `hasIntersection()` is exactly "the closed segments share a point" -/
theorem segHas_iff (a b c d : Pt) : segHas a b c d = true ↔ segRel a b c d ≠ .disjoint := by
  unfold segHas
  rw [← classify_eq_segRel]
  constructor
  · intro h hd
    have hne : (computeIntersect a b c d).code ≠ 0 := by simpa using h
    unfold LI.classify at hd
    split at hd
    · rename_i h0; exact hne h0
    · cases hd
    · -- code ≥ 2: `classify` answers `.point false` or `.overlap`, whatever `pts` is, never `.disjoint`
      split at hd <;> [(split at hd <;> cases hd); cases hd]
  · intro h
    have : (computeIntersect a b c d).code ≠ 0 := fun h0 => h (classify_disjoint_of_code_zero _ h0)
    simpa using this

theorem segHas_env {a b c d : Pt} (h : segHas a b c d = true) : envIntersects a b c d = true := by
  by_contra hn
  have hf : envIntersects a b c d = false := by simpa using hn
  exact (segHas_iff a b c d).mp h (segRel_disjoint_of_not_env hf)

theorem inter_geomEnv (re : Env) : ∀ (g : List Elem) (e : Elem), e ∈ g → Env.inter re e.env = true → Env.inter re (geomEnv g) = true
  | [], e, h, _ => by simp at h
  | x :: r, e, h, hi => by
    unfold geomEnv
    rw [Env.inter_comm]
    rcases List.mem_cons.mp h with rfl | h'
    · exact Env.inter_union_left _ _ _ (by rw [Env.inter_comm]; exact hi)
    · exact Env.inter_union_right _ _ _ (by rw [Env.inter_comm]; exact inter_geomEnv re r e h' hi)

/-- the bounding-box test of `PolyLocate` is membership in the envelope of the vertices -/
theorem envContains_box {l : List Pt} {p : Pt} (h : envContains l p = true) : ∃ b, envOfPts l = some b ∧ BoxHas b p := by
  unfold envContains at h
  simp only [Bool.and_eq_true, List.any_eq_true, decide_eq_true_eq] at h
  obtain ⟨⟨⟨⟨v1, m1, h1⟩, ⟨v2, m2, h2⟩⟩, ⟨v3, m3, h3⟩⟩, ⟨v4, m4, h4⟩⟩ := h
  obtain ⟨b, hb, b1⟩ := envOfPts_mem l v1 m1
  have b2 := envOfPts_has hb m2
  have b3 := envOfPts_has hb m3
  have b4 := envOfPts_has hb m4
  refine ⟨b, hb, ?_⟩
  unfold BoxHas at *
  omega

theorem covers_has {A B : Box} {p : Pt} (h : Env.covers (some A) (some B) = true) (hp : BoxHas B p) : BoxHas A p := by
  simp only [Env.covers, Bool.and_eq_true, decide_eq_true_eq] at h
  unfold BoxHas at *
  omega

end GeosModel.RectFast
