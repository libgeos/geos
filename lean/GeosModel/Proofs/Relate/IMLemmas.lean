import GeosModel.Base.IM
/-!
# Entry-level facts about DE-9IM matrices (`Base/IM.lean`)

What the proofs of C01 / C02 read off a matrix: the symbol test `IM.matchesSym` on each of the pattern symbols, a
nine-symbol pattern as the conjunction of its nine entry tests, the entrywise order (`IM.le`, `IM.raise`, `IM.valid`), the
effect of transposition on entries, updates and entrywise tests.  Core Lean only.
-/
namespace GeosModel.Relate
open GeosModel

/-! ### one entry -/

/-- on an actual dimension value (`Dimension::True` = −2 never is one) `T` asks for a non-empty intersection -/
theorem T_iff (v : Int) (hv : -1 ≤ v) : IM.T v = decide (v ≥ 0) := by
  have h2 : (v == -2) = false := by simp; omega
  simp [IM.T, IM.matchesSym, h2]

theorem T_of_nonneg {v : Int} (h : v ≥ 0) : IM.T v = true := by
  rw [T_iff _ (by omega)]; simpa using h

theorem T_neg_one : IM.T (-1) = false := by decide

theorem beqF (v : Int) (h : -1 ≤ v) : (v == -1) = !decide (v ≥ 0) := by
  by_cases hv : v = -1
  · subst hv; decide
  · have : (v == -1) = false := by simpa using hv
    rw [this]; simp; omega

theorem ms_star (v : Int) : IM.matchesSym v '*' = true := rfl
theorem ms_F (v : Int) : IM.matchesSym v 'F' = (v == -1) := by
  simp [IM.matchesSym]; rfl
theorem ms_0 (v : Int) : IM.matchesSym v '0' = (v == 0) := by
  simp [IM.matchesSym]; rfl
theorem ms_1 (v : Int) : IM.matchesSym v '1' = (v == 1) := by
  simp [IM.matchesSym]; rfl

/-! ### nine entries -/

theorem eq_nine_of_length {α : Type} : ∀ (l : List α), l.length = 9 → ∃ a b c d e f g h i, l = [a, b, c, d, e, f, g, h, i]
  | [a, b, c, d, e, f, g, h, i], _ => ⟨a, b, c, d, e, f, g, h, i, rfl⟩

theorem all_zipWith_nine {α β : Type} (t : α → β → Bool) (a1 a2 a3 a4 a5 a6 a7 a8 a9 : α) (b1 b2 b3 b4 b5 b6 b7 b8 b9 : β) :
    (List.zipWith t [a1, a2, a3, a4, a5, a6, a7, a8, a9] [b1, b2, b3, b4, b5, b6, b7, b8, b9]).all id =
      (t a1 b1 && t a2 b2 && t a3 b3 && t a4 b4 && t a5 b5 && t a6 b6 && t a7 b7 && t a8 b8 && t a9 b9) := by
  simp only [List.zipWith_cons_cons, List.zipWith_nil_right, List.all_cons, List.all_nil, id, Bool.and_true, Bool.and_assoc]

/-- a nine-symbol pattern is the conjunction of its entry tests -/
theorem mp (m : IM) (a b c d e f g h i : Char) :
    m.matchesPat [a, b, c, d, e, f, g, h, i] =
      (IM.matchesSym m.ii a && IM.matchesSym m.ib b && IM.matchesSym m.ie c &&
       IM.matchesSym m.bi d && IM.matchesSym m.bb e && IM.matchesSym m.be f &&
       IM.matchesSym m.ei g && IM.matchesSym m.eb h && IM.matchesSym m.ee i) := by
  simp only [IM.matchesPat, IM.entries, all_zipWith_nine, List.length_cons, List.length_nil, beq_self_eq_true, Bool.true_and]

/-- any entrywise test of the transposed matrix against a transposed nine-entry pattern is the test of the matrix against
the pattern: the same nine entry tests, in another order -/
theorem all_zipWith_transpose {α : Type} (t : Int → α → Bool) (m : IM) (a b c d e f g h i : α) :
    (List.zipWith t m.transpose.entries [a, d, g, b, e, h, c, f, i]).all id =
      (List.zipWith t m.entries [a, b, c, d, e, f, g, h, i]).all id := by
  simp only [IM.entries, IM.transpose, all_zipWith_nine]
  ac_rfl


/-! ### entries only grow: `IM.le`, `IM.raise`, `IM.valid` -/

theorem IM.le_refl (m : IM) : m.le m := by
  simp [IM.le]

theorem IM.le_trans {a b c : IM} (h1 : a.le b) (h2 : b.le c) : a.le c := by
  obtain ⟨a1, a2, a3, a4, a5, a6, a7, a8, a9⟩ := h1
  obtain ⟨b1, b2, b3, b4, b5, b6, b7, b8, b9⟩ := h2
  exact ⟨Int.le_trans a1 b1, Int.le_trans a2 b2, Int.le_trans a3 b3, Int.le_trans a4 b4, Int.le_trans a5 b5,
    Int.le_trans a6 b6, Int.le_trans a7 b7, Int.le_trans a8 b8, Int.le_trans a9 b9⟩

theorem raise_le (m : IM) (a b : Loc3) (d : Int) : m.le (m.raise a b d) := by
  unfold IM.raise
  split
  · rename_i h
    replace h := Int.le_of_lt h
    unfold IM.le
    cases a <;> cases b <;> simp only [IM.set, Int.le_refl, and_self, true_and, and_true] <;> exact h
  · exact IM.le_refl m

theorem raise_valid (m : IM) (hv : m.valid) (a b : Loc3) (d : Int) (hd : -1 ≤ d ∧ d ≤ 2) : (m.raise a b d).valid := by
  unfold IM.raise
  split
  · unfold IM.valid at hv ⊢
    cases a <;> cases b <;> simp only [IM.set, hd, hv, and_self]
  · exact hv

theorem get_set_self (m : IM) (a b : Loc3) (d : Int) : (m.set a b d).get a b = d := by
  cases a <;> cases b <;> rfl


/-! ### transposition -/

theorem transpose_transpose (m : IM) : m.transpose.transpose = m := by
  cases m; rfl

theorem get_transpose (m : IM) (a b : Loc3) : m.transpose.get b a = m.get a b := by
  cases a <;> cases b <;> rfl

theorem set_transpose (m : IM) (a b : Loc3) (d : Int) : m.transpose.set b a d = (m.set a b d).transpose := by
  cases a <;> cases b <;> rfl

theorem raise_transpose (m : IM) (a b : Loc3) (d : Int) : m.transpose.raise b a d = (m.raise a b d).transpose := by
  unfold IM.raise
  rw [get_transpose]
  split
  · exact set_transpose m a b d
  · rfl

theorem transpose_valid (m : IM) (h : m.valid) : m.transpose.valid := by
  obtain ⟨a, b, c, d, e, f, g, hh, i⟩ := h
  exact ⟨a, d, g, b, e, hh, c, f, i⟩


end GeosModel.Relate
