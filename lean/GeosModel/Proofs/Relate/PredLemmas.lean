import GeosModel.Model.Relate.Pred
/-!
# What `setValue` and `require` do to a predicate state (`Model/Relate/Pred.lean`)

The value is sticky; nothing else in the state changes.  Core Lean only.
-/
namespace GeosModel.Relate
open GeosModel

theorem setValue_value (s : PState) (v : Bool) :
    (s.setValue v).value = match s.value with | some w => some w | none => some v := by
  unfold PState.setValue; cases h : s.value <;> simp [h]

theorem setValue_fields (s : PState) (v : Bool) :
    (s.setValue v).im = s.im ∧ (s.setValue v).kind = s.kind ∧ (s.setValue v).dimA = s.dimA ∧ (s.setValue v).dimB = s.dimB := by
  unfold PState.setValue; cases s.value <;> simp

theorem require_value (s : PState) (c : Bool) :
    (s.require c).value = match s.value with | some w => some w | none => if c then none else some false := by
  unfold PState.require
  cases c
  · rw [if_neg (by simp), setValue_value]; cases s.value <;> rfl
  · rw [if_pos rfl]; cases s.value <;> rfl

theorem require_fields (s : PState) (c : Bool) :
    (s.require c).im = s.im ∧ (s.require c).kind = s.kind ∧ (s.require c).dimA = s.dimA ∧ (s.require c).dimB = s.dimB := by
  cases c
  · exact setValue_fields s false
  · exact ⟨rfl, rfl, rfl, rfl⟩

/-! ### an IM predicate (every kind but `intersects` / `disjoint`) updates and finishes through `updateIM` / `valueIM` -/

theorem update_eq_updateIM (s : PState) (hk : s.kind.isBasic = false) (a b : Loc3) (d : Int) :
    s.update a b d = s.updateIM a b d := by
  unfold PState.update
  split
  · rename_i h; rw [h] at hk; cases hk
  · rename_i h; rw [h] at hk; cases hk
  · rfl

theorem finish_eq_setValue (s : PState) (hk : s.kind.isBasic = false) :
    s.finish = s.setValue (valueIM s.kind s.dimA s.dimB s.im) := by
  unfold PState.finish
  split
  · rename_i h; rw [h] at hk; cases hk
  · rename_i h; rw [h] at hk; cases hk
  · rfl

end GeosModel.Relate
