import GeosModel.Model.Readers.Resource
import GeosModel.Proofs.WKT.Roundtrip
/-!
C11 for the WKT reader model, part 2: the tokenizer is total and never produces more tokens than characters;
the nested-collection witness family `nestToks d` (3 d + 5 tokens) is accepted and returns a tree of
GEOMETRYCOLLECTION nesting depth `d` — one `readGeometryTaggedText → readGeometryCollectionText` activation
pair of the C++ per level, so no constant bounds the reader's stack.
-/
namespace GeosModel.WKT.Depth
open GeosModel GeosModel.WKT GeosModel.Readers

theorem spanChunk_len : ∀ (cs : List Char), (spanChunk cs).1.length + (spanChunk cs).2.length = cs.length
  | [] => rfl
  | c :: cs => by
    have ih := spanChunk_len cs
    unfold spanChunk
    split
    · simp
    · simp only [List.length_cons]; omega

/-- one step of the tokenizer, whatever the fuel: at most one token, and the rest is shorter -/
theorem tokenizeF_step (c : Char) (cs : List Char) :
    ∃ (pre : List Tok) (rest : List Char), pre.length ≤ 1 ∧ rest.length ≤ cs.length ∧
      ∀ f, tokenizeF (f + 1) (c :: cs) = pre ++ tokenizeF f rest := by
  by_cases h1 : c = '('
  · exact ⟨[.lp], cs, by simp, Nat.le_refl _, fun f => by rw [tokenizeF, if_pos h1]; rfl⟩
  by_cases h2 : c = ')'
  · exact ⟨[.rp], cs, by simp, Nat.le_refl _, fun f => by rw [tokenizeF, if_neg h1, if_pos h2]; rfl⟩
  by_cases h3 : c = ','
  · exact ⟨[.comma], cs, by simp, Nat.le_refl _, fun f => by rw [tokenizeF, if_neg h1, if_neg h2, if_pos h3]; rfl⟩
  by_cases h4 : isBlank c = true
  · exact ⟨[], cs, by simp, Nat.le_refl _, fun f => by rw [tokenizeF, if_neg h1, if_neg h2, if_neg h3, if_pos h4]; rfl⟩
  · -- a chunk: it starts with a non-delimiter, so the rest after it is shorter
    have hd : isDelim c = false := by simp_all [isDelim, isBlank]
    have hr : (spanChunk (c :: cs)).2.length ≤ cs.length := by
      have := spanChunk_len cs
      unfold spanChunk
      simp only [hd, Bool.false_eq_true, if_false]
      omega
    exact ⟨[chunkTok (spanChunk (c :: cs)).1], (spanChunk (c :: cs)).2, by simp, hr,
      fun f => by rw [tokenizeF, if_neg h1, if_neg h2, if_neg h3, if_neg h4]; rfl⟩

/-- **at most one token per character** -/
theorem tokenizeF_length_le : ∀ (f : Nat) (cs : List Char), (tokenizeF f cs).length ≤ cs.length
  | 0, cs => by simp [tokenizeF]
  | f + 1, [] => by simp [tokenizeF]
  | f + 1, c :: cs => by
    obtain ⟨pre, rest, hp, hr, h⟩ := tokenizeF_step c cs
    have := tokenizeF_length_le f rest
    rw [h f, List.length_append, List.length_cons]; omega

theorem tokenize_length_le (cs : List Char) : (tokenize cs).length ≤ cs.length := tokenizeF_length_le _ cs

/-- **the tokenizer's fuel never binds**: any two budgets above the number of characters give the same tokens
(so `tokenize`, which supplies `length + 1`, is the fuel-free function) -/
theorem tokenizeF_fuel : ∀ (f f' : Nat) (cs : List Char), cs.length < f → cs.length < f' →
    tokenizeF f cs = tokenizeF f' cs
  | 0, _, _, h, _ => by omega
  | _, 0, _, _, h => by omega
  | f + 1, f' + 1, [], _, _ => by simp [tokenizeF]
  | f + 1, f' + 1, c :: cs, h, h' => by
    simp only [List.length_cons] at h h'
    obtain ⟨pre, rest, _, hr, hs⟩ := tokenizeF_step c cs
    rw [hs f, hs f', tokenizeF_fuel f f' rest (by omega) (by omega)]

/-! ### the nested-collection witnesses -/

theorem nestG_WFs : ∀ d, WFs (nestG d) = true
  | 0 => by decide
  | d + 1 => by simp [nestG, WFs, WFsL, nestG_WFs d]

theorem nestG_noZM : ∀ d, hasZ (nestG d) = false ∧ hasM (nestG d) = false
  | 0 => by decide
  | d + 1 => by
    have ih := nestG_noZM d
    simp [nestG, hasZ, hasZs, hasM, hasMs, ih.1, ih.2]

theorem outOrds_nest (d : Nat) : outOrds {} (nestG d) = ⟨false, false⟩ := by
  have h := nestG_noZM d
  simp [outOrds, h.1, h.2, capOrds]

theorem nestG_dimOK : ∀ d, dimOK {} (nestG d) = true
  | 0 => by decide
  | d + 1 => by
    have ih := nestG_dimOK d
    have ho := outOrds_nest (d + 1)
    simp only [nestG] at ho
    simp [nestG, dimOK, dimOKs, ih, ho]

theorem nestG_project : ∀ d, project {} id (nestG d) = nestG d
  | 0 => by rfl
  | d + 1 => by simp [nestG, project, projectList, nestG_project d]

theorem nestG_gFuel : ∀ d, gFuel (nestG d) = 4 * d + 4
  | 0 => by decide
  | d + 1 => by simp only [nestG, gFuel, gsFuel, nestG_gFuel d]; omega

theorem nestToks_succ (d : Nat) :
    nestToks (d + 1) = .word "GEOMETRYCOLLECTION" :: .lp :: nestToks d ++ [.rp] := by
  have ho := outOrds_nest (d + 1)
  simp only [nestG] at ho
  simp [nestToks, writeToks, nestG, tagged, taggedList, ho, ordText, listText, commaSep]

theorem nestToks_length : ∀ d, (nestToks d).length = 3 * d + 5
  | 0 => by decide
  | d + 1 => by rw [nestToks_succ]; simp [nestToks_length d]; omega

theorem gcDepth_nest : ∀ d, gcDepth (nestG d) = d
  | 0 => by decide
  | d + 1 => by simp [nestG, gcDepth, gcDepths, gcDepth_nest d]

/-- the `d`-fold nested collection is accepted and comes back as the tree of nesting depth `d` -/
theorem readToks_nest (d : Nat) : readToks (nestToks d) = .ok (nestG d) := by
  have h := roundtrip_readToks {} rfl (nestG d) (nestG_WFs d) (nestG_dimOK d)
    (by rw [nestG_gFuel]; have := nestToks_length d; simp only [nestToks] at this; omega)
  rw [nestG_project] at h
  exact h

end GeosModel.WKT.Depth
