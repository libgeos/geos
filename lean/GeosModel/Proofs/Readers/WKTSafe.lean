import GeosModel.Model.Readers.Resource
/-!
C11 for the WKT reader model (`Model/WKT/Read.lean`), part 1: every reader function

* never fails for lack of fuel when `3 · tokens + rank ≤ fuel` (ranks 1 … 3, the longest chain of mutual
  calls that consumes no token), hence `readToks` (fuel `3 · tokens + 4`) is total in the intended sense;
* consumes at least one token when it succeeds;
* returns only trees satisfying the constructor invariants `Readers.WFT` (of the right class for the typed lists).

Part 2 (tokenizer, depth witnesses) is `Proofs/Readers/WKTDepth.lean`; the WKB half of C11 is `Proofs/WKB/Safe.lean` and `Proofs/WKB/Depth.lean`.
-/
namespace GeosModel.WKT.Safe
open GeosModel GeosModel.WKT GeosModel.Readers

/-- outcome of a reader run with `b` tokens available: on success at least one token was consumed and the value
satisfies `Q`; an error is never "out of fuel" -/
def OKb {α : Type} (Q : α → Prop) (b : Nat) : P (α × List Tok) → Prop
  | .ok (a, r) => r.length + 1 ≤ b ∧ Q a
  | .error e => e ≠ .fuel

theorem OKb_pure {α : Type} {Q : α → Prop} {b : Nat} {a : α} {r : List Tok} :
    OKb Q b (pure (a, r)) ↔ (r.length + 1 ≤ b ∧ Q a) := Iff.rfl

theorem OKb_error {α : Type} {Q : α → Prop} {b : Nat} {e : Err} :
    OKb Q b (.error e : P (α × List Tok)) ↔ e ≠ .fuel := Iff.rfl

theorem OKb.bind {α β : Type} {Qa : α → Prop} {Qb : β → Prop} {b b' : Nat} {x : P (α × List Tok)}
    {k : α × List Tok → P (β × List Tok)}
    (hx : OKb Qa b x) (hk : ∀ a r, r.length + 1 ≤ b → Qa a → OKb Qb b' (k (a, r))) : OKb Qb b' (x >>= k) := by
  obtain e | ⟨a, r⟩ := x
  · exact hx
  · exact hk a r hx.1 hx.2

theorem OKb.mono {α : Type} {Q Q' : α → Prop} {b b' : Nat} {x : P (α × List Tok)} (hx : OKb Q b x)
    (hb : b ≤ b') (hq : ∀ a, Q a → Q' a) : OKb Q' b' x := by
  obtain e | ⟨a, r⟩ := x
  · exact hx
  · exact ⟨Nat.le_trans hx.1 hb, hq a hx.2⟩

theorem OKb.ite {α : Type} {Q : α → Prop} {b : Nat} {c : Prop} [Decidable c] {x y : P (α × List Tok)}
    (hx : OKb Q b x) (hy : OKb Q b y) : OKb Q b (if c then x else y) := by
  split <;> assumption

/-! ### token-level primitives -/

theorem getNum_ok (ts : List Tok) : OKb (fun _ => True) ts.length (getNum ts) := by
  cases ts with
  | nil => simp [getNum, OKb]
  | cons t r => cases t <;> simp [getNum, OKb]

theorem closerOrComma_ok (ts : List Tok) : OKb (fun _ => True) ts.length (closerOrComma ts) := by
  cases ts with
  | nil => simp [closerOrComma, OKb]
  | cons t r => cases t <;> simp [closerOrComma, OKb]

theorem optNum_ok (c : Bool) (ts : List Tok) :
    OKb (fun _ => True) (ts.length + 1) (if c then getNum ts else pure (nanBits, ts)) := by
  cases c
  · simp [OKb_pure]
  · simpa using (getNum_ok ts).mono (Nat.le_succ _) (fun _ h => h)

/-- a join point after an `if` is a bind after it -/
theorem ite_bind {α β : Type} (c : Prop) [Decidable c] (x y : P α) (k : α → P β) :
    (if c then x >>= k else y >>= k) = (if c then x else y) >>= k := by split <;> rfl

theorem getCoord_ok (fl : Flags) (ts : List Tok) : OKb (fun _ => True) ts.length (getCoord fl ts) := by
  unfold getCoord
  refine OKb.bind (getNum_ok ts) (fun x r1 h1 _ => ?_)
  refine OKb.bind (getNum_ok r1) (fun y r2 h2 _ => ?_)
  dsimp only
  rw [ite_bind]
  refine OKb.bind (optNum_ok _ r2) (fun z r3 h3 _ => ?_)
  rw [ite_bind]
  refine OKb.bind (optNum_ok _ r3) (fun m r4 h4 _ => ?_)
  exact OKb_pure.2 ⟨by dsimp only; omega, trivial⟩

theorem emptyOrOpener_ok (fl : Flags) (ts : List Tok) : OKb (fun _ => True) ts.length (emptyOrOpener fl ts) := by
  have fin : ∀ (fl : Flags) (md : Bool) (ts : List Tok),
      OKb (fun _ => True) ts.length
        (match ts with
         | .word "EMPTY" :: r => (.ok ((true, if md then { fl with ca := false } else fl), r) : P ((Bool × Flags) × List Tok))
         | .lp :: r => .ok ((false, if md then { fl with ca := false } else fl), r)
         | _ => .error .parse) := by
    intro fl md ts
    split <;> simp [OKb]
  unfold emptyOrOpener
  split
  · split
    · simp [OKb]
    · exact (fin _ true _).mono (by simp) (fun _ h => h)
  · split
    · simp [OKb]
    · split
      · simp [OKb]
      · exact (fin _ true _).mono (by simp) (fun _ h => h)
  · split
    · simp [OKb]
    · exact (fin _ true _).mono (by simp) (fun _ h => h)
  · exact fin _ false _

theorem moreCoords_ok : ∀ (f : Nat) (fl : Flags) (ts : List Tok), ts.length + 1 ≤ f →
    OKb (fun _ => True) ts.length (moreCoords f fl ts)
  | 0, _, _, h => by omega
  | f + 1, fl, ts, h => by
    unfold moreCoords
    refine OKb.bind (closerOrComma_ok ts) (fun more r1 h1 _ => ?_)
    dsimp only
    split
    · refine OKb.bind (getCoord_ok fl r1) (fun ⟨c, fl2⟩ r2 h2 _ => ?_)
      refine OKb.bind (moreCoords_ok f fl2 r2 (by omega)) (fun cs r3 h3 _ => ?_)
      exact OKb_pure.2 ⟨by dsimp only; omega, trivial⟩
    · exact OKb_pure.2 ⟨by omega, trivial⟩

theorem getCoordinates_ok (f : Nat) (fl : Flags) (ts : List Tok) (h : ts.length ≤ f) :
    OKb (fun _ => True) ts.length (getCoordinates f fl ts) := by
  unfold getCoordinates
  refine OKb.bind (emptyOrOpener_ok fl ts) (fun ⟨emp, fl1⟩ r1 h1 _ => ?_)
  dsimp only
  split
  · exact OKb_pure.2 ⟨by omega, trivial⟩
  · refine OKb.bind (getCoord_ok fl1 r1) (fun ⟨c, fl2⟩ r2 h2 _ => ?_)
    refine OKb.bind (moreCoords_ok f fl2 r2 (by omega)) (fun cs r3 h3 _ => ?_)
    exact OKb_pure.2 ⟨by dsimp only; omega, trivial⟩

/-! ### constructor checks -/

/-- a value-level (no tokens) step: errors are not "fuel", results satisfy `Q` -/
def OKv {α : Type} (Q : α → Prop) : Except Err α → Prop
  | .ok a => Q a
  | .error e => e ≠ .fuel

theorem OKv.bind {α β : Type} {Qa : α → Prop} {Qb : β → Prop} {b' : Nat} {x : Except Err α}
    {k : α → P (β × List Tok)} (hx : OKv Qa x) (hk : ∀ a, Qa a → OKb Qb b' (k a)) : OKb Qb b' (x >>= k) := by
  obtain e | a := x
  · exact hx
  · exact hk a hx

theorem mkPoint_okv (s : CSeq) : OKv (fun g => WFT g = true ∧ isPointG g = true) (mkPoint s) := by
  unfold mkPoint; split <;> simp_all [OKv, WFT, isPointG]

theorem mkLine_okv (s : CSeq) : OKv (fun g => WFT g = true ∧ isLineG g = true) (mkLine s) := by
  unfold mkLine; split <;> simp_all [OKv, WFT, isLineG]

theorem mkRing_okv (s : CSeq) : OKv (fun g => WFT g = true ∧ isCurve g = true) (mkRing s) := by
  unfold mkRing; split <;> simp_all [OKv, WFT, isCurve, isSimpleCurve]

theorem mkCirc_okv (s : CSeq) : OKv (fun g => WFT g = true ∧ isCurve g = true) (mkCirc s) := by
  unfold mkCirc; split <;> simp_all [OKv, WFT, isCurve, isSimpleCurve]

theorem isLineG_isCurve {g : G} (h : isLineG g = true) : isCurve g = true := by
  cases g <;> simp_all [isLineG, isCurve, isSimpleCurve]

theorem isPolygonG_isSurface {g : G} (h : isPolygonG g = true) : isSurface g = true := by
  cases g <;> simp_all [isPolygonG, isSurface]

/-! ### the readers that do not take part in the mutual recursion -/

theorem WFTs_cons {p : G → Bool} {g : G} {gs : List G} (hg : WFT g = true ∧ p g = true)
    (hq : WFTs gs = true ∧ gs.all p = true) : WFTs (g :: gs) = true ∧ (g :: gs).all p = true := by
  simp [WFTs, hg.1, hg.2, hq.1, hq.2]

theorem readPoints_ok : ∀ (f : Nat) (fl : Flags) (ts : List Tok), 3 * ts.length + 1 ≤ f →
    OKb (fun p => WFTs p.1 = true ∧ p.1.all isPointG = true) ts.length (readPoints f fl ts)
  | 0, _, _, h => by omega
  | f + 1, fl, ts, h => by
    rw [readPoints]
    refine OKb.bind (getCoordinates_ok f fl ts (by omega)) (fun ⟨s, fl1⟩ r1 h1 _ => ?_)
    refine OKv.bind (mkPoint_okv s) (fun g hg => ?_)
    refine OKb.bind (closerOrComma_ok r1) (fun more r2 h2 _ => ?_)
    dsimp only
    split
    · refine OKb.bind (readPoints_ok f fl1 r2 (by omega)) (fun ⟨gs, fl2⟩ r3 h3 hq => ?_)
      exact OKb_pure.2 ⟨by dsimp only; omega, WFTs_cons hg hq⟩
    · exact OKb_pure.2 ⟨by omega, WFTs_cons hg ⟨rfl, rfl⟩⟩

theorem readLines_ok : ∀ (f : Nat) (fl : Flags) (ts : List Tok), 3 * ts.length + 1 ≤ f →
    OKb (fun p => WFTs p.1 = true ∧ p.1.all isLineG = true) ts.length (readLines f fl ts)
  | 0, _, _, h => by omega
  | f + 1, fl, ts, h => by
    rw [readLines]
    refine OKb.bind (getCoordinates_ok f fl ts (by omega)) (fun ⟨s, fl1⟩ r1 h1 _ => ?_)
    refine OKv.bind (mkLine_okv s) (fun g hg => ?_)
    refine OKb.bind (closerOrComma_ok r1) (fun more r2 h2 _ => ?_)
    dsimp only
    split
    · refine OKb.bind (readLines_ok f fl1 r2 (by omega)) (fun ⟨gs, fl2⟩ r3 h3 hq => ?_)
      exact OKb_pure.2 ⟨by dsimp only; omega, WFTs_cons hg hq⟩
    · exact OKb_pure.2 ⟨by omega, WFTs_cons hg ⟨rfl, rfl⟩⟩

theorem readRings_ok : ∀ (f : Nat) (fl : Flags) (ts : List Tok), 3 * ts.length + 1 ≤ f →
    OKb (fun p => p.1.all ringOK = true ∧ p.1 ≠ []) ts.length (readRings f fl ts)
  | 0, _, _, h => by omega
  | f + 1, fl, ts, h => by
    rw [readRings]
    refine OKb.bind (getCoordinates_ok f fl ts (by omega)) (fun ⟨s, fl1⟩ r1 h1 _ => ?_)
    dsimp only
    split
    · exact OKb_error.2 (by simp)
    · rename_i hring
      refine OKb.bind (closerOrComma_ok r1) (fun more r2 h2 _ => ?_)
      dsimp only
      split
      · refine OKb.bind (readRings_ok f fl1 r2 (by omega)) (fun ⟨gs, fl2⟩ r3 h3 hq => ?_)
        exact OKb_pure.2 ⟨by dsimp only; omega, by simp_all⟩
      · exact OKb_pure.2 ⟨by omega, by simp_all⟩

theorem ringOK_empty (z m : Bool) : ringOK ⟨z, m, []⟩ = true := by simp [ringOK]

theorem readPolygon_ok (f : Nat) (fl : Flags) (ts : List Tok) (h : 3 * ts.length + 1 ≤ f) :
    OKb (fun p => WFT p.1 = true ∧ isPolygonG p.1 = true) ts.length (readPolygon f fl ts) := by
  cases f with
  | zero => omega
  | succ f =>
    rw [readPolygon]
    refine OKb.bind (emptyOrOpener_ok fl ts) (fun ⟨emp, fl1⟩ r1 h1 _ => ?_)
    dsimp only
    split
    · exact OKb_pure.2 ⟨by omega, by simp [WFT, ringOK_empty, isPolygonG]⟩
    · refine OKb.bind (readRings_ok f fl1 r1 (by omega)) (fun ⟨ss, fl2⟩ r2 h2 hq => ?_)
      dsimp only at hq ⊢
      split
      · exact absurd rfl hq.2
      · rename_i sh hs
        split
        · exact OKb_error.2 (by simp)
        · rename_i hne
          refine OKb_pure.2 ⟨by omega, ?_⟩
          have := hq.1
          simp only [List.all_cons, Bool.and_eq_true] at this
          simp only [WFT, isPolygonG, this.1, this.2, Bool.true_and, and_true]
          cases hc : (sh.pts.isEmpty && hs.any (fun h => !h.pts.isEmpty)) with
          | false => rfl
          | true => exact absurd hc hne

theorem readPolygons_ok : ∀ (f : Nat) (fl : Flags) (ts : List Tok), 3 * ts.length + 2 ≤ f →
    OKb (fun p => WFTs p.1 = true ∧ p.1.all isPolygonG = true) ts.length (readPolygons f fl ts)
  | 0, _, _, h => by omega
  | f + 1, fl, ts, h => by
    rw [readPolygons]
    refine OKb.bind (readPolygon_ok f fl ts (by omega)) (fun ⟨g, fl1⟩ r1 h1 hg => ?_)
    refine OKb.bind (closerOrComma_ok r1) (fun more r2 h2 _ => ?_)
    dsimp only
    split
    · refine OKb.bind (readPolygons_ok f fl1 r2 (by omega)) (fun ⟨gs, fl2⟩ r3 h3 hq => ?_)
      exact OKb_pure.2 ⟨by dsimp only; omega, WFTs_cons hg hq⟩
    · exact OKb_pure.2 ⟨by omega, WFTs_cons hg ⟨rfl, rfl⟩⟩

theorem oldSyntax_wf (z m : Bool) : ∀ (cs : List Coord),
    WFTs (cs.map (oldSyntaxPoint z m)) = true ∧ (cs.map (oldSyntaxPoint z m)).all isPointG = true
  | [] => by simp [WFTs]
  | c :: cs => by
    have ih := oldSyntax_wf z m cs
    simp only [List.map_cons, WFTs, List.all_cons, ih.1, ih.2, Bool.and_true]
    simp [oldSyntaxPoint, WFT, isPointG]

theorem readMultiPoint_ok (f : Nat) (fl : Flags) (ts : List Tok) (h : 3 * ts.length + 1 ≤ f) :
    OKb (fun p => WFT p.1 = true) ts.length (readMultiPoint f fl ts) := by
  cases f with
  | zero => omega
  | succ f =>
    rw [readMultiPoint]
    refine OKb.bind (emptyOrOpener_ok fl ts) (fun ⟨emp, fl1⟩ r1 h1 _ => ?_)
    dsimp only
    split
    · exact OKb_pure.2 ⟨by omega, by simp [WFT, WFTs]⟩
    · split
      · refine OKb.bind (getCoord_ok fl1 _) (fun ⟨c, fl2⟩ r2 h2 _ => ?_)
        refine OKb.bind (moreCoords_ok f fl2 r2 (by omega)) (fun cs r3 h3 _ => ?_)
        refine OKb_pure.2 ⟨by dsimp only; omega, ?_⟩
        have := oldSyntax_wf fl2.z fl1.m (c :: cs)
        simp only [WFT, this.1, this.2, Bool.and_self]
      · refine OKb.bind (readPoints_ok f fl1 _ (by omega)) (fun ⟨gs, fl2⟩ r2 h2 hq => ?_)
        exact OKb_pure.2 ⟨by dsimp only; omega, by simp_all [WFT]⟩
      · refine OKb.bind (readPoints_ok f fl1 _ (by omega)) (fun ⟨gs, fl2⟩ r2 h2 hq => ?_)
        exact OKb_pure.2 ⟨by dsimp only; omega, by simp_all [WFT]⟩
      · exact OKb_error.2 (by simp)

/-! ### the mutually recursive readers -/

/-- the statement proved by induction on the fuel, one field per reader, each with its rank -/
structure Cluster (f : Nat) : Prop where
  tagged : ∀ orig ek ts, 3 * ts.length + 1 ≤ f → OKb (fun g => WFT g = true) ts.length (readTagged f orig ek ts)
  body : ∀ n fl ts, 3 * ts.length + 2 ≤ f → OKb (fun p => WFT p.1 = true) ts.length (readBody f n fl ts)
  curve : ∀ fl ts, 3 * ts.length + 2 ≤ f →
    OKb (fun p => WFT p.1 = true ∧ isCurve p.1 = true) ts.length (readCurve f fl ts)
  curves : ∀ fl ts, 3 * ts.length + 3 ≤ f →
    OKb (fun p => WFTs p.1 = true ∧ p.1.all isCurve = true ∧ p.1 ≠ []) ts.length (readCurves f fl ts)
  compound : ∀ fl ts, 3 * ts.length + 1 ≤ f → OKb (fun p => WFT p.1 = true) ts.length (readCompound f fl ts)
  curvePolygon : ∀ fl ts, 3 * ts.length + 1 ≤ f → OKb (fun p => WFT p.1 = true) ts.length (readCurvePolygon f fl ts)
  surface : ∀ fl ts, 3 * ts.length + 2 ≤ f →
    OKb (fun p => WFT p.1 = true ∧ isSurface p.1 = true) ts.length (readSurface f fl ts)
  surfaces : ∀ fl ts, 3 * ts.length + 3 ≤ f →
    OKb (fun p => WFTs p.1 = true ∧ p.1.all isSurface = true) ts.length (readSurfaces f fl ts)
  geoms : ∀ fl ts, 3 * ts.length + 2 ≤ f → OKb (fun gs => WFTs gs = true) ts.length (readGeoms f fl ts)

theorem tagged_step (f : Nat) (ih : Cluster f) (orig : Flags) (ek : EmptyKind) (ts : List Tok)
    (h : 3 * ts.length + 1 ≤ f + 1) : OKb (fun g => WFT g = true) ts.length (readTagged (f + 1) orig ek ts) := by
  unfold readTagged
  split
  · rename_i w r
    split
    · split
      · exact OKb_pure.2 ⟨by simp, by simp [WFT]⟩
      · exact OKb_pure.2 ⟨by simp, by simp [WFT, ringOK_empty]⟩
      · exact OKb_error.2 (by simp)
    · split
      · exact OKb_error.2 (by simp)
      · rename_i n nf _
        refine OKb.bind (ih.body n nf r (by simp only [List.length_cons] at h; omega)) (fun ⟨g, nf1⟩ r1 h1 hq => ?_)
        dsimp only at hq ⊢
        split
        · exact OKb_error.2 (by simp)
        · exact OKb_pure.2 ⟨by simp only [List.length_cons]; omega, hq⟩
  · exact OKb_error.2 (by simp)

theorem curve_step (f : Nat) (ih : Cluster f) (fl : Flags) (ts : List Tok) (h : 3 * ts.length + 2 ≤ f + 1) :
    OKb (fun p => WFT p.1 = true ∧ isCurve p.1 = true) ts.length (readCurve (f + 1) fl ts) := by
  unfold readCurve
  split
  · refine OKb.bind (getCoordinates_ok f fl _ (by omega)) (fun ⟨s, fl1⟩ r1 h1 _ => ?_)
    refine OKv.bind (mkLine_okv s) (fun g hg => ?_)
    exact OKb_pure.2 ⟨by omega, hg.1, isLineG_isCurve hg.2⟩
  · refine OKb.bind (ih.tagged fl .line ts (by omega)) (fun g r1 h1 hq => ?_)
    dsimp only
    split
    · rename_i hc
      exact OKb_pure.2 ⟨by omega, hq, hc⟩
    · exact OKb_error.2 (by simp)

theorem curves_step (f : Nat) (ih : Cluster f) (fl : Flags) (ts : List Tok) (h : 3 * ts.length + 3 ≤ f + 1) :
    OKb (fun p => WFTs p.1 = true ∧ p.1.all isCurve = true ∧ p.1 ≠ []) ts.length (readCurves (f + 1) fl ts) := by
  rw [readCurves]
  refine OKb.bind (ih.curve fl ts (by omega)) (fun ⟨g, fl1⟩ r1 h1 hg => ?_)
  refine OKb.bind (closerOrComma_ok r1) (fun more r2 h2 _ => ?_)
  dsimp only
  split
  · refine OKb.bind (ih.curves fl1 r2 (by omega)) (fun ⟨gs, fl2⟩ r3 h3 hq => ?_)
    exact OKb_pure.2 ⟨by dsimp only; omega, by simp [WFTs, hg.1, hg.2, hq.1, hq.2.1]⟩
  · exact OKb_pure.2 ⟨by omega, by simp [WFTs, hg.1, hg.2]⟩

theorem compound_step (f : Nat) (ih : Cluster f) (fl : Flags) (ts : List Tok) (h : 3 * ts.length + 1 ≤ f + 1) :
    OKb (fun p => WFT p.1 = true) ts.length (readCompound (f + 1) fl ts) := by
  rw [readCompound]
  refine OKb.bind (emptyOrOpener_ok fl ts) (fun ⟨emp, fl1⟩ r1 h1 _ => ?_)
  dsimp only
  split
  · exact OKb_pure.2 ⟨by omega, by simp [WFT, WFTs, contiguous]⟩
  · refine OKb.bind (ih.curves fl1 r1 (by omega)) (fun ⟨gs, fl2⟩ r2 h2 hq => ?_)
    dsimp only at hq ⊢
    split
    · exact OKb_error.2 (by simp)
    · rename_i hs
      split
      · exact OKb_error.2 (by simp)
      · rename_i hc
        refine OKb_pure.2 ⟨by omega, ?_⟩
        have hs' : gs.all isSimpleCurve = true := by
          cases hx : gs.all isSimpleCurve with
          | true => rfl
          | false => simp [hx] at hs
        have hc' : contiguous gs = true := by
          cases hx : contiguous gs with
          | true => rfl
          | false => simp [hx] at hc
        simp only [WFT, hq.1, hs', hc', Bool.and_self]

theorem curvePolygon_step (f : Nat) (ih : Cluster f) (fl : Flags) (ts : List Tok) (h : 3 * ts.length + 1 ≤ f + 1) :
    OKb (fun p => WFT p.1 = true) ts.length (readCurvePolygon (f + 1) fl ts) := by
  rw [readCurvePolygon]
  refine OKb.bind (emptyOrOpener_ok fl ts) (fun ⟨emp, fl1⟩ r1 h1 _ => ?_)
  dsimp only
  split
  · exact OKb_pure.2 ⟨by omega, by simp [WFT, WFTs]⟩
  · refine OKb.bind (ih.curves fl1 r1 (by omega)) (fun ⟨gs, fl2⟩ r2 h2 hq => ?_)
    dsimp only at hq ⊢
    split
    · exact absurd rfl hq.2.2
    · rename_i sh hs
      split
      · split
        · exact OKb_error.2 (by simp)
        · exact OKb_pure.2 ⟨by omega, by simp [WFT, WFTs]⟩
      · rename_i hne
        refine OKb_pure.2 ⟨by omega, ?_⟩
        simp only [Bool.not_eq_true] at hne
        simp [WFT, hq.1, hq.2.1, hne]

theorem surface_step (f : Nat) (ih : Cluster f) (fl : Flags) (ts : List Tok) (h : 3 * ts.length + 2 ≤ f + 1) :
    OKb (fun p => WFT p.1 = true ∧ isSurface p.1 = true) ts.length (readSurface (f + 1) fl ts) := by
  unfold readSurface
  split
  · exact (readPolygon_ok f fl _ (by omega)).mono (Nat.le_refl _) (fun p hp => ⟨hp.1, isPolygonG_isSurface hp.2⟩)
  · refine OKb.bind (ih.tagged fl .polygon ts (by omega)) (fun g r1 h1 hq => ?_)
    dsimp only
    split
    · rename_i hc
      exact OKb_pure.2 ⟨by omega, hq, hc⟩
    · exact OKb_error.2 (by simp)

theorem surfaces_step (f : Nat) (ih : Cluster f) (fl : Flags) (ts : List Tok) (h : 3 * ts.length + 3 ≤ f + 1) :
    OKb (fun p => WFTs p.1 = true ∧ p.1.all isSurface = true) ts.length (readSurfaces (f + 1) fl ts) := by
  rw [readSurfaces]
  refine OKb.bind (ih.surface fl ts (by omega)) (fun ⟨g, fl1⟩ r1 h1 hg => ?_)
  refine OKb.bind (closerOrComma_ok r1) (fun more r2 h2 _ => ?_)
  dsimp only
  split
  · refine OKb.bind (ih.surfaces fl1 r2 (by omega)) (fun ⟨gs, fl2⟩ r3 h3 hq => ?_)
    exact OKb_pure.2 ⟨by dsimp only; omega, WFTs_cons hg hq⟩
  · exact OKb_pure.2 ⟨by omega, WFTs_cons hg ⟨rfl, rfl⟩⟩

theorem geoms_step (f : Nat) (ih : Cluster f) (fl : Flags) (ts : List Tok) (h : 3 * ts.length + 2 ≤ f + 1) :
    OKb (fun gs => WFTs gs = true) ts.length (readGeoms (f + 1) fl ts) := by
  rw [readGeoms]
  refine OKb.bind (ih.tagged fl .none ts (by omega)) (fun g r1 h1 hg => ?_)
  refine OKb.bind (closerOrComma_ok r1) (fun more r2 h2 _ => ?_)
  dsimp only
  split
  · refine OKb.bind (ih.geoms fl r2 (by omega)) (fun gs r3 h3 hq => ?_)
    exact OKb_pure.2 ⟨by dsimp only; omega, by simp [WFTs, hg, hq]⟩
  · exact OKb_pure.2 ⟨by omega, by simp [WFTs, hg]⟩

theorem body_step (f : Nat) (ih : Cluster f) (n : String) (fl : Flags) (ts : List Tok)
    (h : 3 * ts.length + 2 ≤ f + 1) : OKb (fun p => WFT p.1 = true) ts.length (readBody (f + 1) n fl ts) := by
  have simple : ∀ (mk : CSeq → Except Err G) (Q : G → Prop), (∀ s, OKv (fun g => WFT g = true ∧ Q g) (mk s)) →
      OKb (fun p : G × Flags => WFT p.1 = true) ts.length
        (getCoordinates f fl ts >>= fun x => match x with
          | ((s, fl), ts) => mk s >>= fun g => pure ((g, fl), ts)) := by
    intro mk Q hmk
    refine OKb.bind (getCoordinates_ok f fl ts (by omega)) (fun ⟨s, fl1⟩ r1 h1 _ => ?_)
    refine OKv.bind (hmk s) (fun g hg => ?_)
    exact OKb_pure.2 ⟨by omega, hg.1⟩
  -- a typed collection: its elements come from `rd`, all of class `p`, and that is what the constructor asks for
  have multi : ∀ (p : G → Bool) (mk : List G → G) (rd : Flags → List Tok → P ((List G × Flags) × List Tok)),
      (∀ fl1 r, 3 * r.length + 3 ≤ f → OKb (fun x => WFTs x.1 = true ∧ x.1.all p = true) r.length (rd fl1 r)) →
      (∀ gs, WFT (mk gs) = (gs.all p && WFTs gs)) →
      OKb (fun x : G × Flags => WFT x.1 = true) ts.length
        (emptyOrOpener fl ts >>= fun x => match x with
          | ((emp, fl), ts) => if emp = true then pure ((mk [], fl), ts) else
              rd fl ts >>= fun y => match y with
                | ((gs, fl), ts) => pure ((mk gs, fl), ts)) := by
    intro p mk rd hrd hmk
    refine OKb.bind (emptyOrOpener_ok fl ts) (fun ⟨emp, fl1⟩ r1 h1 _ => ?_)
    dsimp only
    split
    · exact OKb_pure.2 ⟨by omega, by rw [hmk]; rfl⟩
    · refine OKb.bind (hrd fl1 r1 (by omega)) (fun ⟨gs, fl2⟩ r2 h2 hq => ?_)
      exact OKb_pure.2 ⟨by dsimp only; omega, by rw [hmk, hq.1, hq.2]; rfl⟩
  -- the keyword dispatch: one arm per type name
  rw [readBody]
  refine .ite (simple mkPoint _ mkPoint_okv) ?_
  refine .ite (simple mkLine _ mkLine_okv) ?_
  refine .ite (simple mkRing _ mkRing_okv) ?_
  refine .ite (simple mkCirc _ mkCirc_okv) ?_
  refine .ite (ih.compound fl ts (by omega)) ?_
  refine .ite ((readPolygon_ok f fl ts (by omega)).mono (Nat.le_refl _) (fun _ hp => hp.1)) ?_
  refine .ite (ih.curvePolygon fl ts (by omega)) ?_
  refine .ite (readMultiPoint_ok f fl ts (by omega)) ?_
  refine .ite (multi isLineG .multiLineString (readLines f) (fun fl1 r hr => readLines_ok f fl1 r (by omega)) fun _ => rfl) ?_
  refine .ite (multi isCurve .multiCurve (readCurves f)
    (fun fl1 r hr => (ih.curves fl1 r hr).mono (Nat.le_refl _) fun _ hq => ⟨hq.1, hq.2.1⟩) fun _ => rfl) ?_
  refine .ite (multi isPolygonG .multiPolygon (readPolygons f) (fun fl1 r hr => readPolygons_ok f fl1 r (by omega)) fun _ => rfl) ?_
  refine .ite (multi isSurface .multiSurface (readSurfaces f) (fun fl1 r hr => ih.surfaces fl1 r hr) fun _ => rfl) ?_
  refine .ite ?_ (OKb_error.2 (by simp))
  refine OKb.bind (emptyOrOpener_ok fl ts) (fun ⟨emp, fl1⟩ r1 h1 _ => ?_)
  dsimp only
  split
  · exact OKb_pure.2 ⟨by omega, by simp [WFT, WFTs]⟩
  · refine OKb.bind (ih.geoms fl1 r1 (by omega)) (fun gs r2 h2 hq => ?_)
    exact OKb_pure.2 ⟨by dsimp only; omega, by simpa [WFT] using hq⟩

theorem cluster : ∀ f, Cluster f
  | 0 =>
    { tagged := by intros; omega, body := by intros; omega, curve := by intros; omega, curves := by intros; omega,
      compound := by intros; omega, curvePolygon := by intros; omega, surface := by intros; omega,
      surfaces := by intros; omega, geoms := by intros; omega }
  | f + 1 =>
    have ih := cluster f
    { tagged := tagged_step f ih, body := body_step f ih, curve := curve_step f ih, curves := curves_step f ih,
      compound := compound_step f ih, curvePolygon := curvePolygon_step f ih, surface := surface_step f ih,
      surfaces := surfaces_step f ih, geoms := geoms_step f ih }

/-- `readToks` never runs out of fuel, and what it returns is well formed -/
theorem readToks_good (ts : List Tok) :
    match readToks ts with
    | .ok g => WFT g = true
    | .error e => e ≠ .fuel := by
  have := (cluster (3 * ts.length + 4)).tagged {} .none ts (by omega)
  unfold readToks
  generalize readTagged (3 * ts.length + 4) {} .none ts = res at this ⊢
  obtain e | ⟨g, _ | ⟨t, r⟩⟩ := res
  · exact this
  · exact this.2
  · simp

end GeosModel.WKT.Safe
