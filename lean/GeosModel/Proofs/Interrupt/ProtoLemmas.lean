import GeosModel.Model.Interrupt.Proto
/-! Lemmas about `process` / `runFrom` of the interrupt protocol model. -/
namespace GeosModel.Interrupt

/-- the action performed by the registered callback (if any) at poll `i` -/
def State.act (s : State) (i : Nat) : Act :=
  match s.callback with
  | some cb => cb i
  | none => .nothing

/-- would the i-th poll throw from state `s`? (callback first, then the test) -/
def State.fires (s : State) (i : Nat) : Bool :=
  match s.act i with
  | .nothing => s.requested
  | .request => true
  | .cancel => false

theorem process_eq (s : State) (i : Nat) : process s i = (⟨false, s.callback⟩, s.fires i) := by
  obtain ⟨q, c⟩ := s
  cases c with
  | none => cases q <;> rfl
  | some cb =>
    simp only [process, State.fires, State.act]
    cases cb i <;> cases q <;> rfl

theorem runFrom_succ {ρ} (r : ρ) (rem i : Nat) (s : State) :
    runFrom r (rem + 1) i s =
      if s.fires i then (⟨false, s.callback⟩, .interrupted i) else runFrom r rem (i + 1) ⟨false, s.callback⟩ := by
  rw [runFrom, process_eq]
  cases s.fires i <;> simp

theorem fires_clear {c : Option Cb} {i : Nat} (h : (State.mk false c).act i ≠ .request) :
    (State.mk false c).fires i = false := by
  unfold State.fires
  cases ha : (State.mk false c).act i with
  | nothing => rfl
  | request => exact absurd ha h
  | cancel => rfl

/-- from a state with no pending request, `m` polls whose callback action is not `request` pass -/
theorem runFrom_skip {ρ} (r : ρ) (c : Option Cb) (rem : Nat) : ∀ (m i : Nat),
    (∀ j, i ≤ j → j < i + m → (State.mk false c).act j ≠ .request) →
    runFrom r (m + rem) i ⟨false, c⟩ = runFrom r rem (i + m) ⟨false, c⟩
  | 0, i, _ => by rw [Nat.zero_add, Nat.add_zero]
  | m + 1, i, h => by
    rw [Nat.add_right_comm, runFrom_succ, fires_clear (h i (Nat.le_refl _) (Nat.lt_add_of_pos_right (Nat.succ_pos m))), if_neg Bool.false_ne_true,
      runFrom_skip r c rem m (i + 1) (fun j a b => h j (Nat.le_of_succ_le a) (Nat.add_right_comm i 1 m ▸ b)), Nat.add_right_comm i 1 m]
    rfl

theorem runFrom_quiet {ρ} (r : ρ) (c : Option Cb) (rem i : Nat)
    (h : ∀ j, i ≤ j → j < i + rem → (State.mk false c).act j ≠ .request) :
    runFrom r rem i ⟨false, c⟩ = (⟨false, c⟩, .done r) :=
  runFrom_skip r c 0 rem i h

/-- the first poll index ≥ i at which the callback requests is where the run stops -/
theorem runFrom_first_request {ρ} (r : ρ) (c : Option Cb) (k rem i : Nat) (h1 : i ≤ k) (h2 : k < i + rem)
    (hq : ∀ j, i ≤ j → j < k → (State.mk false c).act j ≠ .request)
    (hk : (State.mk false c).act k = .request) :
    runFrom r rem i ⟨false, c⟩ = (⟨false, c⟩, .interrupted k) := by
  obtain ⟨m, rfl⟩ := Nat.exists_eq_add_of_le h1
  obtain ⟨n, rfl⟩ := Nat.exists_eq_add_of_lt (Nat.lt_of_add_lt_add_left h2)
  have hf : (State.mk false c).fires (i + m) = true := by unfold State.fires; rw [hk]
  rw [Nat.add_assoc, runFrom_skip r c (n + 1) m i hq, runFrom_succ, hf, if_pos rfl]

/-- conversely, a run from a clear flag interrupted at `k` was interrupted at the first requesting poll -/
theorem runFrom_interrupted {ρ} (r : ρ) (c : Option Cb) (k : Nat) : ∀ (rem i : Nat),
    (runFrom r rem i ⟨false, c⟩).2 = .interrupted k →
    i ≤ k ∧ k < i + rem ∧ (State.mk false c).act k = .request ∧
      ∀ j, i ≤ j → j < k → (State.mk false c).act j ≠ .request
  | 0, _, h => nomatch h
  | rem + 1, i, h => by
    rw [runFrom_succ] at h
    by_cases hr : (State.mk false c).act i = .request
    · have hf : (State.mk false c).fires i = true := by unfold State.fires; rw [hr]
      rw [hf, if_pos rfl] at h
      cases h
      exact ⟨Nat.le_refl _, Nat.lt_add_of_pos_right (Nat.succ_pos _), hr, fun j a b => absurd a (Nat.not_le_of_lt b)⟩
    · rw [fires_clear hr, if_neg Bool.false_ne_true] at h
      obtain ⟨h1, h2, h3, h4⟩ := runFrom_interrupted r c k rem (i + 1) h
      exact ⟨Nat.le_of_succ_le h1, Nat.add_right_comm i 1 rem ▸ h2, h3,
        fun j a b => if hj : j = i then hj ▸ hr else h4 j (Nat.lt_of_le_of_ne a (Ne.symm hj)) b⟩

/-- whatever happens, the flag is clear after a run that performed at least one poll -/
theorem runFrom_clears {ρ} (r : ρ) : ∀ (rem i : Nat) (s : State), 0 < rem →
    (runFrom r rem i s).1 = ⟨false, s.callback⟩ := by
  intro rem
  induction rem with
  | zero => intro i s h; omega
  | succ n ih =>
    intro i s _
    rw [runFrom_succ]
    cases s.fires i with
    | true => simp
    | false =>
      simp only [Bool.false_eq_true, if_false]
      cases n with
      | zero => rfl
      | succ m => exact ih (i + 1) ⟨false, s.callback⟩ (by omega)

end GeosModel.Interrupt
