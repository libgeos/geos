import GeosModel.Model.Lines.Noding
import GeosModel.Proofs.Lines.Merge
/-!
What the executable pieces of the noding and polygonize checkers establish: reachability through output segments
(`Reach`; `closure_sound`, `covered_sound`) and absence of duplicates (`nodupB_sound`).  The soundness theorems of the
checkers themselves are in `Props/C19.lean`.
-/
namespace GeosModel.Lines
open GeosModel.Kernel

-- the same instance exists in `Proofs/Kernel/Basic.lean`, which needs Mathlib; this file is core Lean only
instance : LawfulBEq Pt where
  eq_of_beq {a b} h := by
    cases a; cases b
    simp only [BEq.beq] at h
    unfold instBEqPt.beq at h
    simp at h
    simp [h]
  rfl {a} := by
    cases a
    simp only [BEq.beq]
    unfold instBEqPt.beq
    simp

/-- `b` is connected to `a` by a chain of segments of `segs` (in either direction) -/
inductive Reach (segs : List Seg) (a : Pt) : Pt → Prop
  | refl : Reach segs a a
  | fwd {u v : Pt} : Reach segs a u → (⟨u, v⟩ : Seg) ∈ segs → Reach segs a v
  | bwd {u v : Pt} : Reach segs a u → (⟨v, u⟩ : Seg) ∈ segs → Reach segs a v

theorem addEnd_sound (segs : List Seg) (a : Pt) (S : List Pt) (u v : Pt)
    (hs : (⟨u, v⟩ : Seg) ∈ segs ∨ (⟨v, u⟩ : Seg) ∈ segs) (hS : ∀ p ∈ S, Reach segs a p) :
    ∀ p ∈ addEnd S u v, Reach segs a p := by
  intro p hp
  unfold addEnd at hp
  split at hp
  · rename_i hc
    simp only [Bool.and_eq_true, List.contains_iff_mem] at hc
    rcases List.mem_cons.mp hp with rfl | hp
    · rcases hs with hs | hs
      · exact Reach.fwd (hS _ hc.1) hs
      · exact Reach.bwd (hS _ hc.1) hs
    · exact hS p hp
  · exact hS p hp

theorem grow_sound (segs : List Seg) (a : Pt) (l : List Seg) (hl : ∀ s ∈ l, s ∈ segs) (S : List Pt)
    (hS : ∀ p ∈ S, Reach segs a p) : ∀ p ∈ l.foldl growStep S, Reach segs a p := by
  induction l generalizing S with
  | nil => simpa using hS
  | cons s r ih =>
    simp only [List.foldl_cons]
    apply ih (fun x hx => hl x (List.mem_cons_of_mem _ hx))
    have hs : (⟨s.a, s.b⟩ : Seg) ∈ segs := by cases s; exact hl _ List.mem_cons_self
    unfold growStep
    exact addEnd_sound segs a _ s.b s.a (Or.inr hs) (addEnd_sound segs a S s.a s.b (Or.inl hs) hS)

theorem closure_sound (segs : List Seg) (a : Pt) (n : Nat) (S : List Pt) (hS : ∀ p ∈ S, Reach segs a p) :
    ∀ p ∈ closure segs n S, Reach segs a p := by
  induction n generalizing S with
  | zero => simpa [closure] using hS
  | succ n ih =>
    simp only [closure]
    apply ih
    exact grow_sound segs a segs (fun _ h => h) S hS

/-- `covered` accepts only if `s.b` is reachable from `s.a` through output segments lying (within tol) on `s` -/
theorem covered_sound (t : Tol) (out : List Seg) (s : Seg) (h : covered t out s = true) :
    Reach (out.filter fun o => near t s o.a && near t s o.b) s.a s.b := by
  simp only [covered, List.contains_iff_mem] at h
  exact closure_sound _ s.a _ [s.a] (by intro p hp; simp at hp; subst hp; exact Reach.refl) _ h

theorem nodupB_sound {α : Type} [DecidableEq α] (l : List α) (h : nodupB l = true) : l.Nodup := by
  induction l with
  | nil => exact List.nodup_nil
  | cons x r ih =>
    simp only [nodupB, Bool.and_eq_true, Bool.not_eq_eq_eq_not, Bool.not_true, List.any_eq_false, decide_eq_true_eq] at h
    refine List.nodup_cons.mpr ⟨?_, ih h.2⟩
    intro hm
    exact h.1 x hm rfl

end GeosModel.Lines
