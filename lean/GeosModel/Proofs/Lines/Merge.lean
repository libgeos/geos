import GeosModel.Model.Lines.Merge
/-!
Soundness of the merge-contract checker (`mergeCheck`) and consequences of the contract.
-/
namespace GeosModel.Lines

theorem allPairs_sound {α : Type} (p : α → α → Bool) (l : List α) (h : allPairs p l = true) :
    ∀ (i j : Nat) (_ : i < j) (hj : j < l.length), p (l[i]'(by omega)) l[j] = true := by
  induction l with
  | nil => intro i j _ hj; simp at hj
  | cons x r ih =>
    simp only [allPairs, Bool.and_eq_true, List.all_eq_true] at h
    intro i j hij hj
    cases j with
    | zero => omega
    | succ j =>
      cases i with
      | zero =>
        simp only [List.getElem_cons_zero, List.getElem_cons_succ]
        exact h.1 _ (List.getElem_mem _)
      | succ i =>
        simp only [List.getElem_cons_succ]
        exact ih h.2 i j (by omega) (by simpa using hj)

/-- consecutive traversals of a chain are joined at a node of degree exactly two -/
def Joined (es : List Edge) (d1 d2 : DEdge) : Prop := d1.dst = d2.src ∧ degree es d1.dst = 2

theorem walkOK_sound (es : List Edge) (c : Chain) (h : walkOK es c = true) :
    ∀ k (hk : k + 1 < c.length), Joined es c[k] c[k + 1] := by
  induction c with
  | nil => intro k hk; simp at hk
  | cons d1 r ih =>
    cases r with
    | nil => intro k hk; simp at hk
    | cons d2 t =>
      simp only [walkOK, Bool.and_eq_true, beq_iff_eq] at h
      intro k hk
      cases k with
      | zero => exact ⟨h.1.1, h.1.2⟩
      | succ k =>
        simp only [List.getElem_cons_succ]
        exact ih h.2 k (by simpa using hk)

/-- **the merge contract in logical form** -/
structure MergeOK (directed : Bool) (es : List Edge) (chains : List Chain) : Prop where
  /-- every input edge is traversed exactly once over all output lines -/
  perm : (chains.flatten.map (·.e)).Perm es
  nonempty : ∀ c ∈ chains, c ≠ []
  /-- inside an output line, consecutive input lines are joined at nodes of degree exactly two -/
  walk : ∀ c ∈ chains, ∀ k (hk : k + 1 < c.length), Joined es c[k] c[k + 1]
  /-- directed merging never reverses an input line -/
  fwd : directed = true → ∀ c ∈ chains, ∀ d ∈ c, d.fwd = true
  /-- an output line that is not a closed loop ends only at nodes where merging is not allowed -/
  stop : ∀ c ∈ chains, c.closed = false → ∀ n ∈ c.ends, stopOK directed es n = true
  /-- two different output lines never share an end node at which merging was required -/
  apart : ∀ (i j : Nat) (_ : i < j) (hj : j < chains.length) (n : Int),
    n ∈ (chains[i]'(by omega)).ends → n ∈ chains[j].ends → stopOK directed es n = true

theorem mergeOK_of_mergeCheck (directed : Bool) (es : List Edge) (chains : List Chain)
    (h : mergeCheck directed es chains = true) : MergeOK directed es chains := by
  simp only [mergeCheck, Bool.and_eq_true, List.all_eq_true] at h
  obtain ⟨⟨hp, hc⟩, ha⟩ := h
  have hc' : ∀ c ∈ chains, (c.isEmpty = false ∧ walkOK es c = true ∧ (directed = false ∨ ∀ d ∈ c, d.fwd = true) ∧
      (c.closed = true ∨ ∀ n ∈ c.ends, stopOK directed es n = true)) := by
    intro c hm
    have := hc c hm
    simp only [chainOK, Bool.and_eq_true, Bool.or_eq_true, Bool.not_eq_eq_eq_not, Bool.not_true, List.all_eq_true] at this
    exact ⟨this.1.1.1, this.1.1.2, this.1.2, this.2⟩
  refine ⟨List.isPerm_iff.mp hp, ?_, ?_, ?_, ?_, ?_⟩
  · intro c hm hnil
    have := (hc' c hm).1
    simp [hnil] at this
  · intro c hm
    exact walkOK_sound es c (hc' c hm).2.1
  · intro hd c hm
    exact (hc' c hm).2.2.1.resolve_left fun h => Bool.noConfusion (hd.symm.trans h)
  · intro c hm hcl
    exact (hc' c hm).2.2.2.resolve_left fun h => Bool.noConfusion (h.symm.trans hcl)
  · intro i j hij hj n hn hm
    have := allPairs_sound _ _ ha i j hij hj
    simp only [pairOK, List.all_eq_true, Bool.or_eq_true, bne_iff_ne, ne_eq] at this
    exact (this n hn n hm).resolve_left fun h => h rfl

/-- at a node of degree two a line may stop only in directed mode, where both lines leave it or both enter it -/
theorem stopOK_degree_two {directed : Bool} {es : List Edge} {n : Int} (hd : degree es n = 2)
    (h : stopOK directed es n = true) : directed = true ∧ (outCount es n = 2 ∨ inCount es n = 2) := by
  simpa [stopOK, hd] using h

theorem DEdge.src_fwd {d : DEdge} (h : d.fwd = true) : d.src = d.e.a := if_pos h
theorem DEdge.dst_fwd {d : DEdge} (h : d.fwd = true) : d.dst = d.e.b := if_pos h

/-- weighted total (e.g. the length of the underlying input lines) -/
def sumW (w : Edge → Rat) : List Edge → Rat
  | [] => 0
  | e :: r => w e + sumW w r

theorem sumW_perm (w : Edge → Rat) {l1 l2 : List Edge} (h : l1.Perm l2) : sumW w l1 = sumW w l2 := by
  induction h with
  | nil => rfl
  | cons x _ ih => simp [sumW, ih]
  | swap x y l => simp only [sumW]; grind
  | trans _ _ ih1 ih2 => exact ih1.trans ih2

end GeosModel.Lines
