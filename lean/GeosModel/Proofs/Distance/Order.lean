import GeosModel.Model.Distance.Spec
import GeosModel.Proofs.Distance.BBProofs
/-!
Order facts: `Q.le` is a total preorder; `minList/maxList/minOver/maxOver/maxMin` compute what their names
say for any total preorder (the maximum is handled as the minimum under the negated test, `maxList_eq`).  Core Lean only.
-/
namespace GeosModel.Distance
open GeosModel.STR (LeOK)

theorem Q.le_total (a b : Q) : Q.le a b = true ∨ Q.le b a = true := by
  simp only [Q.le, decide_eq_true_eq]; omega

theorem Q.le_trans (a b c : Q) (h1 : Q.le a b = true) (h2 : Q.le b c = true) : Q.le a c = true := by
  simp only [Q.le, decide_eq_true_eq] at *
  -- `a.num·c.den ≤ c.num·a.den` after multiplying by `b.den > 0`: chain `h1·c.den` and `h2·a.den` through `b.num·a.den·c.den`
  have h3 : a.num * b.den * c.den ≤ b.num * a.den * c.den := Int.mul_le_mul_of_nonneg_right h1 (Int.le_of_lt c.pos)
  have h4 : b.num * c.den * a.den ≤ c.num * b.den * a.den := Int.mul_le_mul_of_nonneg_right h2 (Int.le_of_lt a.pos)
  refine Int.le_of_mul_le_mul_left (a := b.den) ?_ b.pos
  have e1 : b.den * (a.num * c.den) = a.num * b.den * c.den := by ac_rfl
  have e2 : b.num * a.den * c.den = b.num * c.den * a.den := by ac_rfl
  have e3 : b.den * (c.num * a.den) = c.num * b.den * a.den := by ac_rfl
  rw [e1, e3]; exact Int.le_trans h3 (e2 ▸ h4)

theorem qLeOK : LeOK Q.le := ⟨Q.le_total, Q.le_trans⟩

theorem ileOK : LeOK ile := by
  constructor
  · intro a b; simp only [ile, decide_eq_true_eq]; omega
  · intro a b c; simp only [ile, decide_eq_true_eq]; omega

theorem Q.eqv_iff_le_le (a b : Q) : Q.eqv a b = true ↔ (Q.le a b = true ∧ Q.le b a = true) := by
  simp only [Q.eqv, Q.le, decide_eq_true_eq]; omega

theorem Q.eqv_zero (a b : Q) (h : Q.eqv a b = true) : a.isZero = b.isZero := by
  simp only [Q.eqv, decide_eq_true_eq] at h
  have : a.num = 0 ↔ b.num = 0 := by
    constructor <;> intro h0 <;> rw [h0, Int.zero_mul] at h
    · exact (Int.mul_eq_zero.mp h.symm).resolve_right (Int.ne_of_gt a.pos)
    · exact (Int.mul_eq_zero.mp h).resolve_right (Int.ne_of_gt b.pos)
  rw [Q.isZero, Q.isZero, Bool.eq_iff_iff, beq_iff_eq, beq_iff_eq]; exact this

section generic
variable {D : Type} {le : D → D → Bool}

/-- the test `le` decides the preorder `P` up to ties.  Both the minimum under `le` and the maximum under `le` (which is the
minimum under `!le`, for `P` the converse order) are folds of such a test. -/
structure Decides (le : D → D → Bool) (P : D → D → Prop) : Prop where
  refl : ∀ a, P a a
  trans : ∀ a b c, P a b → P b c → P a c
  pos : ∀ a b, le a b = true → P a b
  neg : ∀ a b, le a b = false → P b a

theorem _root_.GeosModel.STR.LeOK.decides (ok : LeOK le) : Decides le fun a b => le a b = true :=
  ⟨ok.refl, ok.trans, fun _ _ h => h, fun a b h => (ok.total a b).resolve_left (by simp [h])⟩

theorem _root_.GeosModel.STR.LeOK.decides_not (ok : LeOK le) : Decides (fun a b => !le a b) fun a b => le b a = true :=
  ⟨ok.refl, fun _ _ _ h h' => ok.trans _ _ _ h' h, fun a b h => (ok.total a b).resolve_left (by simpa using h),
    fun a b h => by simpa using h⟩

section
variable (m : D) (ys : List D) {P : D → D → Prop}

theorem maxList_eq : maxList le m ys = minList (fun a b => !le a b) m ys := by
  induction ys generalizing m with
  | nil => rfl
  | cons y ys ih => simp only [maxList, minList, ih]; by_cases h : le m y = true <;> simp [h]

theorem maxOver_eq (xs : List D) : maxOver le xs = minOver (fun a b => !le a b) xs := by
  cases xs with
  | nil => rfl
  | cons x xs => simp only [maxOver, minOver, maxList_eq]

theorem minList_mem : minList le m ys = m ∨ minList le m ys ∈ ys := by
  induction ys generalizing m with
  | nil => simp [minList]
  | cons y ys ih =>
    simp only [minList]
    rcases ih (if le m y then m else y) with h | h
    · rw [h]
      split
      · exact Or.inl rfl
      · exact Or.inr (by simp)
    · exact Or.inr (by simp [h])

theorem minList_below (dec : Decides le P) :
    P (minList le m ys) m ∧ ∀ y ∈ ys, P (minList le m ys) y := by
  induction ys generalizing m with
  | nil => exact ⟨dec.refl m, nofun⟩
  | cons y ys ih =>
    simp only [minList, List.forall_mem_cons]
    obtain ⟨i1, i2⟩ := ih (if le m y then m else y)
    cases hmy : le m y <;> simp only [hmy, if_true, Bool.false_eq_true, if_false] at i1 i2 ⊢
    · exact ⟨dec.trans _ _ _ i1 (dec.neg m y hmy), i1, i2⟩
    · exact ⟨i1, dec.trans _ _ _ i1 (dec.pos m y hmy), i2⟩

theorem minOver_below (dec : Decides le P) (xs : List D) (v : D) (h : minOver le xs = some v) :
    v ∈ xs ∧ ∀ x ∈ xs, P v x := by
  cases xs with
  | nil => cases h
  | cons x xs =>
    cases h
    refine ⟨?_, List.forall_mem_cons.mpr (minList_below x xs dec)⟩
    rcases minList_mem (le := le) x xs with h | h
    · rw [h]; simp
    · simp [h]

theorem minList_le (ok : LeOK le) :
    le (minList le m ys) m = true ∧ ∀ y ∈ ys, le (minList le m ys) y = true :=
  minList_below m ys ok.decides

theorem maxList_mem : maxList le m ys = m ∨ maxList le m ys ∈ ys := by
  rw [maxList_eq]; exact minList_mem m ys

theorem maxList_ge (ok : LeOK le) :
    le m (maxList le m ys) = true ∧ ∀ y ∈ ys, le y (maxList le m ys) = true := by
  rw [maxList_eq]; exact minList_below m ys ok.decides_not

end

/-- `minOver` returns an element of the list that is below every element -/
theorem minOver_spec (ok : LeOK le) (xs : List D) (v : D) (h : minOver le xs = some v) :
    v ∈ xs ∧ ∀ x ∈ xs, le v x = true :=
  minOver_below ok.decides xs v h

theorem maxOver_spec (ok : LeOK le) (xs : List D) (v : D) (h : maxOver le xs = some v) :
    v ∈ xs ∧ ∀ x ∈ xs, le x v = true :=
  minOver_below ok.decides_not xs v (maxOver_eq xs ▸ h)

theorem minOver_eq_none (xs : List D) : minOver le xs = none ↔ xs = [] := by
  cases xs <;> simp [minOver]

theorem maxOver_eq_none (xs : List D) : maxOver le xs = none ↔ xs = [] := by
  cases xs <;> simp [maxOver]

/-- **max–min**: the value returned is the minimum of some non-empty row and is at least the minimum of
every non-empty row -/
theorem maxMin_spec (ok : LeOK le) (rows : List (List D)) (v : D) (h : maxMin le rows = some v) :
    (∃ row ∈ rows, v ∈ row ∧ ∀ x ∈ row, le v x = true) ∧
    (∀ row ∈ rows, row ≠ [] → ∃ x ∈ row, le x v = true) := by
  simp only [maxMin] at h
  obtain ⟨hmem, hmax⟩ := maxOver_spec ok _ v h
  obtain ⟨row, hrow, hmin⟩ := List.mem_filterMap.mp hmem
  refine ⟨⟨row, hrow, minOver_spec ok row v hmin⟩, fun r hr hne => ?_⟩
  obtain ⟨x, xs, rfl⟩ := List.exists_cons_of_ne_nil hne
  exact ⟨_, (minOver_spec ok _ _ rfl).1, hmax _ (List.mem_filterMap.mpr ⟨_, hr, rfl⟩)⟩

theorem maxMin_eq_none (rows : List (List D)) : maxMin le rows = none ↔ ∀ row ∈ rows, row = [] := by
  simp only [maxMin, maxOver_eq_none, List.filterMap_eq_nil_iff, minOver_eq_none]

end generic

end GeosModel.Distance
