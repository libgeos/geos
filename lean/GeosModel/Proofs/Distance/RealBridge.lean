import Mathlib.Analysis.Real.Sqrt
import Mathlib.Tactic.Ring
import Mathlib.Tactic.Linarith
import Mathlib.Tactic.FieldSimp
import GeosModel.Proofs.Distance.SpecProofs
/-!
# C08 — the exact specification, read in the real numbers

`Q.toReal q = num / den`.  `pointSegR` is the projection-and-clamp formula written over `ℝ` with a real square root, in the shape
the C++ has it (`r = N / D`, tests `r ≤ 0`, `r ≥ 1`, else `|S / D| · √D`); `pointSegR_eq` proves it equal to the square root of
the exact rational `pointSeg2` on integer points.  These are stepping stones for `Props/C08Gen.lean`: the definition
regenerated from `Distance.cpp`, instantiated at `ℝ`, unfolds to `pointSegR`, and hence equals `√(pointSeg2 …)`.
-/
namespace GeosModel.Distance
open GeosModel.Kernel

noncomputable def Q.toReal (q : Q) : ℝ := (q.num : ℝ) / (q.den : ℝ)

theorem Q.toReal_ofInt (n : Int) : (Q.ofInt n).toReal = (n : ℝ) := by simp [Q.toReal, Q.ofInt]

theorem Q.toReal_nonneg (q : Q) (h : 0 ≤ q.num) : 0 ≤ q.toReal :=
  div_nonneg (Int.cast_nonneg h) (Int.cast_nonneg q.pos.le)

/-- `Q.le` is `≤` of the real values -/
theorem Q.le_iff_toReal (a b : Q) : Q.le a b = true ↔ a.toReal ≤ b.toReal := by
  have ha : (0 : ℝ) < a.den := Int.cast_pos.mpr a.pos
  have hb : (0 : ℝ) < b.den := Int.cast_pos.mpr b.pos
  simp only [Q.le, decide_eq_true_eq, Q.toReal]
  rw [div_le_div_iff₀ ha hb]; norm_cast

theorem toReal_zero_of_num (q : Q) (h : q.num = 0) : q.toReal = 0 := by simp [Q.toReal, h]

theorem Q.toReal_congr {x y : Q} (h : Q.eqv x y = true) : x.toReal = y.toReal :=
  have h := (Q.eqv_iff_le_le x y).mp h
  le_antisymm ((Q.le_iff_toReal x y).mp h.1) ((Q.le_iff_toReal y x).mp h.2)

/-- squared distance of two real points -/
noncomputable def d2R (px py qx qy : ℝ) : ℝ := (px - qx) * (px - qx) + (py - qy) * (py - qy)

theorem sqDist_cast (p q : Pt) : ((sqDist p q : Int) : ℝ) = d2R p.x p.y q.x q.y := by
  simp [sqDist, d2R]

theorem det_cast (a b c : Pt) :
    ((det a b c : Int) : ℝ) = ((b.x : ℝ) - a.x) * (c.y - a.y) - (b.y - a.y) * (c.x - a.x) := by
  simp only [det, Int.cast_sub, Int.cast_mul]

theorem dot_cast (a b c : Pt) :
    ((dot a b c : Int) : ℝ) = ((b.x : ℝ) - a.x) * (c.x - a.x) + (b.y - a.y) * (c.y - a.y) := by
  simp only [dot, Int.cast_add, Int.cast_sub, Int.cast_mul]

/-- the projection-and-clamp formula over `ℝ` (shape of `Distance::pointToSegment`) -/
noncomputable def pointSegR (px py ax ay bx by' : ℝ) : ℝ :=
  if ax = bx ∧ ay = by' then Real.sqrt (d2R px py ax ay)
  else
    let D := d2R bx by' ax ay
    let r := ((px - ax) * (bx - ax) + (py - ay) * (by' - ay)) / D
    if r ≤ 0 then Real.sqrt (d2R px py ax ay)
    else if 1 ≤ r then Real.sqrt (d2R px py bx by')
    else |((ay - py) * (bx - ax) - (ax - px) * (by' - ay)) / D| * Real.sqrt D

theorem pt_eq_iff (a b : Pt) : a = b ↔ ((a.x : ℝ) = b.x ∧ (a.y : ℝ) = b.y) := by
  cases a; cases b; simp

/-- `|S / D| · √D = √(S² / D)` for `D > 0` -/
theorem abs_div_mul_sqrt (S D : ℝ) (hD : 0 < D) : |S / D| * Real.sqrt D = Real.sqrt (S * S / D) := by
  rw [show S * S / D = (S / D) ^ 2 * D by field_simp, Real.sqrt_mul (sq_nonneg _), Real.sqrt_sq_eq_abs]

/-- **the real clamp formula is the square root of the exact rational one** -/
theorem pointSegR_eq (p a b : Pt) :
    pointSegR p.x p.y a.x a.y b.x b.y = Real.sqrt (pointSeg2 p a b).toReal := by
  unfold pointSegR
  by_cases hab : a = b
  · subst hab; rw [if_pos ⟨rfl, rfl⟩, pointSeg2_degenerate, Q.toReal_ofInt, sqDist_cast]
  rw [if_neg fun h => hab ((pt_eq_iff a b).mpr h)]
  have hDe : d2R b.x b.y a.x a.y = ((sqDist a b : Int) : ℝ) := by rw [sqDist_comm, sqDist_cast]
  have hN : ((p.x : ℝ) - a.x) * (b.x - a.x) + (p.y - a.y) * (b.y - a.y) = ((dot a b p : Int) : ℝ) := by
    rw [dot_cast]; ring
  have hS : ((a.y : ℝ) - p.y) * (b.x - a.x) - (a.x - p.x) * (b.y - a.y) = ((-det a b p : Int) : ℝ) := by
    rw [Int.cast_neg, det_cast]; ring
  have hL : (0 : ℝ) < (sqDist a b : Int) := Int.cast_pos.mpr (Int.not_le.mp fun hle => hab (eq_of_sqDist_le a b hle))
  -- the tests `r ≤ 0`, `1 ≤ r` on `r = t / L²` are the integer tests `t ≤ 0`, `L² ≤ t` of `pointSeg2`
  simp only [hDe, hN, hS, div_le_iff₀ hL, le_div_iff₀ hL, zero_mul, one_mul, Int.cast_nonpos, Int.cast_le]
  rcases pointSeg2_cases p a b with ⟨ht, e⟩ | ⟨_, ht, e⟩ | ⟨h0, h1, en, ed⟩
  · rw [if_pos ht, e, Q.toReal_ofInt, sqDist_cast]
  · rw [if_neg (by omega), if_pos ht, e, Q.toReal_ofInt, sqDist_cast]
  · rw [if_neg (by omega), if_neg (by omega), abs_div_mul_sqrt _ _ hL, Q.toReal, en, ed]
    rw [Int.cast_mul, Int.cast_neg, neg_mul_neg]

end GeosModel.Distance
