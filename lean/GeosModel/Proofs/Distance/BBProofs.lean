import GeosModel.Model.Index.STR
/-!
Correctness of the best-first branch-and-bound loop `GeosModel.STR.nnLoop` / `nearestRoot`
(the model of `TemplateSTRtreeDistance::nearestNeighbour`): for any tree, any lower-bound function that is
admissible (`lb (bounds of a branch) ≤ dist item` for every live item below it) and any total preorder
`le`, the loop — given fuel ≥ the number of tree nodes — returns a live item of minimum distance.
Core Lean only.
-/
namespace GeosModel.STR
variable {β ι D : Type}

/-- `le` is a total preorder -/
structure LeOK (le : D → D → Bool) : Prop where
  total : ∀ a b, le a b = true ∨ le b a = true
  trans : ∀ a b c, le a b = true → le b c = true → le a c = true

theorem LeOK.refl {le : D → D → Bool} (ok : LeOK le) (a : D) : le a a = true := by
  cases ok.total a a <;> assumption

mutual
  /-- admissible bounds: every branch's lower bound is below the distance of every live item under it -/
  def Node.Adm (le : D → D → Bool) (lb : β → D) (dist : ι → D) : Node β ι → Prop
    | .leaf _ => True
    | .branch b ks => (∀ e ∈ leavesL ks, e.deleted = false → le (lb b) (dist e.item) = true) ∧ AdmL le lb dist ks
  def AdmL (le : D → D → Bool) (lb : β → D) (dist : ι → D) : List (Node β ι) → Prop
    | [] => True
    | k :: ks => k.Adm le lb dist ∧ AdmL le lb dist ks
end

theorem numNodes_pos : ∀ (n : Node β ι), 1 ≤ n.numNodes
  | .leaf _ => by simp [Node.numNodes]
  | .branch _ _ => by simp only [Node.numNodes]; omega

section
variable (le : D → D → Bool) (lb : β → D) (dist : ι → D)

/-- what a queue element must satisfy: its key is the exact distance (live leaf) or the bound (branch with
admissible subtree), and all its leaves belong to the tree `S` being searched -/
def QOK (S : List (Entry β ι)) (x : QE β ι D) : Prop :=
  (match x.node with
   | .leaf e => e.deleted = false ∧ x.key = dist e.item
   | .branch b _ => x.key = lb b ∧ x.node.Adm le lb dist) ∧
  ∀ e ∈ x.node.leaves, e ∈ S

def Sorted (q : List (QE β ι D)) : Prop := q.Pairwise (fun a b => le a.key b.key = true)

def qsize : List (QE β ι D) → Nat
  | [] => 0
  | x :: q => x.node.numNodes + qsize q

variable {le lb dist}

theorem QOK.key_le (ok : LeOK le) {S : List (Entry β ι)} {x : QE β ι D} (h : QOK le lb dist S x) :
    ∀ e ∈ x.node.leaves, e.deleted = false → le x.key (dist e.item) = true := by
  obtain ⟨h1, _⟩ := h
  intro e he hd
  cases hx : x.node with
  | leaf e0 =>
    rw [hx] at h1 he
    cases List.mem_singleton.mp he
    rw [h1.2]; exact ok.refl _
  | branch b ks =>
    rw [hx] at h1 he
    rw [h1.1]; exact h1.2.1 e he hd

section queue
variable (S : List (Entry β ι)) (best : Option D) (x : QE β ι D) (q : List (QE β ι D))

theorem mem_insertSorted (y : QE β ι D) :
    y ∈ insertSorted le x q ↔ y = x ∨ y ∈ q := by
  induction q with
  | nil => simp [insertSorted]
  | cons z zs ih =>
    simp only [insertSorted]
    split
    · simp
    · simp only [List.mem_cons, ih]; exact or_left_comm

theorem sorted_insertSorted (ok : LeOK le) (hs : Sorted le q) :
    Sorted le (insertSorted le x q) := by
  induction q with
  | nil => simp [insertSorted, Sorted]
  | cons z zs ih =>
    obtain ⟨hz, hzs⟩ := List.pairwise_cons.mp hs
    simp only [insertSorted]
    split
    · rename_i hle
      exact List.pairwise_cons.mpr ⟨List.forall_mem_cons.mpr ⟨hle, fun y hy => ok.trans _ _ _ hle (hz y hy)⟩, hs⟩
    · rename_i hle
      refine List.pairwise_cons.mpr ⟨fun y hy => ?_, ih hzs⟩
      rcases (mem_insertSorted x zs y).mp hy with h | hy
      · exact h ▸ (ok.total x.key z.key).resolve_left hle
      · exact hz y hy

theorem qsize_insertSorted : qsize (insertSorted le x q) = x.node.numNodes + qsize q := by
  induction q with
  | nil => simp [insertSorted, qsize]
  | cons z zs ih =>
    simp only [insertSorted]
    split
    · simp [qsize]
    · simp only [qsize, ih]; omega

/-- `q` with the pair `x` offered: dropped when no better than `best`, else inserted -/
def offer (le : D → D → Bool) (best : Option D) (x : QE β ι D) (q : List (QE β ι D)) : List (QE β ι D) :=
  match best with
  | some m => if le m x.key then q else insertSorted le x q
  | none => insertSorted le x q

theorem offer_cases :
    (offer le best x q = q ∧ ∃ m, best = some m ∧ le m x.key = true) ∨ offer le best x q = insertSorted le x q := by
  cases best with
  | none => exact .inr rfl
  | some m =>
    by_cases hle : le m x.key = true
    · exact .inl ⟨by simp [offer, hle], m, rfl, hle⟩
    · exact .inr (by simp [offer, hle])

/-- one iteration of the child loop of `expand` -/
def pushKid (le : D → D → Bool) (lb : β → D) (dist : ι → D) (best : Option D)
    (q : List (QE β ι D)) (k : Node β ι) : List (QE β ι D) :=
  match k with
  | .leaf e => if e.deleted then q else offer le best ⟨dist e.item, k⟩ q
  | .branch b _ => offer le best ⟨lb b, k⟩ q

theorem expandKids_eq (ks : List (Node β ι)) :
    expandKids le lb dist best ks q = ks.foldl (pushKid le lb dist best) q := by
  unfold expandKids
  congr 1

/-- the queue after pushing one child: either unchanged because the child was pruned (then everything live
below it is no closer than `best`) or deleted, or the child's pair was inserted -/
theorem pushKid_cases (ok : LeOK le) (k : Node β ι)
    (hk : k.Adm le lb dist) (hS : ∀ e ∈ k.leaves, e ∈ S) :
    (pushKid le lb dist best q k = q ∧
      ∀ e ∈ k.leaves, e.deleted = false → ∃ m, best = some m ∧ le m (dist e.item) = true) ∨
    (∃ x, pushKid le lb dist best q k = insertSorted le x q ∧ x.node = k ∧ QOK le lb dist S x) := by
  cases k with
  | leaf e =>
    simp only [pushKid, Node.leaves, List.mem_singleton, forall_eq]
    cases hd : e.deleted with
    | true => exact .inl ⟨rfl, nofun⟩
    | false =>
      rcases offer_cases best ⟨dist e.item, .leaf e⟩ q with ⟨heq, h⟩ | heq
      · exact .inl ⟨heq, fun _ => h⟩
      · exact .inr ⟨_, heq, rfl, ⟨hd, rfl⟩, hS⟩
  | branch b ks =>
    rcases offer_cases best ⟨lb b, .branch b ks⟩ q with ⟨heq, m, hb, hle⟩ | heq
    · exact .inl ⟨heq, fun e he hd => ⟨m, hb, ok.trans _ _ _ hle (hk.1 e he hd)⟩⟩
    · exact .inr ⟨_, heq, rfl, ⟨rfl, hk⟩, hS⟩

/-- effect of `expand` (the whole child loop) on the queue -/
theorem expandKids_spec (ok : LeOK le) :
    ∀ (ks : List (Node β ι)) (q : List (QE β ι D)),
      AdmL le lb dist ks → (∀ e ∈ leavesL ks, e ∈ S) → Sorted le q → (∀ x ∈ q, QOK le lb dist S x) →
      let q' := expandKids le lb dist best ks q
      Sorted le q' ∧ (∀ x ∈ q', QOK le lb dist S x) ∧ qsize q' ≤ numNodesL ks + qsize q ∧
      (∀ x ∈ q, x ∈ q') ∧
      (∀ e ∈ leavesL ks, e.deleted = false →
        (∃ x ∈ q', e ∈ x.node.leaves) ∨ (∃ m, best = some m ∧ le m (dist e.item) = true)) := by
  intro ks
  induction ks with
  | nil =>
    intro q _ _ hs hq
    simp only [expandKids_eq, List.foldl_nil]
    exact ⟨hs, hq, by simp [numNodesL], fun x hx => hx, by simp [leavesL]⟩
  | cons k ks ih =>
    intro q hadm hS hs hq
    simp only [AdmL] at hadm
    have hSk : ∀ e ∈ k.leaves, e ∈ S := fun e he => hS e (by simp [leavesL, he])
    have hSks : ∀ e ∈ leavesL ks, e ∈ S := fun e he => hS e (by simp [leavesL, he])
    simp only [expandKids_eq, List.foldl_cons, leavesL, List.mem_append, numNodesL]
    rcases pushKid_cases S best q ok k hadm.1 hSk with ⟨heq, hpr⟩ | ⟨x, heq, hxk, hxok⟩ <;> rw [heq]
    · obtain ⟨h1, h2, h3, h4, h5⟩ := ih q hadm.2 hSks hs hq
      simp only [expandKids_eq] at h1 h2 h3 h4 h5
      have := numNodes_pos k
      exact ⟨h1, h2, by omega, h4, fun e he hd => he.elim (fun he => .inr (hpr e he hd)) (h5 e · hd)⟩
    · have hmem := mem_insertSorted (le := le) x q
      obtain ⟨h1, h2, h3, h4, h5⟩ := ih (insertSorted le x q) hadm.2 hSks (sorted_insertSorted x q ok hs)
        fun y hy => ((hmem y).mp hy).elim (· ▸ hxok) (hq y)
      simp only [expandKids_eq, qsize_insertSorted, hxk] at h1 h2 h3 h4 h5
      exact ⟨h1, h2, by omega, fun y hy => h4 y ((hmem y).mpr (.inr hy)),
        fun e he hd => he.elim (fun he => .inl ⟨x, h4 x ((hmem x).mpr (.inl rfl)), hxk ▸ he⟩) (h5 e · hd)⟩

end queue

/-- loop invariant -/
structure Inv (le : D → D → Bool) (lb : β → D) (dist : ι → D) (S : List (Entry β ι))
    (q : List (QE β ι D)) (best : Option (D × ι)) : Prop where
  sorted : Sorted le q
  elems : ∀ x ∈ q, QOK le lb dist S x
  bestOK : ∀ m i, best = some (m, i) → ∃ e ∈ S, e.deleted = false ∧ e.item = i ∧ m = dist i
  cover : ∀ e ∈ S, e.deleted = false →
    (∃ x ∈ q, e ∈ x.node.leaves) ∨ (∃ m i, best = some (m, i) ∧ le m (dist e.item) = true)

/-- what the search promises -/
def Res (le : D → D → Bool) (dist : ι → D) (S : List (Entry β ι)) : Option (D × ι) → Prop
  | some (m, i) => (∃ e ∈ S, e.deleted = false ∧ e.item = i ∧ m = dist i) ∧
      ∀ e ∈ S, e.deleted = false → le m (dist e.item) = true
  | none => ∀ e ∈ S, e.deleted = true

variable {S : List (Entry β ι)} {x : QE β ι D} {q : List (QE β ι D)} {best : Option (D × ι)}

theorem res_of_empty_queue (h : Inv le lb dist S [] best) : Res le dist S best := by
  -- nothing is left in the queue, so every live item is covered by `best`
  have hc : ∀ e ∈ S, e.deleted = false → ∃ m i, best = some (m, i) ∧ le m (dist e.item) = true :=
    fun e he hd => (h.cover e he hd).resolve_left fun ⟨_, hx, _⟩ => nomatch hx
  cases best with
  | none =>
    intro e he
    cases hd : e.deleted with
    | true => rfl
    | false => obtain ⟨_, _, hb, _⟩ := hc e he hd; cases hb
  | some p =>
    refine ⟨h.bestOK _ _ rfl, fun e he hd => ?_⟩
    obtain ⟨_, _, hb, hle⟩ := hc e he hd
    cases hb; exact hle

/-- the head of the queue is no better than the best leaf so far: the best leaf is a minimum -/
theorem Inv.done (ok : LeOK le) {m : D} {i : ι} (hinv : Inv le lb dist S (x :: q) (some (m, i)))
    (hle : le m x.key = true) : Res le dist S (some (m, i)) := by
  have hsorted := hinv.sorted
  simp only [Sorted, List.pairwise_cons] at hsorted
  refine ⟨hinv.bestOK m i rfl, fun e he hd => ?_⟩
  rcases hinv.cover e he hd with ⟨y, hy, hey⟩ | ⟨m', i', hb, hle'⟩
  · have hyk := QOK.key_le ok (hinv.elems y hy) e hey hd
    rcases List.mem_cons.mp hy with rfl | hy
    · exact ok.trans _ _ _ hle hyk
    · exact ok.trans _ _ _ hle (ok.trans _ _ _ (hsorted.1 y hy) hyk)
  · cases hb; exact hle'

/-- the head of the queue is a leaf closer than the best so far: it becomes the best -/
theorem Inv.leaf_step (ok : LeOK le) {e1 : Entry β ι} (hinv : Inv le lb dist S (x :: q) best) (hx : x.node = .leaf e1)
    (hb : ∀ m i, best = some (m, i) → le x.key m = true) : Inv le lb dist S q (some (x.key, e1.item)) := by
  have hxok := hinv.elems x (by simp)
  have hxle := QOK.key_le ok hxok
  unfold QOK at hxok
  rw [hx] at hxok hxle
  obtain ⟨⟨he1d, he1k⟩, he1S⟩ := hxok
  refine ⟨(List.pairwise_cons.mp hinv.sorted).2, fun y hy => hinv.elems y (by simp [hy]), ?_, fun e he hd => ?_⟩
  · intro m' i' hb'
    cases hb'
    exact ⟨e1, he1S e1 (by simp [Node.leaves]), he1d, rfl, he1k⟩
  · rcases hinv.cover e he hd with ⟨y, hy, hey⟩ | ⟨m', i', hb', hle'⟩
    · rcases List.mem_cons.mp hy with rfl | hy
      · exact .inr ⟨_, _, rfl, hxle e (by rw [hx] at hey; exact hey) hd⟩
      · exact .inl ⟨y, hy, hey⟩
    · exact .inr ⟨_, _, rfl, ok.trans _ _ _ (hb m' i' hb') hle'⟩

/-- the head of the queue is a branch: its children replace it -/
theorem Inv.branch_step (ok : LeOK le) {b : β} {ks : List (Node β ι)} (hinv : Inv le lb dist S (x :: q) best)
    (hx : x.node = .branch b ks) :
    Inv le lb dist S (expandKids le lb dist (best.map Prod.fst) ks q) best ∧
      qsize (expandKids le lb dist (best.map Prod.fst) ks q) + 1 ≤ qsize (x :: q) := by
  have hxok := hinv.elems x (by simp)
  unfold QOK at hxok
  rw [hx] at hxok
  obtain ⟨⟨_, hadm⟩, hbS⟩ := hxok
  simp only [Node.Adm] at hadm
  simp only [Node.leaves] at hbS
  obtain ⟨h1, h2, h3, h4, h5⟩ := expandKids_spec S (best.map Prod.fst) ok ks q hadm.2 hbS
    (List.pairwise_cons.mp hinv.sorted).2 fun y hy => hinv.elems y (by simp [hy])
  refine ⟨⟨h1, h2, hinv.bestOK, fun e he hd => ?_⟩, by simp only [qsize, hx, Node.numNodes]; omega⟩
  rcases hinv.cover e he hd with ⟨y, hy, hey⟩ | h
  · rcases List.mem_cons.mp hy with rfl | hy
    · rw [hx] at hey
      rcases h5 e hey hd with h | ⟨m', hm', hle'⟩
      · exact .inl h
      · cases best with
        | none => cases hm'
        | some p => cases hm'; exact .inr ⟨_, _, rfl, hle'⟩
    · exact .inl ⟨y, h4 y hy, hey⟩
  · exact .inr h

/-- **the loop returns a minimum**, provided the fuel covers the nodes still reachable from the queue -/
theorem nnLoop_spec (ok : LeOK le) (S : List (Entry β ι)) :
    ∀ (f : Nat) (q : List (QE β ι D)) (best : Option (D × ι)),
      qsize q ≤ f → Inv le lb dist S q best → Res le dist S (nnLoop le lb dist f q best) := by
  intro f
  induction f with
  | zero =>
    intro q best hf hinv
    cases q with
    | nil => exact res_of_empty_queue hinv
    | cons x q => have := numNodes_pos x.node; simp only [qsize] at hf; omega
  | succ f ih =>
    intro q best hf hinv
    cases q with
    | nil => exact res_of_empty_queue hinv
    | cons x q =>
      have hxpos := numNodes_pos x.node
      have hf' : qsize q ≤ f := by simp only [qsize] at hf; omega
      cases best with
      | some p =>
        obtain ⟨m, i⟩ := p
        by_cases hle : le m x.key = true
        · simp only [nnLoop, hle, if_true]
          exact hinv.done ok hle
        · have hxm : ∀ m' i', some (m, i) = some (m', i') → le x.key m' = true := fun m' i' h => by
            cases h
            exact (ok.total m x.key).resolve_left hle
          cases hx : x.node with
          | leaf e1 =>
            simp only [nnLoop, hle, hx, Bool.false_eq_true, if_false]
            exact ih q _ hf' (hinv.leaf_step ok hx hxm)
          | branch b ks =>
            simp only [nnLoop, hle, hx, Bool.false_eq_true, if_false]
            obtain ⟨h1, h2⟩ := hinv.branch_step ok hx
            exact ih _ _ (Nat.le_of_succ_le_succ (Nat.le_trans h2 hf)) h1
      | none =>
        cases hx : x.node with
        | leaf e1 =>
          simp only [nnLoop, hx]
          exact ih q _ hf' (hinv.leaf_step ok hx nofun)
        | branch b ks =>
          simp only [nnLoop, hx]
          obtain ⟨h1, h2⟩ := hinv.branch_step ok hx
          exact ih _ _ (Nat.le_of_succ_le_succ (Nat.le_trans h2 hf)) h1

end

end GeosModel.STR
