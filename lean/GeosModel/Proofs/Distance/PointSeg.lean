import GeosModel.Model.Distance.Spec
/-!
Exactness of the projection-and-clamp formula `pointSeg2`: it is the minimum, over all rational parameters
`t = k/n ∈ [0,1]`, of `|p − (a + t(b−a))|²`.  Everything is stated cross-multiplied over `Int`
(`paramDist2 p a b k n = n²·|p − (a + (k/n)(b−a))|²`), so no rational-number library is needed.
The proofs read `pointSeg2` through its three branches (`pointSeg2_cases`) and two identities in `u = b − a`, `v = p − a`
(`paramDist2_eq`, `paramDist2_mul_sqDist`); the branch "nearest point is `b`" is the branch "nearest point is `a`" of the mirrored segment.
Core Lean only (identities by `grind`'s ring normaliser, inequalities from explicit sums of squares).
-/
namespace GeosModel.Distance
open GeosModel.Kernel

theorem mul_self_nonneg' (x : Int) : 0 ≤ x * x := by
  have := Int.sq_nonneg x
  grind

theorem sq_sum_zero (x y : Int) (h : x * x + y * y ≤ 0) : x = 0 ∧ y = 0 := by
  have h1 := mul_self_nonneg' x
  have h2 := mul_self_nonneg' y
  have hx : x * x = 0 := by omega
  have hy : y * y = 0 := by omega
  exact ⟨by simpa using Int.mul_eq_zero.mp hx, by simpa using Int.mul_eq_zero.mp hy⟩

theorem sqDist_nonneg (a b : Pt) : 0 ≤ sqDist a b :=
  Int.add_nonneg (mul_self_nonneg' _) (mul_self_nonneg' _)

theorem sqDist_self (a : Pt) : sqDist a a = 0 := by simp [sqDist]

theorem eq_of_sqDist_le (a b : Pt) (h : sqDist a b ≤ 0) : a = b := by
  have hz := sq_sum_zero (a.x - b.x) (a.y - b.y) h
  obtain ⟨ax, ay⟩ := a; obtain ⟨bx, by'⟩ := b
  simp only [Pt.mk.injEq]; simp only at hz; omega

/-- `n² · |p − (a + (k/n)(b − a))|²` -/
def paramDist2 (p a b : Pt) (k n : Int) : Int :=
  (n * (p.x - a.x) - k * (b.x - a.x)) * (n * (p.x - a.x) - k * (b.x - a.x)) +
  (n * (p.y - a.y) - k * (b.y - a.y)) * (n * (p.y - a.y) - k * (b.y - a.y))

theorem paramDist2_nonneg (p a b : Pt) (k n : Int) : 0 ≤ paramDist2 p a b k n :=
  Int.add_nonneg (mul_self_nonneg' _) (mul_self_nonneg' _)

section
variable (p a b : Pt) (k n : Int)

theorem sqDist_comm : sqDist a b = sqDist b a := by
  simp only [sqDist]; grind

theorem dot_swap : dot b a p = sqDist a b - dot a b p := by
  simp only [dot, sqDist]; grind

/-- the same point of the segment, counted from the other end -/
theorem paramDist2_swap : paramDist2 p a b k n = paramDist2 p b a (n - k) n := by
  have e (p a b : Int) : n * (p - a) - k * (b - a) = n * (p - b) - (n - k) * (a - b) := by grind
  simp only [paramDist2, e]

theorem paramDist2_zero : paramDist2 p a b 0 1 = sqDist p a := by
  simp [paramDist2, sqDist]

theorem paramDist2_one : paramDist2 p a b 1 1 = sqDist p b := by
  rw [paramDist2_swap, Int.sub_self, paramDist2_zero]

/-- `|n·v − k·u|² = n²|v|² − 2nk·(u·v) + k²|u|²` -/
theorem norm_expand (ux uy vx vy k n : Int) :
    (n * vx - k * ux) * (n * vx - k * ux) + (n * vy - k * uy) * (n * vy - k * uy) =
      (vx * vx + vy * vy) * (n * n) + 2 * (n * k * -(ux * vx + uy * vy)) + k * k * (ux * ux + uy * uy) := by
  grind

/-- Lagrange's identity for `u` and `n·v − k·u`: `|n·v − k·u|²·|u|² = (u×v)²·n² + (n·(u·v) − k·|u|²)²` -/
theorem norm_mul_norm (ux uy vx vy k n : Int) :
    ((n * vx - k * ux) * (n * vx - k * ux) + (n * vy - k * uy) * (n * vy - k * uy)) * (ux * ux + uy * uy) =
      (ux * vy - uy * vx) * (ux * vy - uy * vx) * (n * n) +
        (n * (ux * vx + uy * vy) - k * (ux * ux + uy * uy)) * (n * (ux * vx + uy * vy) - k * (ux * ux + uy * uy)) := by
  grind

/-- with `u = b − a`, `v = p − a` -/
theorem paramDist2_eq :
    paramDist2 p a b k n = sqDist p a * (n * n) + 2 * (n * k * -dot a b p) + k * k * sqDist a b := by
  rw [sqDist_comm a b]; exact norm_expand _ _ _ _ k n

theorem paramDist2_mul_sqDist :
    paramDist2 p a b k n * sqDist a b =
      det a b p * det a b p * (n * n) + (n * dot a b p - k * sqDist a b) * (n * dot a b p - k * sqDist a b) := by
  rw [sqDist_comm a b]; exact norm_mul_norm _ _ _ _ k n

/-- the three branches of `pointSeg2`, by the position of the foot `t = dot a b p` relative to `0` and `L² = sqDist a b`
(a degenerate segment has `t = 0`) -/
theorem pointSeg2_cases :
    (dot a b p ≤ 0 ∧ pointSeg2 p a b = Q.ofInt (sqDist p a)) ∨
    (0 < sqDist a b ∧ sqDist a b ≤ dot a b p ∧ pointSeg2 p a b = Q.ofInt (sqDist p b)) ∨
    (0 < dot a b p ∧ dot a b p < sqDist a b ∧
      (pointSeg2 p a b).num = det a b p * det a b p ∧ (pointSeg2 p a b).den = sqDist a b) := by
  unfold pointSeg2
  split
  · split
    · exact Or.inl ⟨‹_›, rfl⟩
    · split
      · exact Or.inr (Or.inl ⟨‹_›, ‹_›, rfl⟩)
      · exact Or.inr (Or.inr ⟨by omega, by omega, rfl, rfl⟩)
  · obtain rfl := eq_of_sqDist_le a b (by omega)
    exact Or.inl ⟨by simp [dot], rfl⟩

theorem pointSeg2_degenerate : pointSeg2 p a a = Q.ofInt (sqDist p a) := by
  have h0 : ¬ 0 < sqDist a a := by simp [sqDist]
  simp [pointSeg2, h0]

theorem pointSeg2_num_nonneg : 0 ≤ (pointSeg2 p a b).num := by
  rcases pointSeg2_cases p a b with ⟨_, e⟩ | ⟨_, _, e⟩ | ⟨_, _, e, _⟩ <;> rw [e]
  · exact sqDist_nonneg _ _
  · exact sqDist_nonneg _ _
  · exact mul_self_nonneg' _

/-- when the foot is not after `a`, no point of the ray from `a` through `b` is closer to `p` than `a` -/
theorem sqDist_mul_le (ht : dot a b p ≤ 0) (hn : 0 ≤ n) (hk : 0 ≤ k) :
    sqDist p a * (n * n) ≤ paramDist2 p a b k n := by
  have h1 : 0 ≤ n * k * -dot a b p := Int.mul_nonneg (Int.mul_nonneg hn hk) (by omega)
  have h2 : 0 ≤ k * k * sqDist a b := Int.mul_nonneg (mul_self_nonneg' k) (sqDist_nonneg a b)
  rw [paramDist2_eq]; omega

/-- **lower bound**: no point `a + (k/n)(b−a)`, `0 ≤ k ≤ n`, of the segment is closer to `p` than `pointSeg2` -/
theorem pointSeg2_le (hn : 0 < n) (hk0 : 0 ≤ k) (hkn : k ≤ n) :
    (pointSeg2 p a b).num * (n * n) ≤ paramDist2 p a b k n * (pointSeg2 p a b).den := by
  rcases pointSeg2_cases p a b with ⟨ht, e⟩ | ⟨_, ht, e⟩ | ⟨_, _, e, e'⟩
  · rw [e]; simpa [Q.ofInt] using sqDist_mul_le p a b k n ht (by omega) hk0
  · -- the mirror image: `b` is the nearest point
    rw [e, paramDist2_swap]
    simpa [Q.ofInt] using sqDist_mul_le p b a (n - k) n (by rw [dot_swap]; omega) (by omega) (by omega)
  · -- the perpendicular foot
    have := mul_self_nonneg' (n * dot a b p - k * sqDist a b)
    rw [e, e', paramDist2_mul_sqDist]; omega

/-- **attained**: some point of the segment with a rational parameter is at exactly that distance -/
theorem pointSeg2_attained :
    ∃ k n : Int, 0 < n ∧ 0 ≤ k ∧ k ≤ n ∧
      (pointSeg2 p a b).num * (n * n) = paramDist2 p a b k n * (pointSeg2 p a b).den := by
  rcases pointSeg2_cases p a b with ⟨_, e⟩ | ⟨_, _, e⟩ | ⟨ht0, ht1, e, e'⟩
  · exact ⟨0, 1, by decide, by decide, by decide, by rw [e, paramDist2_zero]; rfl⟩
  · exact ⟨1, 1, by decide, by decide, by decide, by rw [e, paramDist2_one]; rfl⟩
  · refine ⟨dot a b p, sqDist a b, by omega, by omega, by omega, ?_⟩
    rw [e, e', paramDist2_mul_sqDist, Int.mul_comm (sqDist a b) (dot a b p), Int.sub_self, Int.mul_zero, Int.add_zero]

theorem pointSeg2_le_ends :
    Q.le (pointSeg2 p a b) (Q.ofInt (sqDist p a)) = true ∧ Q.le (pointSeg2 p a b) (Q.ofInt (sqDist p b)) = true := by
  have h0 := pointSeg2_le p a b 0 1 (by decide) (by decide) (by decide)
  have h1 := pointSeg2_le p a b 1 1 (by decide) (by decide) (by decide)
  rw [paramDist2_zero] at h0; rw [paramDist2_one] at h1
  simp only [Q.le, Q.ofInt, decide_eq_true_eq, Int.mul_one] at h0 h1 ⊢
  exact ⟨h0, h1⟩

end

/-- `p = a + (k/n)(b − a)` for some rational parameter in `[0,1]` -/
def OnSegQ (p a b : Pt) : Prop :=
  ∃ k n : Int, 0 < n ∧ 0 ≤ k ∧ k ≤ n ∧ n * (p.x - a.x) = k * (b.x - a.x) ∧ n * (p.y - a.y) = k * (b.y - a.y)

theorem num_zero_of_le_zero (m x : Q) (hm : 0 ≤ m.num) (hx : x.num = 0) (h : Q.le m x = true) : m.num = 0 := by
  simp only [Q.le, decide_eq_true_eq, hx, Int.zero_mul] at h
  rcases Int.lt_or_eq_of_le hm with hpos | heq
  · have := Int.mul_pos hpos x.pos; omega
  · exact heq.symm

/-- the squared distance is zero exactly when the point lies on the segment -/
theorem pointSeg2_zero_iff (p a b : Pt) : (pointSeg2 p a b).num = 0 ↔ OnSegQ p a b := by
  constructor
  · intro h0
    obtain ⟨k, n, hn, hk0, hkn, heq⟩ := pointSeg2_attained p a b
    rw [h0, Int.zero_mul] at heq
    have hz := (Int.mul_eq_zero.mp heq.symm).resolve_right (Int.ne_of_gt (pointSeg2 p a b).pos)
    obtain ⟨hx, hy⟩ := sq_sum_zero _ _ (Int.le_of_eq hz)
    exact ⟨k, n, hn, hk0, hkn, by omega, by omega⟩
  · rintro ⟨k, n, hn, hk0, hkn, hx, hy⟩
    have hz : paramDist2 p a b k n = 0 := by simp [paramDist2, hx, hy]
    exact num_zero_of_le_zero _ ⟨paramDist2 p a b k n, n * n, Int.mul_pos hn hn⟩ (pointSeg2_num_nonneg p a b) hz
      (decide_eq_true (pointSeg2_le p a b k n hn hk0 hkn))

end GeosModel.Distance
