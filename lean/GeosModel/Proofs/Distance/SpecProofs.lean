import GeosModel.Proofs.Distance.PointSeg
import GeosModel.Proofs.Distance.Order
/-!
What the property theorems of `Props/C08.lean` about segments and geometries are built from: `min4`; disjointness of two
segments (`segRel_disjoint_iff`: no proper crossing and no endpoint on the other segment) and its symmetry; the two equations of
`segSeg2`; `biDist2` at the ends of a segment; symmetry and minimality of the facet distance.  Core Lean only: the facts about `segRel` are derived from its definition
here because their counterparts in `Proofs/Kernel` (`segRel_symm`, `segRel_det`) are proved with Mathlib.
-/
namespace GeosModel.Distance
open GeosModel.Kernel
open GeosModel.STR (LeOK)

theorem Q.min_cases (a b : Q) : Q.min a b = a ∨ Q.min a b = b := by
  unfold Q.min; split <;> simp

theorem Q.min_le_left (a b : Q) : Q.le (Q.min a b) a = true := by
  unfold Q.min; split
  · exact qLeOK.refl a
  · exact (Q.le_total a b).resolve_left ‹_›

theorem Q.min_le_right (a b : Q) : Q.le (Q.min a b) b = true := by
  unfold Q.min; split
  · assumption
  · exact qLeOK.refl b

theorem min4_mem (a b c d : Q) : min4 a b c d = a ∨ min4 a b c d = b ∨ min4 a b c d = c ∨ min4 a b c d = d := by
  unfold min4
  rcases Q.min_cases (Q.min a b) (Q.min c d) with h | h <;> rw [h]
  · rcases Q.min_cases a b with h | h <;> rw [h] <;> simp
  · rcases Q.min_cases c d with h | h <;> rw [h] <;> simp

theorem min4_le (a b c d : Q) :
    Q.le (min4 a b c d) a = true ∧ Q.le (min4 a b c d) b = true ∧
    Q.le (min4 a b c d) c = true ∧ Q.le (min4 a b c d) d = true := by
  unfold min4
  have h1 := Q.min_le_left (Q.min a b) (Q.min c d)
  have h2 := Q.min_le_right (Q.min a b) (Q.min c d)
  exact ⟨Q.le_trans _ _ _ h1 (Q.min_le_left a b), Q.le_trans _ _ _ h1 (Q.min_le_right a b),
         Q.le_trans _ _ _ h2 (Q.min_le_left c d), Q.le_trans _ _ _ h2 (Q.min_le_right c d)⟩

theorem Q.le_min {x a b : Q} (ha : Q.le x a = true) (hb : Q.le x b = true) : Q.le x (Q.min a b) = true := by
  unfold Q.min; split <;> assumption

theorem min4_perm_eqv (a b c d : Q) : Q.eqv (min4 a b c d) (min4 c d a b) = true := by
  obtain ⟨h1, h2, h3, h4⟩ := min4_le a b c d
  obtain ⟨g1, g2, g3, g4⟩ := min4_le c d a b
  exact (Q.eqv_iff_le_le _ _).mpr ⟨Q.le_min (Q.le_min h3 h4) (Q.le_min h1 h2), Q.le_min (Q.le_min g3 g4) (Q.le_min g1 g2)⟩

theorem Q.min_num_nonneg {x y : Q} (hx : 0 ≤ x.num) (hy : 0 ≤ y.num) : 0 ≤ (Q.min x y).num := by
  rcases Q.min_cases x y with h | h <;> rw [h] <;> assumption

theorem Q.min_num_zero_iff {x y : Q} (hx : 0 ≤ x.num) (hy : 0 ≤ y.num) :
    (Q.min x y).num = 0 ↔ x.num = 0 ∨ y.num = 0 := by
  constructor
  · intro h0
    rcases Q.min_cases x y with h | h <;> rw [h] at h0
    · exact .inl h0
    · exact .inr h0
  · rintro (h | h)
    · exact num_zero_of_le_zero _ _ (Q.min_num_nonneg hx hy) h (Q.min_le_left x y)
    · exact num_zero_of_le_zero _ _ (Q.min_num_nonneg hx hy) h (Q.min_le_right x y)

theorem min4_num_nonneg {w x y z : Q} (hw : 0 ≤ w.num) (hx : 0 ≤ x.num) (hy : 0 ≤ y.num) (hz : 0 ≤ z.num) :
    0 ≤ (min4 w x y z).num :=
  Q.min_num_nonneg (Q.min_num_nonneg hw hx) (Q.min_num_nonneg hy hz)

theorem min4_num_zero_iff {w x y z : Q} (hw : 0 ≤ w.num) (hx : 0 ≤ x.num) (hy : 0 ≤ y.num) (hz : 0 ≤ z.num) :
    (min4 w x y z).num = 0 ↔ w.num = 0 ∨ x.num = 0 ∨ y.num = 0 ∨ z.num = 0 := by
  rw [min4, Q.min_num_zero_iff (Q.min_num_nonneg hw hx) (Q.min_num_nonneg hy hz), Q.min_num_zero_iff hw hx,
    Q.min_num_zero_iff hy hz, or_assoc]

/-- a value below `pointSeg2 p a b` is below the squared distance from `p` to every point of the segment; both sides scaled
by `s²`, the shape in which `biDist2` meets `paramDist2` -/
theorem lower_scaled (q : Q) (p a b : Pt) (h : Q.le q (pointSeg2 p a b) = true)
    (k n : Int) (hn : 0 < n) (hk0 : 0 ≤ k) (hkn : k ≤ n) (s : Int) :
    q.num * ((s * n) * (s * n)) ≤ s * s * paramDist2 p a b k n * q.den := by
  -- transitivity of `Q.le` through the fraction `paramDist2 / n²`
  have h0 : q.num * (n * n) ≤ paramDist2 p a b k n * q.den :=
    of_decide_eq_true (Q.le_trans q _ ⟨paramDist2 p a b k n, n * n, Int.mul_pos hn hn⟩ h
      (decide_eq_true (pointSeg2_le p a b k n hn hk0 hkn)))
  have e1 : q.num * ((s * n) * (s * n)) = s * s * (q.num * (n * n)) := by grind
  rw [e1, Int.mul_assoc (s * s)]; exact Int.mul_le_mul_of_nonneg_left h0 (mul_self_nonneg' s)

/-- an endpoint of one segment lies on the other -/
def Touch (a b c d : Pt) : Prop :=
  onSegment a b c = true ∨ onSegment a b d = true ∨ onSegment c d a = true ∨ onSegment c d b = true

theorem Touch.symm {a b c d : Pt} : Touch a b c d → Touch c d a b
  | .inl h => .inr (.inr (.inl h))
  | .inr (.inl h) => .inr (.inr (.inr h))
  | .inr (.inr (.inl h)) => .inl h
  | .inr (.inr (.inr h)) => .inr (.inl h)

/-- a point on the segment is collinear with it (stated with the hypothesis repeated: the shape of a disjunct of `segRel`'s last test) -/
theorem orient_of_onSegment {a b p : Pt} (h : onSegment a b p = true) : orient a b p = 0 ∧ onSegment a b p = true := by
  have h' := h
  simp only [onSegment, Bool.and_eq_true, beq_iff_eq] at h'
  exact ⟨by simp only [orient, h'.1, Int.sign_zero], h⟩

section
variable (a b c d : Pt)

/-- `segRel` reports `disjoint` exactly when the segments neither cross properly nor touch at an endpoint: in the collinear
branch of `segRel` all four orientations vanish, so its test "no endpoint on the other segment" and the test of the general
branch "no endpoint collinear with and on the other segment" say the same -/
theorem segRel_disjoint_iff :
    segRel a b c d = .disjoint ↔
      ¬ (orient a b c * orient a b d < 0 ∧ orient c d a * orient c d b < 0) ∧ ¬ Touch a b c d := by
  unfold segRel Touch
  simp only [List.any_cons, List.any_nil, id, Bool.or_false, Bool.and_eq_true, Bool.or_eq_true, decide_eq_true_eq,
    Bool.not_eq_true', Bool.or_eq_false_iff, beq_iff_eq, not_or, Bool.not_eq_true]
  split
  · -- a proper crossing
    exact ⟨nofun, fun h => absurd ‹_› h.1⟩
  · split
    · -- all four orientations vanish
      split
      · exact ⟨fun _ => ⟨‹_›, ‹_›⟩, fun _ => rfl⟩
      · exact ⟨fun h => (by split at h <;> cases h), fun h => absurd h.2 ‹_›⟩
    · -- the general position
      split
      · rename_i h'
        refine ⟨nofun, fun h => absurd ?_ Bool.false_ne_true⟩
        rcases h' with ((h' | h') | h') | h'
        · exact h.2.1 ▸ h'.2
        · exact h.2.2.1 ▸ h'.2
        · exact h.2.2.2.1 ▸ h'.2
        · exact h.2.2.2.2 ▸ h'.2
      · rename_i h'
        have z {a b p : Pt} := @orient_of_onSegment a b p
        exact ⟨fun _ => ⟨‹_›, Bool.eq_false_iff.mpr fun o => h' (.inl (.inl (.inl (z o)))),
          Bool.eq_false_iff.mpr fun o => h' (.inl (.inl (.inr (z o)))),
          Bool.eq_false_iff.mpr fun o => h' (.inl (.inr (z o))), Bool.eq_false_iff.mpr fun o => h' (.inr (z o))⟩, fun _ => rfl⟩

theorem segRel_disjoint_symm : segRel a b c d = .disjoint ↔ segRel c d a b = .disjoint := by
  rw [segRel_disjoint_iff, segRel_disjoint_iff, and_comm (a := orient a b c * orient a b d < 0)]
  exact and_congr_right' ⟨fun h t => h t.symm, fun h t => h t.symm⟩

theorem segSeg2_of_disjoint {a b c d : Pt} (h : segRel a b c d = .disjoint) :
    segSeg2 a b c d = min4 (pointSeg2 a c d) (pointSeg2 b c d) (pointSeg2 c a b) (pointSeg2 d a b) := by
  simp [segSeg2, h]

theorem segSeg2_of_not_disjoint {a b c d : Pt} (h : segRel a b c d ≠ .disjoint) : segSeg2 a b c d = Q.ofInt 0 := by
  simp [segSeg2, h]

theorem segSeg2_num_nonneg : 0 ≤ (segSeg2 a b c d).num := by
  by_cases hd : segRel a b c d = .disjoint
  · rw [segSeg2_of_disjoint hd]
    exact min4_num_nonneg (pointSeg2_num_nonneg _ _ _) (pointSeg2_num_nonneg _ _ _) (pointSeg2_num_nonneg _ _ _)
      (pointSeg2_num_nonneg _ _ _)
  · rw [segSeg2_of_not_disjoint hd]; exact Int.le_refl 0

end

/-- `(n·m)² · |a + (k/n)(b−a) − (c + (j/m)(d−c))|²` -/
def biDist2 (a b c d : Pt) (k n j m : Int) : Int :=
  (m * (n * a.x + k * (b.x - a.x)) - n * (m * c.x + j * (d.x - c.x))) * (m * (n * a.x + k * (b.x - a.x)) - n * (m * c.x + j * (d.x - c.x))) +
  (m * (n * a.y + k * (b.y - a.y)) - n * (m * c.y + j * (d.y - c.y))) * (m * (n * a.y + k * (b.y - a.y)) - n * (m * c.y + j * (d.y - c.y)))

/-- the full exactness statement for two segments: `segSeg2` is a lower bound of the squared distance of
every pair of points (rational parameters in the unit square) and is attained by some pair -/
def dist2_segSeg_full : Prop :=
  ∀ a b c d : Pt,
    (∀ k n j m : Int, 0 < n → 0 ≤ k → k ≤ n → 0 < m → 0 ≤ j → j ≤ m →
      (segSeg2 a b c d).num * ((n * m) * (n * m)) ≤ biDist2 a b c d k n j m * (segSeg2 a b c d).den) ∧
    (∃ k n j m : Int, 0 < n ∧ 0 ≤ k ∧ k ≤ n ∧ 0 < m ∧ 0 ≤ j ∧ j ≤ m ∧
      (segSeg2 a b c d).num * ((n * m) * (n * m)) = biDist2 a b c d k n j m * (segSeg2 a b c d).den)

section
variable (a b c d : Pt) (k n j m : Int)

/-- when the point of `(a,b)` at parameter `k/n` is the lattice point `p`, `biDist2` is the scaled `paramDist2` from `p` -/
theorem biDist2_of_point (p : Pt) (hx : n * p.x = n * a.x + k * (b.x - a.x))
    (hy : n * p.y = n * a.y + k * (b.y - a.y)) : biDist2 a b c d k n j m = n * n * paramDist2 p c d j m := by
  simp only [biDist2, paramDist2, ← hx, ← hy]; grind

theorem biDist2_swap : biDist2 a b c d k n j m = biDist2 c d a b j m k n := by
  simp only [biDist2]
  rw [← Int.neg_mul_neg (m * _ - _), Int.neg_sub, ← Int.neg_mul_neg (m * _ - _), Int.neg_sub]

theorem biDist2_left0 :
    biDist2 a b c d 0 n j m = (n * n) * paramDist2 a c d j m :=
  biDist2_of_point a b c d 0 n j m a (by simp) (by simp)

theorem biDist2_left1 :
    biDist2 a b c d n n j m = (n * n) * paramDist2 b c d j m :=
  biDist2_of_point a b c d n n j m b (by rw [← Int.mul_add]; congr 1; omega) (by rw [← Int.mul_add]; congr 1; omega)

theorem biDist2_right0 :
    biDist2 a b c d k n 0 m = (m * m) * paramDist2 c a b k n := by
  rw [biDist2_swap, biDist2_left0]

theorem biDist2_right1 :
    biDist2 a b c d k n m m = (m * m) * paramDist2 d a b k n := by
  rw [biDist2_swap, biDist2_left1]

theorem biDist2_nonneg : 0 ≤ biDist2 a b c d k n j m :=
  Int.add_nonneg (mul_self_nonneg' _) (mul_self_nonneg' _)

end

theorem fdist_symm (fa fb : Pt × Pt) : Q.eqv (fdist fa fb) (fdist fb fa) = true := by
  unfold fdist
  by_cases h : segRel fa.1 fa.2 fb.1 fb.2 = .disjoint
  · rw [segSeg2_of_disjoint h, segSeg2_of_disjoint ((segRel_disjoint_symm _ _ _ _).mp h)]
    exact min4_perm_eqv _ _ _ _
  · rw [segSeg2_of_not_disjoint h, segSeg2_of_not_disjoint fun hh => h ((segRel_disjoint_symm _ _ _ _).mpr hh)]
    rfl

section
variable (A B : IGeom)

theorem mem_facetPairs (q : Q) :
    q ∈ facetPairs A B ↔ ∃ fa ∈ facets A, ∃ fb ∈ facets B, fdist fa fb = q := by
  simp only [facetPairs, List.mem_flatMap, List.mem_map]

theorem any_zero_of_any_zero (h : (facetPairs A B).any Q.isZero = true) :
    (facetPairs B A).any Q.isZero = true := by
  obtain ⟨q, hq, hz⟩ := List.any_eq_true.mp h
  obtain ⟨fa, hfa, fb, hfb, rfl⟩ := (mem_facetPairs A B q).mp hq
  exact List.any_eq_true.mpr ⟨fdist fb fa, (mem_facetPairs B A _).mpr ⟨fb, hfb, fa, hfa, rfl⟩,
    (Q.eqv_zero _ _ (fdist_symm fa fb)).symm.trans hz⟩

theorem any_zero_symm : (facetPairs A B).any Q.isZero = (facetPairs B A).any Q.isZero :=
  Bool.eq_iff_iff.mpr ⟨any_zero_of_any_zero A B, any_zero_of_any_zero B A⟩

theorem intersects_symm : intersects A B = intersects B A := by
  unfold intersects
  rw [any_zero_symm A B, Bool.or_assoc, Bool.or_assoc, Bool.or_comm ((verts A).any _)]

end

/-- equivalence of optional distances -/
def OptEqv : Option Q → Option Q → Prop
  | some x, some y => Q.eqv x y = true
  | none, none => True
  | _, _ => False

section
variable (A B : IGeom)

theorem facetDist2_spec (x : Q) (hx : facetDist2 A B = some x) :
    (∃ fa ∈ facets A, ∃ fb ∈ facets B, fdist fa fb = x) ∧
    ∀ fa ∈ facets A, ∀ fb ∈ facets B, Q.le x (fdist fa fb) = true := by
  obtain ⟨hm, hl⟩ := minOver_spec qLeOK _ x hx
  exact ⟨(mem_facetPairs A B x).mp hm, fun fa hfa fb hfb => hl _ ((mem_facetPairs A B _).mpr ⟨fa, hfa, fb, hfb, rfl⟩)⟩

theorem facetDist2_le_of_some (x y : Q) (hx : facetDist2 A B = some x) (hy : facetDist2 B A = some y) :
    Q.le y x = true := by
  obtain ⟨⟨fa, hfa, fb, hfb, rfl⟩, _⟩ := facetDist2_spec A B x hx
  exact Q.le_trans _ _ _ ((facetDist2_spec B A y hy).2 fb hfb fa hfa) ((Q.eqv_iff_le_le _ _).mp (fdist_symm fb fa)).1

theorem facetDist2_ne_none_symm (x : Q) (hx : facetDist2 A B = some x) : facetDist2 B A ≠ none := by
  obtain ⟨⟨fa, hfa, fb, hfb, _⟩, _⟩ := facetDist2_spec A B x hx
  intro hy
  have hm : fdist fb fa ∈ facetPairs B A := (mem_facetPairs B A _).mpr ⟨fb, hfb, fa, hfa, rfl⟩
  rw [(minOver_eq_none _).mp hy] at hm; cases hm

theorem facetDist2_symm : OptEqv (facetDist2 A B) (facetDist2 B A) := by
  cases hx : facetDist2 A B <;> cases hy : facetDist2 B A
  · trivial
  · exact absurd hx (facetDist2_ne_none_symm B A _ hy)
  · exact absurd hy (facetDist2_ne_none_symm A B _ hx)
  · exact (Q.eqv_iff_le_le _ _).mpr ⟨facetDist2_le_of_some B A _ _ hy hx, facetDist2_le_of_some A B _ _ hx hy⟩

end

end GeosModel.Distance
