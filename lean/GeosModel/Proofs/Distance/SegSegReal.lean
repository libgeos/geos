import GeosModel.Proofs.Distance.RealBridge
import GeosModel.Proofs.Kernel.SegSegLemmas
/-!
# C08 — `Distance::segmentToSegment` read in the real numbers

`segSegR` is the decision skeleton of `Distance::segmentToSegment` over `ℝ` (degenerate segments first, then the envelope test,
the parallel test `denom = 0` and the parameter tests `r, s ∈ [0,1]`, the minimum of four point–segment distances when no
intersection is reported, 0 otherwise).  `segSegR_eq`: on integer points it is the square root of the exact rational `segSeg2`,
whose contact test is the exact predicate `Kernel.segRel`.  The two tests differ (the C++ reports "no intersection" for parallel
segments even when they overlap); they give the same value because

* if the C++ test reports an intersection, `segRel` is not `disjoint` (`segRel_of_cxx_intersection`), and
* if `segRel` is not `disjoint` but the C++ test reports none, an endpoint of one segment lies on the other, so one of the four
  point–segment distances is 0 (`not_disjoint_iff`, `pointSeg2_zero_of_onSegment`).
-/
namespace GeosModel.Distance
open GeosModel.Kernel GeosModel.SegSeg

/-! ### exact facts about `segRel` and `pointSeg2` that rest on `Proofs/Kernel` (which needs Mathlib, so they cannot stand in the
core-only `PointSeg.lean`, `SpecProofs.lean`) -/

/-- contact is a proper crossing or an endpoint of one segment on the other -/
theorem not_disjoint_iff (a b c d : Pt) :
    segRel a b c d ≠ .disjoint ↔ (Opp (det a b c) (det a b d) ∧ Opp (det c d a) (det c d b)) ∨ Touch a b c d := by
  rw [Ne, segRel_disjoint_iff, ← not_or, not_not]
  unfold orient; rw [sign_mul_neg_iff, sign_mul_neg_iff]

theorem between_mul (a b x : Int) (h1 : min a b ≤ x) (h2 : x ≤ max a b) :
    0 ≤ (b - a) * (x - a) ∧ ((b - a) * (x - a) ≤ 0 → x = a) := by
  rcases Int.le_total a b with h | h
  · have := Int.mul_nonneg (a := b - a) (b := x - a) (by omega) (by omega)
    exact ⟨this, fun h0 => by rcases Int.mul_eq_zero.mp (Int.le_antisymm h0 this) with e | e <;> omega⟩
  · have := Int.mul_nonneg (a := a - b) (b := a - x) (by omega) (by omega)
    rw [← Int.neg_mul_neg, Int.neg_sub, Int.neg_sub]
    exact ⟨this, fun h0 => by rcases Int.mul_eq_zero.mp (Int.le_antisymm h0 this) with e | e <;> omega⟩

/-- a point of the segment whose foot is not after `a` is `a` -/
theorem eq_of_onSegment_of_dot_le {p a b : Pt} (h : onSegment a b p = true) (ht : dot a b p ≤ 0) : p = a := by
  obtain ⟨hx1, hx2, hy1, hy2⟩ := (inBox_iff a b p).mp ((onSegment_iff a b p).mp h).2
  obtain ⟨x0, xe⟩ := between_mul a.x b.x p.x hx1 hx2
  obtain ⟨y0, ye⟩ := between_mul a.y b.y p.y hy1 hy2
  unfold dot at ht
  exact (Pt.ext_iff' p a).mpr ⟨xe (by omega), ye (by omega)⟩

/-- a point on the closed segment has point–segment distance 0 -/
theorem pointSeg2_zero_of_onSegment (p a b : Pt) (h : onSegment a b p = true) : (pointSeg2 p a b).num = 0 := by
  rcases pointSeg2_cases p a b with ⟨ht, e⟩ | ⟨_, ht, e⟩ | ⟨_, _, e, _⟩ <;> rw [e]
  · rw [eq_of_onSegment_of_dot_le h ht]; exact sqDist_self a
  · rw [eq_of_onSegment_of_dot_le ((onSegment_symm a b p).trans h) (by rw [dot_swap]; omega)]; exact sqDist_self b
  · rw [((onSegment_iff a b p).mp h).1]; rfl

/-! ### the real reading -/

theorem toReal_qmin (x y : Q) : (Q.min x y).toReal = min x.toReal y.toReal := by
  unfold Q.min
  split
  · exact (min_eq_left ((Q.le_iff_toReal x y).mp ‹_›)).symm
  · exact (min_eq_right ((Q.le_iff_toReal y x).mp ((Q.le_total x y).resolve_left ‹_›))).symm

theorem sqrt_min (x y : ℝ) : Real.sqrt (min x y) = min (Real.sqrt x) (Real.sqrt y) :=
  Monotone.map_min fun _ _ => Real.sqrt_le_sqrt

/-- `√(min4 …)` is the nested minimum the C++ writes -/
theorem sqrt_min4 (w x y z : Q) :
    Real.sqrt (min4 w x y z).toReal =
      min (Real.sqrt w.toReal) (min (Real.sqrt x.toReal) (min (Real.sqrt y.toReal) (Real.sqrt z.toReal))) := by
  unfold min4
  rw [toReal_qmin, toReal_qmin, toReal_qmin, sqrt_min, sqrt_min, sqrt_min, min_assoc]

/-- for integers `x` and `w ≠ 0`: the quotient `x / w` leaves `[0,1]` exactly when `x` and `x − w` have the same strict sign -/
theorem ratio_outside (x w : Int) (hw : w ≠ 0) : ((x : ℝ) / w < 0 ∨ 1 < (x : ℝ) / w) ↔ Same x (x - w) := by
  simp only [div_neg_iff, one_lt_div_iff, Int.cast_pos, Int.cast_lt_zero, Int.cast_lt, Same]; omega

/-- the envelope test of `segmentToSegment` over `ℝ` -/
def envR (p1x p1y p2x p2y q1x q1y q2x q2y : ℝ) : Prop :=
  ¬ (max q1x q2x < min p1x p2x) ∧ ¬ (max p1x p2x < min q1x q2x) ∧
  ¬ (max q1y q2y < min p1y p2y) ∧ ¬ (max p1y p2y < min q1y q2y)

theorem envR_iff (p1 p2 q1 q2 : Pt) :
    envR p1.x p1.y p2.x p2.y q1.x q1.y q2.x q2.y ↔ envIntersects p1 p2 q1 q2 = true := by
  rw [envIntersects_iff]
  unfold envR
  have c (a b c d : Int) : (max (a : ℝ) b < min (c : ℝ) d) ↔ (max a b < min c d) := by
    rw [← Int.cast_max, ← Int.cast_min]; exact Int.cast_lt
  rw [c, c, c, c]

open Classical in
/-- the decision skeleton of `Distance::segmentToSegment` over `ℝ` -/
noncomputable def segSegR (ax ay bx by' cx cy dx dy : ℝ) : ℝ :=
  if ax = bx ∧ ay = by' then pointSegR ax ay cx cy dx dy
  else if cx = dx ∧ cy = dy then pointSegR dx dy ax ay bx by'
  else
    let denom := (bx - ax) * (dy - cy) - (by' - ay) * (dx - cx)
    let r := ((ay - cy) * (dx - cx) - (ax - cx) * (dy - cy)) / denom
    let s := ((ay - cy) * (bx - ax) - (ax - cx) * (by' - ay)) / denom
    if ¬ envR ax ay bx by' cx cy dx dy ∨ denom = 0 ∨ r < 0 ∨ 1 < r ∨ s < 0 ∨ 1 < s then
      min (pointSegR ax ay cx cy dx dy) (min (pointSegR bx by' cx cy dx dy)
        (min (pointSegR cx cy ax ay bx by') (pointSegR dx dy ax ay bx by')))
    else 0

/-! ### degenerate segments -/

/-- contact with a degenerate segment `(a,a)`: the point `a` lies on the other segment -/
theorem onSegment_of_touch_degenerate (a c d : Pt) (h : segRel a a c d ≠ .disjoint) : onSegment c d a = true := by
  rcases (not_disjoint_iff a a c d).mp h with ⟨h1, _⟩ | h1 | h1 | h1 | h1
  · rw [det_self12, det_self12] at h1; unfold Opp at h1; omega
  · rw [(onSegment_self_iff a c).mp h1]; exact onSegment_left a d
  · rw [(onSegment_self_iff a d).mp h1]; exact onSegment_right c a
  · exact h1
  · exact h1

/-- value of `segSeg2` when the first segment is the point `a`: the point–segment distance -/
theorem segSeg2_degenerate_left (a c d : Pt) : (segSeg2 a a c d).toReal = (pointSeg2 a c d).toReal := by
  by_cases hr : segRel a a c d = .disjoint
  · obtain ⟨e1, e2⟩ := pointSeg2_le_ends a c d
    rw [Q.le_iff_toReal, sqDist_comm] at e1 e2
    rw [segSeg2_of_disjoint hr, min4, toReal_qmin, toReal_qmin, toReal_qmin, pointSeg2_degenerate, pointSeg2_degenerate,
      min_self]
    exact min_eq_left (le_min e1 e2)
  · rw [segSeg2_of_not_disjoint hr,
      toReal_zero_of_num _ (pointSeg2_zero_of_onSegment a c d (onSegment_of_touch_degenerate a c d hr))]
    exact toReal_zero_of_num _ rfl

/-- the same with the second segment degenerate, by the symmetry of `segSeg2` -/
theorem segSeg2_degenerate_right (a b c : Pt) : (segSeg2 a b c c).toReal = (pointSeg2 c a b).toReal :=
  (Q.toReal_congr (fdist_symm (a, b) (c, c))).trans (segSeg2_degenerate_left c a b)

/-! ### the main case: both segments proper -/

/-- the "no intersection" test of the C++ over integer points, in terms of the four determinants -/
def CxxNoInt (a b c d : Pt) : Prop :=
  ¬ envIntersects a b c d = true ∨ det a b d - det a b c = 0 ∨ Same (det c d a) (det c d b) ∨ Same (det a b c) (det a b d)

section
variable (a b c d : Pt)

/-- if the C++ test reports an intersection, `segRel` reports contact -/
theorem segRel_of_cxx_intersection (h : ¬ CxxNoInt a b c d) : segRel a b c d ≠ .disjoint := by
  unfold CxxNoInt at h
  have h2 : det a b d - det a b c ≠ 0 := fun e => h (.inr (.inl e))
  have h3 : ¬ Same (det c d a) (det c d b) := fun e => h (.inr (.inr (.inl e)))
  have h4 : ¬ Same (det a b c) (det a b d) := fun e => h (.inr (.inr (.inr e)))
  refine (not_disjoint_iff a b c d).mpr ?_
  by_cases hz : det a b c = 0 ∨ det a b d = 0 ∨ det c d a = 0 ∨ det c d b = 0
  · exact .inr (touch_of_zero h4 h3 (by omega) hz)
  · exact .inl ⟨opp_of_not_same (by omega) (by omega) h4, opp_of_not_same (by omega) (by omega) h3⟩

/-- if the C++ test reports no intersection although `segRel` reports contact, an endpoint lies on the other segment -/
theorem touch_of_cxx_noInt (h : CxxNoInt a b c d) (hr : segRel a b c d ≠ .disjoint) : Touch a b c d := by
  rcases (not_disjoint_iff a b c d).mp hr with ⟨o12, o34⟩ | t
  · exfalso
    have hf := det_four a b c d
    have he := proper_env o12 o34
    unfold CxxNoInt at h; unfold Opp at o12 o34; unfold Same at h
    rcases h with h | h | h | h
    · exact h he
    · omega
    · omega
    · omega
  · exact t

theorem min4_zero_of_touch (t : Touch a b c d) :
    (min4 (pointSeg2 a c d) (pointSeg2 b c d) (pointSeg2 c a b) (pointSeg2 d a b)).toReal = 0 := by
  refine toReal_zero_of_num _ ((min4_num_zero_iff (pointSeg2_num_nonneg _ _ _) (pointSeg2_num_nonneg _ _ _)
    (pointSeg2_num_nonneg _ _ _) (pointSeg2_num_nonneg _ _ _)).mpr ?_)
  rcases t with t | t | t | t
  · exact .inr (.inr (.inl (pointSeg2_zero_of_onSegment c a b t)))
  · exact .inr (.inr (.inr (pointSeg2_zero_of_onSegment d a b t)))
  · exact .inl (pointSeg2_zero_of_onSegment a c d t)
  · exact .inr (.inl (pointSeg2_zero_of_onSegment b c d t))

end

/-- the parameter tests of `segmentToSegment` on integers: with `w = D2 − D1 = D3 − D4`, `r = D3 / w` and `s = −D1 / w` each leave
`[0,1]` exactly when the two determinants concerned have the same strict sign -/
theorem noInt_iff (E : Prop) {D1 D2 D3 D4 : Int} (hf : D1 - D2 = D4 - D3) :
    (¬ E ∨ ((D2 - D1 : Int) : ℝ) = 0 ∨ (D3 : ℝ) / ((D2 - D1 : Int) : ℝ) < 0 ∨ 1 < (D3 : ℝ) / ((D2 - D1 : Int) : ℝ) ∨
      ((-D1 : Int) : ℝ) / ((D2 - D1 : Int) : ℝ) < 0 ∨ 1 < ((-D1 : Int) : ℝ) / ((D2 - D1 : Int) : ℝ)) ↔
    (¬ E ∨ D2 - D1 = 0 ∨ Same D3 D4 ∨ Same D1 D2) := by
  rw [Int.cast_eq_zero, ← @or_assoc (_ / _ < 0)]
  by_cases hz : D2 - D1 = 0
  · simp only [hz, true_or, or_true]
  · rw [ratio_outside _ _ hz, ratio_outside _ _ hz, show D3 - (D2 - D1) = D4 by omega,
      show -D1 - (D2 - D1) = -D2 by omega, same_neg_iff]

/-- **`segSegR` on integer points is the square root of the exact `segSeg2`** -/
theorem segSegR_eq (a b c d : Pt) :
    segSegR a.x a.y b.x b.y c.x c.y d.x d.y = Real.sqrt (segSeg2 a b c d).toReal := by
  unfold segSegR
  by_cases hab : a = b
  · subst hab; rw [if_pos ⟨rfl, rfl⟩, pointSegR_eq, segSeg2_degenerate_left]
  rw [if_neg fun h => hab ((pt_eq_iff a b).mpr h)]
  by_cases hcd : c = d
  · subst hcd; rw [if_pos ⟨rfl, rfl⟩, pointSegR_eq, segSeg2_degenerate_right]
  rw [if_neg fun h => hcd ((pt_eq_iff c d).mpr h)]
  dsimp only
  -- denominator and numerators of `r`, `s` are (casts of) determinants
  have eD : ((b.x : ℝ) - a.x) * (d.y - c.y) - (b.y - a.y) * (d.x - c.x) = ((det a b d - det a b c : Int) : ℝ) := by
    rw [Int.cast_sub, det_cast, det_cast]; ring
  have eR : ((a.y : ℝ) - c.y) * (d.x - c.x) - (a.x - c.x) * (d.y - c.y) = ((det c d a : Int) : ℝ) := by
    rw [det_cast]; ring
  have eS : ((a.y : ℝ) - c.y) * (b.x - a.x) - (a.x - c.x) * (b.y - a.y) = ((-det a b c : Int) : ℝ) := by
    rw [Int.cast_neg, det_cast]; ring
  rw [eD, eR, eS, envR_iff, pointSegR_eq, pointSegR_eq, pointSegR_eq, pointSegR_eq, ← sqrt_min4]
  have key : _ ↔ CxxNoInt a b c d := noInt_iff (envIntersects a b c d = true) (det_four a b c d)
  by_cases hr : segRel a b c d = .disjoint
  · -- `segRel` disjoint: the C++ test cannot report an intersection
    rw [if_pos (key.mpr (Classical.not_not.mp fun hN => segRel_of_cxx_intersection a b c d hN hr)), segSeg2_of_disjoint hr]
  · rw [segSeg2_of_not_disjoint hr, Q.toReal_ofInt, Int.cast_zero, Real.sqrt_zero]
    split_ifs with hP
    · -- no intersection reported, but contact: an endpoint touches
      rw [min4_zero_of_touch a b c d (touch_of_cxx_noInt a b c d (key.mp hP) hr), Real.sqrt_zero]
    · rfl

end GeosModel.Distance
