import GeosModel.Model.Distance.Spec
/-!
The dynamic programme `frechetDP` (row by row, each row from the previous one) computes the recursive
definition `frechetRec` of the discrete Fréchet distance.  Sequences are given as functions on indices
(`p₀ … p_n`, `q₀ … q_m`), i.e. the lists `(List.range (n+1)).map pf`.  Core Lean only; no assumption on `le`.
-/
namespace GeosModel.Distance
variable {α D : Type}

section
variable (le : D → D → Bool) (dd : Nat → Nat → D)

theorem frechetRec_00 : frechetRec le dd 0 0 = dd 0 0 := by
  rw [frechetRec]

theorem frechetRec_0s (j : Nat) :
    frechetRec le dd 0 (j + 1) = dmax le (frechetRec le dd 0 j) (dd 0 (j + 1)) := by
  rw [frechetRec]

theorem frechetRec_s0 (i : Nat) :
    frechetRec le dd (i + 1) 0 = dmax le (frechetRec le dd i 0) (dd (i + 1) 0) := by
  rw [frechetRec]

theorem frechetRec_ss (i j : Nat) :
    frechetRec le dd (i + 1) (j + 1) =
      dmax le (min3 le (frechetRec le dd i (j + 1)) (frechetRec le dd i j) (frechetRec le dd (i + 1) j)) (dd (i + 1) (j + 1)) := by
  rw [frechetRec]

end

section
variable (le : D → D → Bool) (d : α → α → D) (pf qf : Nat → α)

/-- the first row of the table is `c(0, ·)` -/
theorem firstRow_eq (c : Nat → D) (p : α)
    (hrec : ∀ j, c (j + 1) = dmax le (c j) (d p (qf (j + 1)))) :
    ∀ (len j0 : Nat) (acc : D), acc = c j0 →
      firstRow le d p acc ((List.range' (j0 + 1) len).map qf) = (List.range' (j0 + 1) len).map c := by
  intro len
  induction len with
  | zero => intro j0 acc _; simp [firstRow]
  | succ len ih =>
    intro j0 acc hacc
    simp only [List.range'_succ, List.map_cons, firstRow]
    rw [hacc, ← hrec j0]
    congr 1
    exact ih (j0 + 1) (c (j0 + 1)) rfl

/-- the tail of a later row: `cp` = previous row, `cn` = this row -/
theorem nextRowAux_eq (cp cn : Nat → D) (p : α)
    (hrec : ∀ j, cn (j + 1) = dmax le (min3 le (cp (j + 1)) (cp j) (cn j)) (d p (qf (j + 1)))) :
    ∀ (len j0 : Nat) (left diag : D), left = cn j0 → diag = cp j0 →
      nextRowAux le d p left diag ((List.range' (j0 + 1) len).map cp) ((List.range' (j0 + 1) len).map qf) =
        (List.range' (j0 + 1) len).map cn := by
  intro len
  induction len with
  | zero => intro j0 left diag _ _; simp [nextRowAux]
  | succ len ih =>
    intro j0 left diag hl hd
    simp only [List.range'_succ, List.map_cons, nextRowAux]
    rw [hl, hd, ← hrec j0]
    congr 1
    exact ih (j0 + 1) (cn (j0 + 1)) (cp (j0 + 1)) rfl rfl

theorem range_succ_eq (m : Nat) : List.range (m + 1) = 0 :: List.range' 1 m := by
  rw [List.range_eq_range', List.range'_succ]

variable (dd : Nat → Nat → D) (hdd : ∀ i j, d (pf i) (qf j) = dd i j)
include hdd

/-- one full row from the previous one; `dd i j` stands for the distance of vertex `i` to vertex `j` -/
theorem nextRow_eq (m i : Nat) :
    nextRow le d (pf (i + 1)) ((List.range (m + 1)).map (frechetRec le dd i)) ((List.range (m + 1)).map qf) =
      (List.range (m + 1)).map (frechetRec le dd (i + 1)) := by
  simp only [range_succ_eq, List.map_cons, nextRow]
  rw [hdd, ← frechetRec_s0 le dd i]
  congr 1
  exact nextRowAux_eq le d qf (frechetRec le dd i) (frechetRec le dd (i + 1)) (pf (i + 1))
    (fun j => by rw [hdd]; exact frechetRec_ss le dd i j) m 0 _ _ rfl rfl

/-- all remaining rows -/
theorem rowsFrom_eq (m : Nat) :
    ∀ (len i0 : Nat),
      rowsFrom le d ((List.range (m + 1)).map qf) ((List.range (m + 1)).map (frechetRec le dd i0))
          ((List.range' (i0 + 1) len).map pf) =
        (List.range (m + 1)).map (frechetRec le dd (i0 + len)) := by
  intro len
  induction len with
  | zero => intro i0; simp [rowsFrom]
  | succ len ih =>
    intro i0
    simp only [List.range'_succ, List.map_cons, rowsFrom]
    rw [nextRow_eq le d pf qf dd hdd m i0, ih (i0 + 1)]
    congr 2
    omega

/-- **the DP equals the recursive definition** -/
theorem frechetDP_eq (n m : Nat) :
    frechetDP le d ((List.range (n + 1)).map pf) ((List.range (m + 1)).map qf) = some (frechetRec le dd n m) := by
  have hfirst : (d (pf 0) (qf 0) :: firstRow le d (pf 0) (d (pf 0) (qf 0)) ((List.range' 1 m).map qf)) =
      (List.range (m + 1)).map (frechetRec le dd 0) := by
    rw [range_succ_eq, List.map_cons, frechetRec_00, hdd]
    congr 1
    exact firstRow_eq le d qf (frechetRec le dd 0) (pf 0) (fun j => by rw [hdd]; exact frechetRec_0s le dd j) m 0 _
      (frechetRec_00 le dd).symm
  have hq : (List.range (m + 1)).map qf = qf 0 :: (List.range' 1 m).map qf := by
    rw [range_succ_eq, List.map_cons]
  have hp : (List.range (n + 1)).map pf = pf 0 :: (List.range' 1 n).map pf := by
    rw [range_succ_eq, List.map_cons]
  rw [hp]
  conv => lhs; arg 4; rw [hq]
  simp only [frechetDP]
  rw [hfirst, ← hq]
  have := rowsFrom_eq le d pf qf dd hdd m n 0
  simp only [Nat.zero_add] at this
  rw [this]
  simp [List.range_succ]

end
end GeosModel.Distance
