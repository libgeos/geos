/-!
# `for` loops of regenerated C++ (`translate/cxx2lean.py`) as structural recursion

A C++ loop becomes `for x in xs do …` inside an `Id.run do` block, i.e. `forIn xs init step` in the monad `Id`, where the
state is the tuple of the variables the loop assigns (preceded by an `Option` holding the value of an early `return`).
`forIn_rec` is the one induction over such a loop: it computes whatever a function defined by recursion over the same list
computes, once each pass through the body has been matched with one unfolding of that function; `Ret` is the usual
postcondition of a loop with an early `return`.  `loopFn` is the loop as a structurally recursive function, through which
the lemmas about `forIn` are proved.  The last section turns index loops (`for i in [a:b]` reading `xs[i-1]`, `xs[i]`) into folds
over the list.  Core Lean only.
-/
namespace GeosModel.CxxLoop

/-- `forIn xs b f` in `Id`, by structural recursion on the list -/
def loopFn {ι β : Type} (f : ι → β → Id (ForInStep β)) : List ι → β → β
  | [], b => b
  | x :: xs, b =>
    match (f x b).run with
    | .done b' => b'
    | .yield b' => loopFn f xs b'

theorem forIn_eq_loopFn {ι β : Type} (f : ι → β → Id (ForInStep β)) (l : List ι) (b : β) :
    (forIn l b f : Id β).run = loopFn f l b := by
  induction l generalizing b with
  | nil => simp [loopFn]
  | cons x xs ih =>
    simp only [List.forIn_cons, loopFn]
    cases h : (f x b).run with
    | done b' => simp [h]
    | yield b' => simp [h, ih]

/-- A loop computes a function `M` defined by recursion on the list it runs over.  `R` relates the loop state to the
accumulator of `M`, `Post` says how the state the loop ends in determines the value of `M`, `Q` is what is known of every
element.  A pass that leaves the loop must establish `Post`; a pass that continues corresponds to one unfolding of `M`. -/
theorem forIn_rec {ι β γ δ : Type} (F : ι → β → Id (ForInStep β)) (M : γ → List ι → δ) (R : β → γ → Prop)
    (Post : β → δ → Prop) (Q : ι → Prop) (hnil : ∀ b c, R b c → Post b (M c []))
    (hstep : ∀ x xs b c, Q x → R b c → match (F x b).run with
      | .done b' => Post b' (M c (x :: xs))
      | .yield b' => ∃ c', M c' xs = M c (x :: xs) ∧ R b' c') :
    ∀ (l : List ι) (b : β) (c : γ), (∀ x ∈ l, Q x) → R b c → Post (forIn (m := Id) l b F) (M c l) := by
  intro l
  show ∀ b c, _ → _ → Post (forIn l b F : Id β).run _
  simp only [forIn_eq_loopFn]
  induction l with
  | nil => exact fun b c _ h => hnil b c h
  | cons x xs ih =>
    intro b c hq h
    have hs := hstep x xs b c (hq x (List.mem_cons_self ..)) h
    rw [loopFn]
    split at hs
    · exact hs
    · obtain ⟨c', hm, hr⟩ := hs
      exact hm ▸ ih _ c' (fun y hy => hq y (List.mem_cons_of_mem _ hy)) hr

/-- What a loop that may `return` stands for.  Its state is `(value returned, variables)`; `Ret after L d`: the loop ended in
state `L` and either had returned `d` or the code after it, `after`, computes `d` from the variables. -/
structure Ret {ρ σ : Type} (after : σ → ρ) (L : Option ρ × σ) (d : ρ) : Prop where
  ret : ∀ r, L.1 = some r → r = d
  fall : L.1 = none → after L.2 = d

theorem Ret.done {ρ σ : Type} (after : σ → ρ) (d : ρ) (s : σ) : Ret after (some d, s) d :=
  ⟨fun _ h => (Option.some.inj h).symm, fun h => (nomatch h)⟩

theorem Ret.cont {ρ σ : Type} (after : σ → ρ) (s : σ) : Ret after (none, s) (after s) :=
  ⟨fun _ h => (nomatch h), fun _ => rfl⟩

/-- the code after such a loop: `if (returned) return value; else …` -/
theorem Ret.eq {ρ σ : Type} {after : σ → ρ} {L : Option ρ × σ} {d : ρ} (h : Ret after L d) :
    (match L.1 with | some r => r | none => after L.2) = d := by
  split
  · exact h.ret _ ‹_›
  · exact h.fall ‹_›

/-- a loop that never leaves early is a left fold -/
theorem forIn_yield {ι β : Type} (F : ι → β → Id (ForInStep β)) (g : ι → β → β) (hF : ∀ x s, (F x s).run = .yield (g x s))
    (l : List ι) (b : β) : forIn (m := Id) l b F = l.foldl (fun s x => g x s) b := by
  show (forIn l b F : Id β).run = _
  rw [forIn_eq_loopFn]
  induction l generalizing b with
  | nil => rfl
  | cons x xs ih => rw [loopFn, hF]; exact ih _

theorem map_getD_range' {α β : Type} (l : List α) (d : α) (f : α → β) :
    (List.range' 0 l.length).map (fun i => f (l.getD i d)) = l.map f := by
  apply List.ext_getElem
  · simp
  · intro i h1 _
    have h : i < l.length := by simpa using h1
    simp [List.getD_eq_getElem?_getD, h]

end GeosModel.CxxLoop

namespace GeosModel.C07Bridge

/-! ### index loops as folds over lists (in namespace `C07Bridge`: the C07 bridge theorems are their users)

`for (i = 1; i < n; i++) … seq[i-1] … seq[i] …` is regenerated as `for i in [1:n]` over `seqAt ring (i - 1)`, `seqAt ring i`;
`for (i = 0; i < n; i++) … ring(i) …` as `for i in [0:n]`.  The two lemmas turn such loops (any state, early exit included) into
folds over the consecutive pairs / the elements of the list, which is how the models recurse. -/

theorem getD_append_mid {α : Type} (pre : List α) (a : α) (rest : List α) (d : α) :
    (pre ++ a :: rest).getD pre.length d = a := by
  simp [List.getD]

theorem forIn_range_pairs {α σ : Type} (d : α) (f : α → α → σ → Id (ForInStep σ)) :
    ∀ (rest : List α) (pre : List α) (a : α) (s : σ),
      forIn (List.range' (pre.length + 1) rest.length) s
          (fun i s => f ((pre ++ a :: rest).getD (i - 1) d) ((pre ++ a :: rest).getD i d) s)
        = forIn ((a :: rest).zip rest) s (fun ab s => f ab.1 ab.2 s) := by
  intro rest
  induction rest with
  | nil => intro pre a s; simp
  | cons b rest ih =>
    intro pre a s
    have h0 : (pre ++ a :: b :: rest).getD pre.length d = a := getD_append_mid pre a (b :: rest) d
    have h1 : (pre ++ a :: b :: rest).getD (pre.length + 1) d = b := by
      have := getD_append_mid (pre ++ [a]) b rest d
      simpa using this
    have ih' := ih (pre ++ [a]) b
    simp only [List.length_append, List.length_cons, List.length_nil, List.append_assoc, List.cons_append, List.nil_append] at ih'
    simp only [List.length_cons, List.range'_succ, List.forIn_cons, List.zip_cons_cons, Nat.add_sub_cancel, h0, h1]
    congr 1
    funext r
    cases r with
    | done s' => rfl
    | yield s' => exact ih' s'

theorem forIn_range_elems {α σ : Type} (d : α) (f : α → σ → Id (ForInStep σ)) :
    ∀ (l : List α) (pre : List α) (s : σ),
      forIn (List.range' pre.length l.length) s (fun i s => f ((pre ++ l).getD i d) s) = forIn l s f := by
  intro l
  induction l with
  | nil => intro pre s; simp
  | cons a l ih =>
    intro pre s
    have h0 : (pre ++ a :: l).getD pre.length d = a := getD_append_mid pre a l d
    have ih' := ih (pre ++ [a])
    simp only [List.length_append, List.length_cons, List.length_nil, List.append_assoc, List.cons_append, List.nil_append] at ih'
    simp only [List.length_cons, List.range'_succ, List.forIn_cons, h0]
    congr 1
    funext r
    cases r with
    | done s' => rfl
    | yield s' => exact ih' s'

/-- the same with the loop body given by what it does: a body that treats `xs[i-1]`, `xs[i]` and the state as `step` does -/
theorem forIn_range_pairs_of_body {α σ : Type} (d : α) (step : α → α → σ → Id (ForInStep σ)) (a : α) (rest : List α) (s : σ)
    (F : Nat → σ → Id (ForInStep σ))
    (hF : ∀ i s, F i s = step ((a :: rest).getD (i - 1) d) ((a :: rest).getD i d) s) :
    forIn (List.range' 1 rest.length) s F = forIn ((a :: rest).zip rest) s (fun ab s => step ab.1 ab.2 s) := by
  rw [funext fun i => funext (hF i)]
  exact forIn_range_pairs d step rest [] a s

theorem forIn_range_elems_of_body {α σ : Type} (d : α) (step : α → σ → Id (ForInStep σ)) (l : List α) (s : σ)
    (F : Nat → σ → Id (ForInStep σ)) (hF : ∀ i s, F i s = step (l.getD i d) s) :
    forIn (List.range' 0 l.length) s F = forIn l s step := by
  rw [funext fun i => funext (hF i)]
  exact forIn_range_elems d step l [] s

end GeosModel.C07Bridge
