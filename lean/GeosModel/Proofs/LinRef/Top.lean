import GeosModel.Proofs.LinRef.Loc
/-!
Lemmas lifting the item-list facts to whole lines (`items l`), used by Props/C19.lean.
-/
namespace GeosModel.LinRef

theorem totalLen_nonneg (l : Line Rat) (hnn : l.NonNeg) : 0 ≤ totalLen l :=
  sumFrom_nonneg _ fun x hx => by
    obtain ⟨c, hc, rfl⟩ := List.mem_map.mp hx
    exact sumFrom_nonneg c (hnn c hc)

theorem clampIndex_id (l : Line Rat) (x : Rat) (h0 : 0 ≤ x) (h1 : x ≤ totalLen l) : clampIndex l x = x := by
  rw [clampIndex, positiveIndex, if_pos h0]
  exact (clamp_spec (Rat.le_trans h0 h1) x).2.2.1 h0 h1

theorem getLength_start (l : Line Rat) (hwf : l.WF = true) : getLength l startLoc = 0 := by
  cases l with
  | nil => rfl
  | cons comp r =>
    cases comp with
    | nil => simp [Line.WF] at hwf
    | cons s t =>
      -- the first position is the segment (0, 0)
      show (0 : Rat) + s * 0 = 0
      rw [Rat.mul_zero, Rat.add_zero]

/-- every position of the iterator lies on a component of the geometry, at one of its vertices -/
theorem mem_itemsFrom_comp {c0 : Nat} {l : Line Rat} {it : Item Rat} (h : it ∈ itemsFrom c0 l) :
    ∃ k comp, l[k]? = some comp ∧ it.c = c0 + k ∧ it.v ≤ comp.length := by
  induction l generalizing c0 with
  | nil => cases h
  | cons comp r ih =>
    rcases List.mem_append.mp h with h | h
    · have := mem_compItems h
      exact ⟨0, comp, rfl, this.1, by omega⟩
    · obtain ⟨k, cmp, hk, hc, hv⟩ := ih h
      exact ⟨k + 1, cmp, hk, by omega, hv⟩

/-- so a location with fraction < 1 at one of the positions is not behind the end location -/
theorem le_endLoc (l : Line Rat) (a : Loc Rat) (it : Item Rat) (hm : it ∈ items l)
    (hc : a.comp = it.c) (hv : a.seg = it.v) (hf : a.frac < 1) : a.le (endLoc l) := by
  obtain ⟨k, comp, hk, hck, hvk⟩ := mem_itemsFrom_comp hm
  have hkl := (List.getElem?_eq_some_iff.mp hk).1
  obtain ⟨last, hl⟩ : ∃ last, l[l.length - 1]? = some last := ⟨_, List.getElem?_eq_getElem (by omega)⟩
  rw [endLoc, List.getLast?_eq_getElem?, hl]
  refine (Loc.le_iff a ⟨l.length - 1, last.length, 1⟩).mpr ?_
  by_cases hlast : k = l.length - 1
  · have : last = comp := by rw [hlast, hl] at hk; exact Option.some.inj hk
    subst this
    refine Or.inr ⟨show a.comp = l.length - 1 by omega, ?_⟩
    by_cases h : a.seg = last.length
    · exact Or.inr ⟨h, Rat.le_of_lt hf⟩
    · exact Or.inl (show a.seg < last.length by omega)
  · exact Or.inl (show a.comp < l.length - 1 by omega)

theorem startLoc_le (a : Loc Rat) (h : 0 ≤ a.frac) : (startLoc : Loc Rat).le a := by
  rw [Loc.le_iff, startLoc]
  grind

/-! ### the case distinctions of `getLocation` / `getLocationForward` -/

theorem getLocation_of_nonneg (l : Line Rat) {ℓ : Rat} (h : 0 ≤ ℓ) : getLocation l ℓ = getLocationForward l ℓ := by
  rw [getLocation, if_neg (Rat.not_lt.mpr h)]

theorem getLocation_of_neg (l : Line Rat) {ℓ : Rat} (h : ℓ < 0) :
    getLocation l ℓ = getLocationForward l (totalLen l + ℓ) := by
  rw [getLocation, if_pos h]

theorem getLocationForward_nonpos (l : Line Rat) {ℓ : Rat} (h : ℓ ≤ 0) : getLocationForward l ℓ = startLoc :=
  if_pos h

theorem getLocationForward_pos (l : Line Rat) {ℓ : Rat} (h : 0 < ℓ) :
    getLocationForward l ℓ = (locFwdAux ℓ 0 (items l)).getD (endLoc l) :=
  if_neg (Rat.not_le.mpr h)

theorem endLoc_frac_nonneg (l : Line Rat) : 0 ≤ (endLoc l).frac := by
  unfold endLoc
  cases l.getLast? with
  | none => exact Rat.le_refl
  | some c => exact show (0 : Rat) ≤ 1 by decide

theorem getLocationForward_frac_nonneg (l : Line Rat) (ℓ : Rat) : 0 ≤ (getLocationForward l ℓ).frac := by
  by_cases h : 0 < ℓ
  · rw [getLocationForward_pos l h]
    cases hr : locFwdAux ℓ 0 (items l) with
    | none => exact endLoc_frac_nonneg l
    | some a =>
      obtain ⟨_, _, _, _, h0, _⟩ := locFwdAux_pos ℓ (items l) 0 a (Rat.le_of_lt h) hr
      exact h0
  · rw [getLocationForward_nonpos l (Rat.not_lt.mp h)]; exact Rat.le_refl

/-- a positive length within the line is found by the forward search -/
theorem getLocation_inside (l : Line Rat) {ℓ : Rat} (h0 : 0 < ℓ) (h1 : ℓ ≤ totalLen l) :
    locFwdAux ℓ 0 (items l) = some (getLocation l ℓ) := by
  rw [getLocation_of_nonneg l (Rat.le_of_lt h0), getLocationForward_pos l h0]
  cases hr : locFwdAux ℓ 0 (items l) with
  | some a => rfl
  | none =>
    have hl : l ≠ [] := fun h => by subst h; exact Rat.lt_irrefl (Std.lt_of_lt_of_le h0 h1)
    obtain ⟨pre, c, v, e⟩ := itemsFrom_eq_append 0 l hl
    rw [items, e] at hr
    have := locFwdAux_none ℓ pre c v 0 (Rat.le_of_lt h0) hr
    rw [← e, ← items, ← totalLen_eq] at this
    exact absurd (Std.lt_of_lt_of_le this h1) Rat.lt_irrefl

/-- `getLength (getLocation ℓ) = ℓ` for `0 ≤ ℓ ≤ total` (whatever the signs of the segment lengths) -/
theorem loc_len_inverse_of_wf (l : Line Rat) (hwf : l.WF = true) (ℓ : Rat)
    (h0 : 0 ≤ ℓ) (h1 : ℓ ≤ totalLen l) : getLength l (getLocation l ℓ) = ℓ := by
  rcases Rat.le_iff_lt_or_eq.mp h0 with h0 | rfl
  · exact lenAux_locFwdAux ℓ (items l) 0 _ (okItems_itemsFrom 0 l) (Rat.le_of_lt h0) (getLocation_inside l h0 h1)
  · exact getLength_start l hwf

end GeosModel.LinRef
