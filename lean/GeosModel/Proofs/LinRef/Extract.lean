import GeosModel.Proofs.LinRef.Top
/-!
A single-component line (a LineString) over `Rat`: the builder and the loop of `ExtractLineByLocation::computeLinear`,
the arc length `gpos` of a location (closed form of `getLength`) with `getLocation` as its inverse on normalised
locations (`NormLoc`), and the closed form of `computeLinear` with the length of its output.
-/
namespace GeosModel.LinRef

theorem wf_single {comp : List Rat} (hne : comp ≠ []) : Line.WF [comp] = true := by
  cases comp with
  | nil => exact absurd rfl hne
  | cons x t => rfl

theorem nonNeg_single {comp : List Rat} (hnn : ∀ s ∈ comp, 0 ≤ s) : Line.NonNeg [comp] := by
  intro c hc
  rw [List.mem_singleton.mp hc]; exact hnn

theorem resolveHigher_single (comp : List Rat) (a : Loc Rat) : resolveHigher [comp] a = a := by
  unfold resolveHigher
  split
  · rfl
  · simp

/-- the location of vertex `u` of component 0 -/
def vloc (u : Nat) : Loc Rat := ⟨0, u, 0⟩

/-- vertices v, v+1, …, v+k−1 -/
def verts : Nat → Nat → List (Loc Rat)
  | _, 0 => []
  | v, k + 1 => vloc v :: verts (v + 1) k

theorem verts_snoc (v k : Nat) : verts v (k + 1) = verts v k ++ [vloc (v + k)] := by
  induction k generalizing v with
  | zero => rfl
  | succ k ih => rw [verts, ih (v + 1), verts, List.cons_append, Nat.add_right_comm, Nat.add_assoc]

theorem verts_getLast (v k : Nat) (h : verts v (k + 1) ≠ []) : (verts v (k + 1)).getLast h = vloc (v + k) := by
  simp only [verts_snoc, List.getLast_concat]

/-! ### the builder -/

/-- `fixInvalidLines`: a one-point line gets its point duplicated -/
def fixLine (pts : List (Loc Rat)) : List (Loc Rat) :=
  match pts with
  | [p] => [p, p]
  | _ => pts

theorem endLine_some (d : List (List (Loc Rat))) (pts : List (Loc Rat)) :
    (Builder.endLine ⟨d, some pts⟩ : Builder Rat) = ⟨fixLine pts :: d, none⟩ := by
  rcases pts with _ | ⟨p, _ | ⟨q, r⟩⟩ <;> rfl

/-- `add` for each of a list of points in turn -/
def Builder.addAll (b : Builder Rat) (ps : List (Loc Rat)) : Builder Rat := ps.foldl Builder.add b

theorem addAll_append (b : Builder Rat) (ps qs : List (Loc Rat)) : (b.addAll ps).addAll qs = b.addAll (ps ++ qs) :=
  (List.foldl_append ..).symm

theorem addAll_if (b : Builder Rat) (c : Prop) [Decidable c] (p : Loc Rat) :
    (if c then b.add p else b) = b.addAll (if c then [p] else []) := by
  split <;> rfl

/-- adding points to a fresh builder and ending the line gives that line, fixed -/
theorem endLine_addAll (d : List (List (Loc Rat))) (ps : List (Loc Rat)) (h : ps ≠ []) :
    (Builder.addAll ⟨d, none⟩ ps).endLine = ⟨fixLine ps :: d, none⟩ := by
  have some_eq (l qs : List (Loc Rat)) : Builder.addAll ⟨d, some l⟩ qs = ⟨d, some (l ++ qs)⟩ := by
    induction qs generalizing l with
    | nil => rw [List.append_nil]; rfl
    | cons q t ih => exact (ih (l ++ [q])).trans (by rw [List.append_assoc]; rfl)
  cases ps with
  | nil => exact absurd rfl h
  | cons p t => exact (congrArg Builder.endLine (some_eq [p] t)).trans (endLine_some d _)

theorem lt_vloc_false (j u : Nat) (g : Rat) (hg : 0 ≤ g) (h : u ≤ j) : (⟨0, j, g⟩ : Loc Rat).lt ⟨0, u, 0⟩ = false := by
  refine (Loc.le_iff ⟨0, u, 0⟩ ⟨0, j, g⟩).mpr (Or.inr ⟨rfl, ?_⟩)
  by_cases h' : u = j
  · exact Or.inr ⟨h', hg⟩
  · exact Or.inl (show u < j by omega)

theorem lt_vloc_true (j u : Nat) (g : Rat) (h : j < u) : (⟨0, j, g⟩ : Loc Rat).lt ⟨0, u, 0⟩ = true := by
  simp [Loc.lt, h]

/-- the loop stops before the end of the line: it adds the vertices v … j -/
theorem extractLoop_before (j : Nat) (g : Rat) (hg : 0 ≤ g) (r : List Rat) (v : Nat) (b : Builder Rat)
    (hj : j < v + r.length) :
    extractLoop ⟨0, j, g⟩ b (compItems 0 v r) = b.addAll (verts v (j + 1 - v)) := by
  induction r generalizing v b with
  | nil =>
    rw [show j + 1 - v = 0 by simp only [List.length_nil] at hj; omega]
    simp only [compItems, extractLoop, Item.c, Item.v, lt_vloc_true j v g hj, if_true]; rfl
  | cons s t ih =>
    simp only [compItems, extractLoop, Item.c, Item.v]
    by_cases h : j < v
    · rw [show j + 1 - v = 0 by omega]
      simp only [lt_vloc_true j v g h, if_true]; rfl
    · simp only [lt_vloc_false j v g hg (by omega), Bool.false_eq_true, if_false]
      rw [ih (v + 1) _ (by simp only [List.length_cons] at hj; omega), show j + 1 - v = (j + 1 - (v + 1)) + 1 by omega]
      rfl

/-- the loop runs to the end of the line: it adds the vertices v … n and ends the line -/
theorem extractLoop_toEnd (j : Nat) (g : Rat) (hg : 0 ≤ g) (r : List Rat) (v : Nat) (b : Builder Rat)
    (hj : v + r.length ≤ j) :
    extractLoop ⟨0, j, g⟩ b (compItems 0 v r) = (b.addAll (verts v (r.length + 1))).endLine := by
  induction r generalizing v b with
  | nil =>
    simp only [compItems, extractLoop, Item.c, Item.v, lt_vloc_false j v g hg hj, Bool.false_eq_true, if_false]; rfl
  | cons s t ih =>
    simp only [List.length_cons] at hj
    simp only [compItems, extractLoop, Item.c, Item.v, lt_vloc_false j v g hg (by omega : v ≤ j), Bool.false_eq_true, if_false]
    rw [ih (v + 1) _ (by omega)]
    rfl

/-- `LinearIterator(line, 0, sv)` on a single component: the positions from vertex `sv` on -/
theorem itemsFromPos_single (comp : List Rat) (sv : Nat) (h : sv ≤ comp.length) :
    itemsFromPos [comp] 0 sv = compItems 0 sv (comp.drop sv) := by
  have key : ∀ (n v : Nat) (r : List Rat), sv = v + n → n ≤ r.length →
      (compItems 0 v r).dropWhile (fun it => decide (it.c < 0) || (it.c == 0 && decide (it.v < sv))) =
        compItems 0 sv (r.drop n) := by
    intro n
    induction n with
    | zero =>
      intro v r hv _
      subst hv
      cases r <;> exact List.dropWhile_cons_of_neg (by simp [Item.c, Item.v])
    | succ n ih =>
      intro v r hv hn
      cases r with
      | nil => cases hn
      | cons s t =>
        have hlt : v < sv := by omega
        rw [compItems, List.dropWhile_cons_of_pos (by simp [Item.c, Item.v, hlt])]
        exact ih (v + 1) t (by omega) (Nat.le_of_succ_le_succ hn)
  have := key sv 0 comp (Nat.zero_add sv).symm h
  simpa [itemsFromPos, items, itemsFrom] using this

/-! ### arc length of a location of a single-component line -/

/-- arc length of vertex `v` -/
def vpos (comp : List Rat) (v : Nat) : Rat := sumFrom 0 (comp.take v)

/-- arc length of the point a location denotes (closed form of `getLength` on a LineString) -/
def gpos (comp : List Rat) (a : Loc Rat) : Rat := vpos comp a.seg + comp.getD a.seg 0 * a.frac

theorem vpos_succ (comp : List Rat) (v : Nat) (h : v < comp.length) : vpos comp (v + 1) = vpos comp v + comp.getD v 0 := by
  rw [vpos, List.take_add_one, List.getElem?_eq_getElem h, sumFrom_append, List.getD_eq_getElem?_getD,
    List.getElem?_eq_getElem h]
  rfl

/-- `getLength` of the location `n` vertices on in the component, fraction `f`: the `n` segment lengths before it and `f` of the next -/
theorem lenAux_single (f : Rat) (n : Nat) (r : List Rat) (u : Nat) (tot : Rat) (h : n ≤ r.length) :
    lenAux ⟨0, u + n, f⟩ tot (compItems 0 u r) = tot + sumFrom 0 (r.take n) + r.getD n 0 * f := by
  induction n generalizing r u tot with
  | zero =>
    cases r with
    | nil =>
      simp only [compItems, lenAux, BEq.rfl, if_true, List.take_nil, sumFrom, List.getD_nil, Rat.zero_mul, Rat.add_zero]
    | cons s t =>
      simp only [compItems, lenAux, Nat.add_zero, BEq.rfl, Bool.and_self, if_true, List.take_zero, sumFrom,
        List.getD_cons_zero, Rat.add_zero]
  | succ n ih =>
    cases r with
    | nil => cases h
    | cons s t =>
      have hne : ((0 : Nat) == 0 && u + (n + 1) == u) = false := by simp
      rw [compItems, lenAux, hne, if_neg Bool.false_ne_true, show u + (n + 1) = u + 1 + n by omega,
        ih t (u + 1) (tot + s) (Nat.le_of_succ_le_succ h), List.take_succ_cons, List.getD_cons_succ, sumFrom,
        sumFrom_eq (0 + s), Rat.zero_add, Rat.add_assoc tot]

theorem getLength_single (comp : List Rat) (a : Loc Rat) (hc : a.comp = 0) (hv : a.seg ≤ comp.length) :
    getLength [comp] a = gpos comp a := by
  obtain ⟨c, v, f⟩ := a
  subst hc
  have := lenAux_single f v comp 0 0 hv
  rw [Nat.zero_add] at this
  simp only [getLength, items, itemsFrom, List.append_nil, this, gpos, vpos, Rat.zero_add]

theorem getD_mem (comp : List Rat) {i : Nat} (hi : i < comp.length) : comp.getD i 0 ∈ comp := by
  rw [List.getD_eq_getElem?_getD, List.getElem?_eq_getElem hi]; exact List.getElem_mem hi

theorem getD_nonneg (comp : List Rat) (hn : ∀ s ∈ comp, 0 ≤ s) (i : Nat) : 0 ≤ comp.getD i 0 := by
  by_cases hi : i < comp.length
  · exact hn _ (getD_mem comp hi)
  · rw [List.getD_eq_getElem?_getD, List.getElem?_eq_none (by omega)]; exact Rat.le_refl

theorem vpos_mono (comp : List Rat) (hn : ∀ s ∈ comp, 0 ≤ s) {i j : Nat} (hij : i ≤ j) : vpos comp i ≤ vpos comp j := by
  obtain ⟨k, rfl⟩ := Nat.exists_eq_add_of_le hij
  rw [vpos, vpos, List.take_add, sumFrom_append]
  exact le_sumFrom _ _ fun x hx => hn x (List.mem_of_mem_drop (List.mem_of_mem_take hx))

theorem vpos_le_gpos (comp : List Rat) (hn : ∀ s ∈ comp, 0 ≤ s) (i : Nat) {f : Rat} (hf : 0 ≤ f) :
    vpos comp i ≤ gpos comp ⟨0, i, f⟩ :=
  le_add_of_nonneg _ (Rat.mul_nonneg (getD_nonneg comp hn i) hf)

theorem totalLen_single (comp : List Rat) : totalLen [comp] = vpos comp comp.length := by
  simp only [totalLen, List.map_cons, List.map_nil, sumFrom, compLen, vpos, List.take_length]
  exact Rat.zero_add _

theorem gpos_range (comp : List Rat) (hn : ∀ s ∈ comp, 0 ≤ s) {i : Nat} {f : Rat} (hi : i ≤ comp.length)
    (hf0 : 0 ≤ f) (hf1 : f ≤ 1) : 0 ≤ gpos comp ⟨0, i, f⟩ ∧ gpos comp ⟨0, i, f⟩ ≤ totalLen [comp] := by
  have h0 : vpos comp 0 ≤ vpos comp i := vpos_mono comp hn (Nat.zero_le i)
  rw [show vpos comp 0 = 0 from rfl] at h0
  refine ⟨Rat.le_trans h0 (vpos_le_gpos comp hn i hf0), ?_⟩
  rw [totalLen_single]
  by_cases hl : i < comp.length
  · have h := Rat.mul_le_mul_of_nonneg_left hf1 (getD_nonneg comp hn i)
    rw [Rat.mul_one] at h
    refine Rat.le_trans ?_ (vpos_mono comp hn hl)
    rw [vpos_succ comp i hl]
    exact Rat.add_le_add_left.mpr h
  · have hi' : i = comp.length := Nat.le_antisymm hi (Nat.not_lt.mp hl)
    subst hi'
    rw [gpos, List.getD_eq_getElem?_getD, List.getElem?_eq_none (Nat.le_refl _), Option.getD_none, Rat.zero_mul,
      Rat.add_zero]
    exact Rat.le_refl

/-- a normalised location `(i, f)` of the LineString: `0 ≤ f < 1`, and `f = 0` at the last vertex -/
structure NormLoc (comp : List Rat) (i : Nat) (f : Rat) : Prop where
  seg_le : i ≤ comp.length
  nonneg : 0 ≤ f
  lt_one : f < 1
  seg_lt : 0 < f → i < comp.length

theorem normLoc_vertex {comp : List Rat} {i : Nat} (h : i ≤ comp.length) : NormLoc comp i 0 :=
  ⟨h, Rat.le_refl, by decide, fun h0 => absurd h0 Rat.lt_irrefl⟩

/-! on a line whose segments have positive length a normalised location is determined by its arc length -/

theorem gpos_lt_of_seg_lt (comp : List Rat) (hp : ∀ s ∈ comp, 0 < s) {i j : Nat} {f g : Rat} (hij : i < j)
    (hj : j ≤ comp.length) (hf : f < 1) (hg : 0 ≤ g) : gpos comp ⟨0, i, f⟩ < gpos comp ⟨0, j, g⟩ := by
  have hn : ∀ s ∈ comp, 0 ≤ s := fun s hs => Rat.le_of_lt (hp s hs)
  have hi : i < comp.length := by omega
  -- gpos (i, f) < vpos (i + 1) ≤ vpos j ≤ gpos (j, g)
  have h := Rat.mul_lt_mul_of_pos_left hf (hp _ (getD_mem comp hi))
  rw [Rat.mul_one] at h
  refine Std.lt_of_lt_of_le ?_ (Rat.le_trans (vpos_mono comp hn (show i + 1 ≤ j from hij)) (vpos_le_gpos comp hn j hg))
  rw [vpos_succ comp i hi]
  exact Rat.add_lt_add_left.mpr h

theorem gpos_inj (comp : List Rat) (hp : ∀ s ∈ comp, 0 < s) {i j : Nat} {f g : Rat} (hi : NormLoc comp i f)
    (hj : NormLoc comp j g) (h : gpos comp ⟨0, i, f⟩ = gpos comp ⟨0, j, g⟩) : i = j ∧ f = g := by
  have hij : i = j := by
    false_or_by_contra
    rcases Nat.lt_or_gt_of_ne ‹_› with hlt | hlt
    · exact Rat.lt_irrefl (h ▸ gpos_lt_of_seg_lt comp hp hlt hj.seg_le hi.lt_one hj.nonneg)
    · exact Rat.lt_irrefl (h ▸ gpos_lt_of_seg_lt comp hp hlt hi.seg_le hj.lt_one hi.nonneg)
  subst hij
  refine ⟨rfl, ?_⟩
  by_cases hl : i < comp.length
  · have hpos := hp _ (getD_mem comp hl)
    exact rat_mul_left_cancel (fun h0 => Rat.lt_irrefl (h0 ▸ hpos)) (Rat.add_left_cancel _ h)
  · have hf : f = 0 := Rat.le_antisymm (Rat.not_lt.mp fun h0 => hl (hi.seg_lt h0)) hi.nonneg
    have hg : g = 0 := Rat.le_antisymm (Rat.not_lt.mp fun h0 => hl (hj.seg_lt h0)) hj.nonneg
    rw [hf, hg]

/-- on a LineString the location returned for `0 ≤ ℓ ≤ total` is normalised and has arc length `ℓ` -/
theorem getLocation_single (comp : List Rat) (hne : comp ≠ []) (ℓ : Rat) (h0 : 0 ≤ ℓ) (h1 : ℓ ≤ totalLen [comp]) :
    ∃ i f, getLocation [comp] ℓ = ⟨0, i, f⟩ ∧ NormLoc comp i f ∧ gpos comp ⟨0, i, f⟩ = ℓ := by
  have norm : ∃ i f, getLocation [comp] ℓ = ⟨0, i, f⟩ ∧ NormLoc comp i f := by
    rcases Rat.le_iff_lt_or_eq.mp h0 with h0 | rfl
    · obtain ⟨it, hm, hc, hv, hf0, hf1, hseg⟩ :=
        locFwdAux_pos ℓ (items [comp]) 0 _ (Rat.le_of_lt h0) (getLocation_inside [comp] h0 h1)
      rw [items, itemsFrom, itemsFrom, List.append_nil] at hm
      obtain ⟨hc0, _, hb⟩ := mem_compItems hm
      generalize getLocation [comp] ℓ = a at hc hv hf0 hf1 hseg ⊢
      obtain ⟨ac, av, af⟩ := a
      simp only at hc hv hf0 hf1 hseg
      refine ⟨av, af, by rw [show ac = 0 from hc.trans hc0], by omega, hf0, hf1, fun hpos => ?_⟩
      obtain ⟨s, hs⟩ := hseg hpos
      have := seg_mem_compItems (hs ▸ hm)
      omega
    · exact ⟨0, 0, rfl, normLoc_vertex (Nat.zero_le _)⟩
  obtain ⟨i, f, hloc, hn⟩ := norm
  refine ⟨i, f, hloc, hn, ?_⟩
  rw [← getLength_single comp ⟨0, i, f⟩ rfl hn.seg_le, ← hloc]
  exact loc_len_inverse_of_wf [comp] (wf_single hne) ℓ h0 h1

/-- **the inverse the other way round**: on a LineString whose segments have positive length `getLocation` finds a
normalised location again from its arc length -/
theorem getLocation_gpos (comp : List Rat) (hp : ∀ s ∈ comp, 0 < s) (hne : comp ≠ []) {i : Nat} {f : Rat}
    (h : NormLoc comp i f) : getLocation [comp] (gpos comp ⟨0, i, f⟩) = ⟨0, i, f⟩ := by
  obtain ⟨h0, h1⟩ := gpos_range comp (fun s hs => Rat.le_of_lt (hp s hs)) h.seg_le h.nonneg (Rat.le_of_lt h.lt_one)
  obtain ⟨j, g, hloc, hj, hinv⟩ := getLocation_single comp hne _ h0 h1
  obtain ⟨rfl, rfl⟩ := gpos_inj comp hp hj h hinv
  exact hloc

/-! ### length of a list of locations on one component -/

/-- physical length of the straight piece from `p` to `q`, two locations on the same segment
(`q` may be the end vertex of `p`'s segment, written as the start of the next) -/
def stepLen (comp : List Rat) (p q : Loc Rat) : Rat :=
  comp.getD p.seg 0 * ((if q.seg = p.seg then q.frac else 1) - p.frac)

def pathLen (comp : List Rat) : List (Loc Rat) → Rat
  | p :: q :: r => stepLen comp p q + pathLen comp (q :: r)
  | _ => 0

/-- total length of the extracted lines -/
def outLen (comp : List Rat) : List (List (Loc Rat)) → Rat
  | [] => 0
  | l :: r => pathLen comp l + outLen comp r

/-- `p` and `q` lie on one segment of the line, `q` not before `p` -/
def GoodStep (comp : List Rat) (p q : Loc Rat) : Prop :=
  (q.seg = p.seg ∧ p.frac ≤ q.frac) ∨ (q.seg = p.seg + 1 ∧ q.frac = 0 ∧ p.frac ≤ 1 ∧ p.seg < comp.length)

def ChainP (R : Loc Rat → Loc Rat → Prop) : List (Loc Rat) → Prop
  | p :: q :: r => R p q ∧ ChainP R (q :: r)
  | _ => True

theorem stepLen_good (comp : List Rat) (p q : Loc Rat) (h : GoodStep comp p q) :
    stepLen comp p q = gpos comp q - gpos comp p := by
  rcases h with ⟨h1, _⟩ | ⟨h1, h2, _, h4⟩
  · simp only [stepLen, h1, if_true, gpos]; grind
  · simp only [stepLen, gpos, h1, h2, vpos_succ comp p.seg h4]
    grind

/-- telescoping: along a chain of good steps the physical length is the difference of the arc lengths of the ends -/
theorem pathLen_chain (comp : List Rat) (p q : Loc Rat) (r : List (Loc Rat)) (h : ChainP (GoodStep comp) (p :: (r ++ [q]))) :
    pathLen comp (p :: (r ++ [q])) = gpos comp q - gpos comp p := by
  induction r generalizing p with
  | nil => simp only [List.nil_append, pathLen, stepLen_good comp p q h.1]; grind
  | cons x t ih => simp only [List.cons_append, pathLen, stepLen_good comp p x h.1, ih x h.2]; grind

theorem chainP_single (R : Loc Rat → Loc Rat → Prop) (p : Loc Rat) : ChainP R [p] := trivial

theorem chainP_append (R : Loc Rat → Loc Rat → Prop) (l1 l2 : List (Loc Rat)) (p q : Loc Rat)
    (h1 : ChainP R (l1 ++ [p])) (h2 : ChainP R (q :: l2)) (h : R p q) : ChainP R (l1 ++ [p] ++ q :: l2) := by
  induction l1 with
  | nil => exact ⟨h, h2⟩
  | cons a t ih =>
    cases t with
    | nil => exact ⟨h1.1, h, h2⟩
    | cons b u => exact ⟨h1.1, ih h1.2⟩

theorem chainP_verts (comp : List Rat) (v k : Nat) (h : v + k ≤ comp.length + 1) : ChainP (GoodStep comp) (verts v k) := by
  induction k generalizing v with
  | zero => trivial
  | succ k ih =>
    cases k with
    | zero => trivial
    | succ k => exact ⟨Or.inr ⟨rfl, rfl, show (0 : Rat) ≤ 1 by decide, show v < comp.length by omega⟩, ih (v + 1) (by omega)⟩

/-- a chain from `p` through the vertices v … v+n−1 to `q` -/
theorem chainP_through (comp : List Rat) (p q : Loc Rat) (v n : Nat) (hn : v + n ≤ comp.length + 1)
    (h0 : n = 0 → GoodStep comp p q) (hp : 0 < n → GoodStep comp p (vloc v))
    (hq : ∀ m, n = m + 1 → GoodStep comp (vloc (v + m)) q) : ChainP (GoodStep comp) (p :: (verts v n ++ [q])) := by
  cases n with
  | zero => exact ⟨h0 rfl, trivial⟩
  | succ m =>
    have hv : ChainP (GoodStep comp) (p :: verts v (m + 1)) := ⟨hp (Nat.succ_pos m), chainP_verts comp v (m + 1) hn⟩
    rw [verts_snoc] at hv ⊢
    exact chainP_append _ (p :: verts v m) [] _ q hv (chainP_single _ q) (hq m rfl)

/-! ### closed form of `computeLinear` on a LineString -/

theorem not_isVertex (c v : Nat) {f : Rat} (h1 : f < 1) :
    (!(⟨c, v, f⟩ : Loc Rat).isVertex) = decide (0 < f) := by
  simp only [Loc.isVertex, decide_eq_false (Rat.not_le.mpr h1), Bool.or_false]
  by_cases hf : 0 < f
  · simp [hf, Rat.not_le.mpr hf]
  · simp [hf, Rat.not_lt.mp hf]

theorem endLine_endLine (b : Builder Rat) : b.endLine.endLine = b.endLine := by
  obtain ⟨d, _ | pts⟩ := b
  · rfl
  · rw [endLine_some]; rfl

/-- the points handed to the builder: the start location unless it is a vertex, the vertices from the first one not
before the start (`sv`) to the last one not after the end, the end location unless it is a vertex -/
def cutPts (i j : Nat) (f g : Rat) (sv : Nat) : List (Loc Rat) :=
  (if 0 < f then [⟨0, i, f⟩] else []) ++ verts sv (j + 1 - sv) ++ if 0 < g then [⟨0, j, g⟩] else []

theorem computeLinear_open (comp : List Rat) {i j : Nat} {f g : Rat} (hs : NormLoc comp i f) (he : NormLoc comp j g)
    (sv : Nat) (hsv : sv = if 0 < f then i + 1 else i) :
    computeLinear [comp] ⟨0, i, f⟩ ⟨0, j, g⟩ = ((Builder.addAll ⟨[], none⟩ (cutPts i j f g sv)).endLine).done.reverse := by
  have hsvl : sv ≤ comp.length := by
    rw [hsv]; split
    · exact hs.seg_lt ‹_›
    · exact hs.seg_le
  unfold computeLinear cutPts
  simp only [not_isVertex 0 i hs.lt_one, not_isVertex 0 j he.lt_one, decide_eq_true_eq, ← hsv,
    itemsFromPos_single comp sv hsvl, addAll_if]
  by_cases hjn : j < comp.length
  · rw [extractLoop_before j g he.nonneg _ sv _ (by rw [List.length_drop]; omega), addAll_append, addAll_append,
      List.append_assoc]
  · have hg : ¬ 0 < g := fun h => hjn (he.seg_lt h)
    have := he.seg_le
    rw [extractLoop_toEnd j g he.nonneg _ sv _ (by rw [List.length_drop]; omega), if_neg hg, addAll_append,
      List.append_nil, show (comp.drop sv).length + 1 = j + 1 - sv by rw [List.length_drop]; omega]
    exact congrArg (fun b => b.done.reverse) (endLine_endLine _)

theorem fixLine_two (p q : Loc Rat) (l : List (Loc Rat)) : fixLine (p :: (l ++ [q])) = p :: (l ++ [q]) := by
  cases l <;> rfl

/-- **closed form of `computeLinear` on a LineString**, for locations in order (the end lies `n` segments on): the
start location, the vertices strictly between the two locations, the end location (`fixInvalidLines` supplies the second
point when both coincide in a vertex) -/
theorem computeLinear_single (comp : List Rat) {i n : Nat} {f g : Rat} (hs : NormLoc comp i f)
    (he : NormLoc comp (i + n) g) (hle : n = 0 → f ≤ g) :
    computeLinear [comp] ⟨0, i, f⟩ ⟨0, i + n, g⟩ =
      [⟨0, i, f⟩ :: (verts (i + 1) (if 0 < g then n else n - 1) ++ [⟨0, i + n, g⟩])] := by
  rw [computeLinear_open comp hs he _ rfl]
  suffices h : fixLine (cutPts i (i + n) f g (if 0 < f then i + 1 else i)) =
      ⟨0, i, f⟩ :: (verts (i + 1) (if 0 < g then n else n - 1) ++ [⟨0, i + n, g⟩]) by
    rw [endLine_addAll [] _ (fun e => by rw [e] at h; cases h), h]; rfl
  unfold cutPts
  by_cases hg : 0 < g
  · -- the end location is added after the loop
    simp only [if_pos hg]
    by_cases hf : 0 < f
    · simp only [if_pos hf, Nat.add_sub_add_right, Nat.add_sub_cancel_left]
      exact fixLine_two _ _ _
    · rw [Rat.le_antisymm (Rat.not_lt.mp hf) hs.nonneg]
      simp only [Rat.lt_irrefl, if_false, List.nil_append, Nat.add_assoc, Nat.add_sub_cancel_left, verts]
      exact fixLine_two _ _ _
  · -- the end location is the vertex `i + n`, added by the loop
    rw [Rat.le_antisymm (Rat.not_lt.mp hg) he.nonneg]
    simp only [Rat.lt_irrefl, if_false, List.append_nil]
    cases n with
    | zero =>
      rw [Rat.le_antisymm (Rat.le_trans (hle rfl) (Rat.not_lt.mp hg)) hs.nonneg]
      simp only [Rat.lt_irrefl, if_false, List.nil_append, Nat.add_zero, Nat.add_sub_cancel_left]
      rfl
    | succ m =>
      by_cases hf : 0 < f
      · simp only [if_pos hf, Nat.add_sub_add_right, Nat.add_sub_cancel_left, Nat.add_sub_cancel, verts_snoc]
        rw [show i + 1 + m = i + (m + 1) by omega]
        exact fixLine_two _ _ _
      · rw [Rat.le_antisymm (Rat.not_lt.mp hf) hs.nonneg]
        simp only [Rat.lt_irrefl, if_false, List.nil_append, Nat.add_sub_cancel]
        rw [show i + (m + 1) + 1 - i = m + 1 + 1 by omega, verts, verts_snoc, show i + 1 + m = i + (m + 1) by omega]
        exact fixLine_two _ _ _

/-- the extracted line of a LineString: good steps only, length = arc(e) − arc(s) -/
theorem computeLinear_length (comp : List Rat) {i j : Nat} {f g : Rat} (hs : NormLoc comp i f) (he : NormLoc comp j g)
    (hle : (⟨0, i, f⟩ : Loc Rat).le ⟨0, j, g⟩) :
    (∀ line ∈ computeLinear [comp] ⟨0, i, f⟩ ⟨0, j, g⟩, ChainP (GoodStep comp) line) ∧
    outLen comp (computeLinear [comp] ⟨0, i, f⟩ ⟨0, j, g⟩) = gpos comp ⟨0, j, g⟩ - gpos comp ⟨0, i, f⟩ := by
  have hord : i < j ∨ (i = j ∧ f ≤ g) := ((Loc.le_iff _ _).mp hle).resolve_left (Nat.lt_irrefl 0) |>.2
  obtain ⟨n, rfl⟩ : ∃ n, j = i + n := ⟨j - i, by omega⟩
  have hfg : n = 0 → f ≤ g := fun h0 => (hord.resolve_left (by omega)).2
  have hj := he.seg_le
  have hf1 := Rat.le_of_lt hs.lt_one
  rw [computeLinear_single comp hs he hfg]
  suffices hch : ChainP (GoodStep comp) (⟨0, i, f⟩ :: (verts (i + 1) (if 0 < g then n else n - 1) ++ [⟨0, i + n, g⟩])) by
    refine ⟨fun line hm => by rw [List.mem_singleton.mp hm]; exact hch, ?_⟩
    rw [outLen, outLen, pathLen_chain comp _ _ _ hch, Rat.add_zero]
  by_cases hg : 0 < g
  · have := he.seg_lt hg
    rw [if_pos hg]
    exact chainP_through comp _ _ (i + 1) n (by omega)
      (fun h0 => Or.inl ⟨show i + n = i by rw [h0]; rfl, hfg h0⟩)
      (fun _ => Or.inr ⟨rfl, rfl, hf1, show i < comp.length by omega⟩)
      (fun m hm => Or.inl ⟨show i + n = i + 1 + m by omega, he.nonneg⟩)
  · have hg0 : g = 0 := Rat.le_antisymm (Rat.not_lt.mp hg) he.nonneg
    subst hg0
    rw [if_neg hg]
    cases n with
    | zero => exact ⟨Or.inl ⟨rfl, hfg rfl⟩, trivial⟩
    | succ m =>
      exact chainP_through comp _ _ (i + 1) m (by omega)
        (fun h0 => Or.inr ⟨show i + (m + 1) = i + 1 by rw [h0], rfl, hf1, show i < comp.length by omega⟩)
        (fun _ => Or.inr ⟨rfl, rfl, hf1, show i < comp.length by omega⟩)
        (fun k hk => Or.inr ⟨show i + (m + 1) = i + 1 + k + 1 by omega, rfl, show (0 : Rat) ≤ 1 by decide,
          show i + 1 + k < comp.length by omega⟩)

end GeosModel.LinRef
