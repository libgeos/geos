import GeosModel.Model.LinRef.Project
import GeosModel.Proofs.LinRef.Extract
/-!
`LengthIndexOfPoint::indexOf` followed by `LengthIndexedLine::extractPoint` on a LineString without repeated points,
over `Rat`, with the code's `sqrt` replaced by a function that is an exact square root on the arguments that occur.
-/
namespace GeosModel.LinRef

def lerp (a b : P2 Rat) (t : Rat) : P2 Rat := ⟨(b.x - a.x) * t + a.x, (b.y - a.y) * t + a.y⟩

theorem lerp_zero (a b : P2 Rat) : lerp a b 0 = a := by
  cases a; simp only [lerp, Rat.mul_zero, Rat.zero_add]
theorem lerp_one (a b : P2 Rat) : lerp a b 1 = b := by
  cases b; simp only [lerp, Rat.mul_one, Rat.sub_add_cancel]

theorem rat_sq_nonneg (x : Rat) : 0 ≤ x * x := by
  rcases Rat.le_total (a := 0) (b := x) with h | h
  · exact Rat.mul_nonneg h h
  · have := Rat.mul_nonneg (a := -x) (b := -x) (by grind) (by grind)
    grind

/-- a sum of two squares vanishes only if both do -/
theorem sq_add_sq_eq_zero {x y : Rat} (h : x * x + y * y = 0) : x = 0 ∧ y = 0 := by
  have hx : x * x ≤ 0 := by
    have := (Rat.add_le_add_left (c := x * x)).mpr (rat_sq_nonneg y); rwa [Rat.add_zero, h] at this
  have hy : y * y ≤ 0 := by
    have := (Rat.add_le_add_right (c := y * y)).mpr (rat_sq_nonneg x); rwa [Rat.zero_add, h] at this
  exact ⟨or_self_iff.mp (Rat.mul_eq_zero.mp (Rat.le_antisymm hx (rat_sq_nonneg x))),
    or_self_iff.mp (Rat.mul_eq_zero.mp (Rat.le_antisymm hy (rat_sq_nonneg y)))⟩

theorem eq_of_sub_eq_zero {x y : Rat} (h : x - y = 0) : x = y := by
  have := Rat.sub_add_cancel (a := x) (b := y); rwa [h, Rat.zero_add, eq_comm] at this

theorem d2_nonneg (a b : P2 Rat) : 0 ≤ d2 a b := Rat.add_nonneg (rat_sq_nonneg _) (rat_sq_nonneg _)

theorem d2_pos (a b : P2 Rat) (h : a ≠ b) : 0 < d2 a b := by
  refine Rat.lt_of_le_of_ne (d2_nonneg a b) fun h3 => h ?_
  obtain ⟨hx, hy⟩ := sq_add_sq_eq_zero h3.symm
  obtain ⟨ax, ay⟩ := a
  obtain ⟨bx, «by»⟩ := b
  rw [show ax = bx from eq_of_sub_eq_zero hx, show ay = «by» from eq_of_sub_eq_zero hy]

/-- `(p − a)·(b − a)`: numerator of the projection factor of `p` on the line through `a`, `b` -/
def pnum (a b p : P2 Rat) : Rat := (p.x - a.x) * (b.x - a.x) + (p.y - a.y) * (b.y - a.y)
/-- `(p − a)×(b − a)`: the cross product `Distance::pointToSegment` divides by `|b − a|²` -/
def pcross (a b p : P2 Rat) : Rat := (a.y - p.y) * (b.x - a.x) - (a.x - p.x) * (b.y - a.y)
def rfac (a b p : P2 Rat) : Rat := pnum a b p / d2 b a

theorem d2_ne_zero {a b : P2 Rat} (hab : a ≠ b) : d2 b a ≠ 0 :=
  fun h => Rat.lt_irrefl (h ▸ d2_pos b a hab.symm)

theorem d2_mul_rfac (a b p : P2 Rat) (hab : a ≠ b) : d2 b a * rfac a b p = pnum a b p :=
  rat_mul_div_cancel (d2_ne_zero hab)

/-! ### the quadratic `t ↦ |p − lerp a b t|²`

Stated over the coordinates as variables (`u = b − a`, `L = |u|²`, `L·r = (p − a)·u`), so that the ring normaliser works
on small terms; the statements about points are instances by unfolding. -/

theorem quad_diff {L r px py ax ay ux uy : Rat} (hLu : L = ux * ux + uy * uy)
    (hr : L * r = (px - ax) * ux + (py - ay) * uy) (t s : Rat) :
    ((px - (ux * t + ax)) * (px - (ux * t + ax)) + (py - (uy * t + ay)) * (py - (uy * t + ay))) -
      ((px - (ux * s + ax)) * (px - (ux * s + ax)) + (py - (uy * s + ay)) * (py - (uy * s + ay))) =
      L * ((t - s) * (t + s - 2 * r)) := by
  grind

/-- the squared distance from the line is `cross² / L` (Lagrange's identity), `L·s` being the cross product -/
theorem quad_foot {L r s px py ax ay ux uy : Rat} (hL : L ≠ 0) (hLu : L = ux * ux + uy * uy)
    (hr : L * r = (px - ax) * ux + (py - ay) * uy) (hs : L * s = (ay - py) * ux - (ax - px) * uy) :
    s * s * L = (px - (ux * r + ax)) * (px - (ux * r + ax)) + (py - (uy * r + ay)) * (py - (uy * r + ay)) := by
  grind

/-- on `[0, 1]` the quadratic with vertex `r` is least at `clamp 0 1 r` -/
theorem clamp_nearest (r : Rat) {t : Rat} (ht0 : 0 ≤ t) (ht1 : t ≤ 1) :
    0 ≤ (t - clamp 0 1 r) * (t + clamp 0 1 r - 2 * r) := by
  unfold clamp
  split
  · exact Rat.mul_nonneg (by grind) (by grind)
  · split
    · have := Rat.mul_nonneg (a := 1 - t) (b := 2 * r - 1 - t) (by grind) (by grind)
      grind
    · have := rat_sq_nonneg (t - r)
      grind

/-- the clamped projection parameter gives a nearest point of the segment -/
theorem seg_nearest (a b p : P2 Rat) (hab : a ≠ b) (t : Rat) (ht0 : 0 ≤ t) (ht1 : t ≤ 1) :
    d2 p (lerp a b (clamp 0 1 (rfac a b p))) ≤ d2 p (lerp a b t) := by
  have hd : d2 p (lerp a b t) - d2 p (lerp a b (clamp 0 1 (rfac a b p))) =
      d2 b a * ((t - clamp 0 1 (rfac a b p)) * (t + clamp 0 1 (rfac a b p) - 2 * rfac a b p)) :=
    quad_diff rfl (d2_mul_rfac a b p hab) t (clamp 0 1 (rfac a b p))
  have := Rat.mul_nonneg (Rat.le_of_lt (d2_pos b a hab.symm)) (clamp_nearest (rfac a b p) ht0 ht1)
  grind

theorem eq2_false {a b : P2 Rat} (h : a ≠ b) : a.eq2 b = false := by
  cases a with | mk ax ay => cases b with | mk bx «by» =>
  simp only [P2.eq2, Bool.and_eq_false_iff, beq_eq_false_iff_ne]
  by_cases hx : ax = bx
  · right; intro hy; apply h; simp [hx, hy]
  · left; exact hx

theorem eq2_true {a b : P2 Rat} (h : a.eq2 b = true) : a = b := by
  cases a with | mk ax ay => cases b with | mk bx «by» =>
  simp only [P2.eq2, Bool.and_eq_true, beq_iff_eq] at h
  simp [h.1, h.2]

theorem absv_sq (s : Rat) : 0 ≤ absv s ∧ absv s * absv s = s * s := by
  unfold absv; grind

/-- exact square root at `x` -/
def IsSqrt (sq : Rat → Rat) (x : Rat) : Prop := 0 ≤ sq x ∧ sq x * sq x = x

/-- a segment on which the code's square roots are exact and which has positive length -/
def GoodSeg (sq : Rat → Rat) (p : P2 Rat) (s : P2 Rat × P2 Rat) : Prop :=
  s.1 ≠ s.2 ∧ IsSqrt sq (d2 s.2 s.1) ∧ IsSqrt sq (d2 p s.1) ∧ IsSqrt sq (d2 p s.2)

/-- `Distance::pointToSegment` returns the (non-negative) distance to the nearest point of the segment -/
theorem pointToSegment_spec (sq : Rat → Rat) (a b p : P2 Rat) (h : GoodSeg sq p (a, b)) :
    0 ≤ pointToSegment sq p a b ∧
    pointToSegment sq p a b * pointToSegment sq p a b = d2 p (lerp a b (clamp 0 1 (rfac a b p))) := by
  obtain ⟨hab, h3, h1, h2⟩ := h
  have hab : a ≠ b := hab
  have hL := d2_ne_zero hab
  have e : pointToSegment sq p a b = if rfac a b p ≤ 0 then sq (d2 p a) else if 1 ≤ rfac a b p then sq (d2 p b) else
      absv (pcross a b p / d2 b a) * sq (d2 b a) := by
    unfold pointToSegment
    simp only [eq2_false hab, Bool.false_eq_true, if_false]
    rfl
  rw [e]
  by_cases c1 : rfac a b p ≤ 0
  · rw [if_pos c1, clamp_of_le (by decide) c1, lerp_zero]; exact h1
  rw [if_neg c1]
  by_cases c2 : 1 ≤ rfac a b p
  · rw [if_pos c2, clamp_of_ge (by decide) c2, lerp_one]; exact h2
  rw [if_neg c2, (clamp_spec (lo := 0) (hi := 1) (by decide) (rfac a b p)).2.2.1 (Rat.le_of_lt (Rat.not_le.mp c1))
    (Rat.le_of_lt (Rat.not_le.mp c2))]
  obtain ⟨ha0, has⟩ := absv_sq (pcross a b p / d2 b a)
  refine ⟨Rat.mul_nonneg ha0 h3.1, ?_⟩
  -- (|s|·√L)² = s²·L, and s²·L is the squared distance from the foot of the perpendicular
  have hf : pcross a b p / d2 b a * (pcross a b p / d2 b a) * d2 b a = d2 p (lerp a b (rfac a b p)) :=
    quad_foot hL rfl (d2_mul_rfac a b p hab) (rat_mul_div_cancel hL)
  have comm (x q : Rat) : x * q * (x * q) = x * x * (q * q) := by grind
  rw [comm, has, h3.2, hf]

theorem d2_comm (a b : P2 Rat) : d2 a b = d2 b a := by simp only [d2]; grind

theorem projectionFactor_eq (a b p : P2 Rat) (hab : a ≠ b) : projectionFactor a b p = rfac a b p := by
  unfold projectionFactor
  by_cases h1 : p.eq2 a = true
  · -- `p = a`: the numerator vanishes
    have := eq2_true h1; subst this
    simp only [h1, if_true, rfac, pnum, Rat.sub_self, Rat.zero_mul, Rat.add_zero, Rat.div_def]
  · simp only [h1, Bool.false_eq_true, if_false]
    by_cases h2 : p.eq2 b = true
    · -- `p = b`: numerator and denominator are both `|b − a|²`
      have := eq2_true h2; subst this
      rw [if_pos h2]
      exact (Rat.mul_inv_cancel _ (d2_ne_zero hab)).symm.trans (Rat.div_def _ _).symm
    · simp only [h2, eq2_false hab, Bool.false_eq_true, if_false]
      rfl

theorem dist_seg (sq : Rat → Rat) (a b : P2 Rat) : dist sq a b = sq (d2 b a) := by
  simp only [dist, d2_comm a b]

theorem segmentNearestMeasure_eq (sq : Rat → Rat) (a b p : P2 Rat) (hab : a ≠ b) (start : Rat) :
    segmentNearestMeasure sq a b p start = start + sq (d2 b a) * clamp 0 1 (rfac a b p) := by
  unfold segmentNearestMeasure
  rw [projectionFactor_eq a b p hab, dist_seg]
  generalize rfac a b p = r
  by_cases h1 : r ≤ 0
  · rw [if_pos h1, clamp_of_le (by decide) h1, Rat.mul_zero, Rat.add_zero]
  rw [if_neg h1]
  by_cases h2 : r ≤ 1
  · rw [if_pos h2, (clamp_spec (lo := 0) (hi := 1) (by decide) r).2.2.1 (Rat.le_of_lt (Rat.not_le.mp h1)) h2, Rat.mul_comm]
  · rw [if_neg h2, clamp_of_ge (by decide) (Rat.le_of_lt (Rat.not_le.mp h2)), Rat.mul_one]

def segD (sq : Rat → Rat) (p : P2 Rat) (s : P2 Rat × P2 Rat) : Rat := pointToSegment sq p s.1 s.2
def segC (p : P2 Rat) (s : P2 Rat × P2 Rat) : Rat := clamp 0 1 (rfac s.1 s.2 p)
def segLen (sq : Rat → Rat) (s : P2 Rat × P2 Rat) : Rat := sq (d2 s.2 s.1)

def sumLens (sq : Rat → Rat) : List (P2 Rat × P2 Rat) → Rat
  | [] => 0
  | s :: r => segLen sq s + sumLens sq r

theorem sumLens_nonneg (sq : Rat → Rat) (p : P2 Rat) (l : List (P2 Rat × P2 Rat)) (h : ∀ s ∈ l, GoodSeg sq p s) :
    0 ≤ sumLens sq l := by
  induction l with
  | nil => simp [sumLens]
  | cons s r ih =>
    exact Rat.add_nonneg (h s List.mem_cons_self).2.1.1 (ih fun x hx => h x (List.mem_cons_of_mem _ hx))

/-- **invariant of the projection loop** after the segments `done` (started with no minimum at measure 0): the
segment start measure is the length of `done`, and, once a segment has been seen, the minimum distance is that of the
first segment `s` of `done` whose distance is least, the point measure the one computed at `s` -/
def LoopInv (sq : Rat → Rat) (p : P2 Rat) (done : List (P2 Rat × P2 Rat)) (st : Option Rat × Rat × Rat) : Prop :=
  st.2.2 = sumFrom 0 (done.map (segLen sq)) ∧
  ((done = [] ∧ st.1 = none) ∨ ∃ pre s post, done = pre ++ s :: post ∧ st.1 = some (segD sq p s) ∧
    st.2.1 = sumFrom 0 (pre.map (segLen sq)) + segLen sq s * segC p s ∧ ∀ x ∈ done, segD sq p s ≤ segD sq p x)

theorem loopInv_step (sq : Rat → Rat) (p : P2 Rat) (done : List (P2 Rat × P2 Rat)) (a b : P2 Rat)
    (hgd : ∀ s ∈ done, GoodSeg sq p s) (hgs : GoodSeg sq p (a, b)) (minD : Option Rat) (ptM start : Rat)
    (h : LoopInv sq p done (minD, ptM, start)) :
    LoopInv sq p (done ++ [(a, b)])
      (if (closer minD (pointToSegment sq p a b) && decide ((0 : Rat) - 1 < segmentNearestMeasure sq a b p start)) = true
        then (some (pointToSegment sq p a b), segmentNearestMeasure sq a b p start, start + dist sq a b)
        else (minD, ptM, start + dist sq a b)) := by
  obtain ⟨hS, hD⟩ := h
  simp only at hS hD
  have hM := segmentNearestMeasure_eq sq a b p hgs.1 start
  have hMpos : (0 : Rat) - 1 < segmentNearestMeasure sq a b p start := by
    have := Rat.mul_nonneg (clamp_spec (lo := 0) (hi := 1) (by decide) (rfac a b p)).1 hgs.2.1.1
    have : 0 ≤ start := hS ▸ sumFrom_nonneg _ fun x hx => by
      obtain ⟨s, hs, rfl⟩ := List.mem_map.mp hx
      exact (hgd s hs).2.1.1
    grind
  have hS' : start + dist sq a b = sumFrom 0 ((done ++ [(a, b)]).map (segLen sq)) := by
    rw [List.map_append, sumFrom_append, dist_seg, hS]; rfl
  simp only [hMpos, decide_true, Bool.and_true]
  by_cases hb : closer minD (pointToSegment sq p a b) = true
  · -- strictly closer than every segment before: the new minimum
    rw [if_pos hb]
    refine ⟨hS', Or.inr ⟨done, (a, b), [], rfl, rfl, by rw [hM, hS]; rfl, fun x hx => ?_⟩⟩
    rcases List.mem_append.mp hx with hx | hx
    · rcases hD with ⟨rfl, _⟩ | ⟨_, s, _, _, rfl, _, hmin⟩
      · cases hx
      · exact Rat.le_trans (Rat.le_of_lt (of_decide_eq_true hb)) (hmin x hx)
    · rw [List.mem_singleton.mp hx]; exact Rat.le_refl
  · rw [if_neg hb]
    refine ⟨hS', ?_⟩
    rcases hD with ⟨_, rfl⟩ | ⟨pre, s, post, e, rfl, hm, hmin⟩
    · exact absurd rfl hb
    · refine Or.inr ⟨pre, s, post ++ [(a, b)], by rw [e, List.append_assoc, List.cons_append], rfl, hm, fun x hx => ?_⟩
      rcases List.mem_append.mp hx with hx | hx
      · exact hmin x hx
      · rw [List.mem_singleton.mp hx]
        exact Rat.not_lt.mp fun hlt => hb (decide_eq_true hlt)

theorem indexLoop_inv (sq : Rat → Rat) (p : P2 Rat) (rest done : List (P2 Rat × P2 Rat))
    (hg : ∀ s ∈ done ++ rest, GoodSeg sq p s) (st : Option Rat × Rat × Rat) (h : LoopInv sq p done st) :
    LoopInv sq p (done ++ rest) (indexLoop sq p (0 - 1) rest st) := by
  induction rest generalizing done st with
  | nil => rwa [List.append_nil]
  | cons s r ih =>
    have hg' : ∀ x ∈ (done ++ [s]) ++ r, GoodSeg sq p x := by rwa [List.append_assoc]
    have := ih (done ++ [s]) hg' _ (loopInv_step sq p done s.1 s.2 (fun x hx => hg x (List.mem_append_left _ hx))
      (hg s (by simp)) st.1 st.2.1 st.2.2 h)
    rwa [List.append_assoc] at this

theorem lineOf_single (sq : Rat → Rat) (pts : List (P2 Rat)) : lineOf sq [pts] = [(pairs pts).map (segLen sq)] := by
  simp only [lineOf, List.map_cons, List.map_nil]
  rfl

/-- consecutive pairs: the vertex list zipped with its tail -/
theorem pairs_eq_zip (pts : List (P2 Rat)) : pairs pts = pts.zip pts.tail := by
  induction pts with
  | nil => rfl
  | cons x r ih =>
    cases r with
    | nil => rfl
    | cons y t => rw [pairs, ih]; rfl

theorem pairs_getElem? (pts : List (P2 Rat)) (k : Nat) (a b : P2 Rat) (h : (pairs pts)[k]? = some (a, b)) :
    pts[k]? = some a ∧ pts[k + 1]? = some b := by
  rw [pairs_eq_zip] at h
  obtain ⟨h1, h2⟩ := List.getElem?_zip_eq_some.mp h
  exact ⟨h1, by rwa [List.getElem?_tail] at h2⟩

theorem pairs_length (pts : List (P2 Rat)) : (pairs pts).length = pts.length - 1 := by
  rw [pairs_eq_zip, List.length_zip, List.length_tail]; omega

theorem pointAlong_lerp (a b : P2 Rat) (f : Rat) (h0 : 0 ≤ f) (h1 : f < 1) : pointAlong a b f = lerp a b f := by
  unfold pointAlong
  by_cases hz : f ≤ 0
  · rw [if_pos hz, Rat.le_antisymm hz h0, lerp_zero]
  · rw [if_neg hz, if_neg (Rat.not_le.mpr h1)]; rfl

/-- `getCoordinate` of a vertex location is the vertex -/
theorem coordAt_vertex {g : Geo Rat} {pts : List (P2 Rat)} {c v : Nat} {q : P2 Rat} (hc : g[c]? = some pts)
    (hv : pts[v]? = some q) : coordAt g ⟨c, v, 0⟩ = some q := by
  simp only [coordAt, hc, hv]
  split
  · rfl
  · cases pts[v + 1]? <;> simp [pointAlong]

/-- `getCoordinate` of a location inside a segment -/
theorem coordAt_mid {g : Geo Rat} {pts : List (P2 Rat)} {c v : Nat} {a b : P2 Rat} {f : Rat} (hc : g[c]? = some pts)
    (ha : pts[v]? = some a) (hb : pts[v + 1]? = some b) (h0 : 0 ≤ f) (h1 : f < 1) :
    coordAt g ⟨c, v, f⟩ = some (lerp a b f) := by
  have hl : ¬ pts.length - 1 ≤ v := by
    have := (List.getElem?_eq_some_iff.mp hb).1; omega
  simp only [coordAt, hc, ha, hb, hl, if_false, pointAlong_lerp a b f h0 h1]

theorem rat_sq_le {u v : Rat} (hu : 0 ≤ u) (huv : u ≤ v) : u * u ≤ v * v :=
  Rat.le_trans (Rat.mul_le_mul_of_nonneg_left huv hu) (Rat.mul_le_mul_of_nonneg_right huv (Rat.le_trans hu huv))

theorem segLen_pos {sq : Rat → Rat} {p : P2 Rat} {s : P2 Rat × P2 Rat} (h : GoodSeg sq p s) : 0 < segLen sq s := by
  refine Rat.lt_of_le_of_ne h.2.1.1 fun hz => ?_
  have := h.2.1.2
  rw [segLen] at hz
  rw [← hz, Rat.mul_zero] at this
  exact d2_ne_zero h.1 this.symm

/-- `GEOSProject` on a LineString without repeated points: the arc length of the point nearest to `p` on a segment
`(a, b)` whose distance from `p` is least -/
theorem project_single (sq : Rat → Rat) (pts : List (P2 Rat)) (p : P2 Rat)
    (hne : pairs pts ≠ []) (hg : ∀ s ∈ pairs pts, GoodSeg sq p s) :
    ∃ k a b, (pairs pts)[k]? = some (a, b) ∧ (∀ s ∈ pairs pts, segD sq p (a, b) ≤ segD sq p s) ∧
      project sq [pts] p = gpos ((pairs pts).map (segLen sq)) ⟨0, k, clamp 0 1 (rfac a b p)⟩ := by
  have hinv := indexLoop_inv sq p (pairs pts) [] hg (none, 0 - 1, 0) ⟨rfl, Or.inl ⟨rfl, rfl⟩⟩
  rw [List.nil_append] at hinv
  obtain ⟨-, ⟨h, -⟩ | ⟨pre, ⟨a, b⟩, post, hsp, -, hm, hmin⟩⟩ := hinv
  · exact absurd h hne
  refine ⟨pre.length, a, b, by rw [hsp]; simp, hmin, ?_⟩
  have hproj : project sq [pts] p = (indexLoop sq p (0 - 1) (pairs pts) (none, 0 - 1, 0)).2.1 := by
    simp [project]
  have hvk : vpos ((pairs pts).map (segLen sq)) pre.length = sumFrom 0 (pre.map (segLen sq)) := by
    rw [hsp, List.map_append, vpos, List.take_left' (List.length_map _)]
  have hgk : ((pairs pts).map (segLen sq)).getD pre.length 0 = segLen sq (a, b) := by
    rw [hsp, List.getD_eq_getElem?_getD]; simp
  rw [hproj, hm, gpos, hvk, hgk]; rfl

/-- `GEOSInterpolate` on a LineString without repeated points, at the arc length of the point at fraction `c ∈ [0, 1]`
of the segment `(a, b)`, returns that point: the location found is `(k, c)`, or the next vertex when `c = 1` -/
theorem interpolate_gpos (sq : Rat → Rat) (pts : List (P2 Rat)) (hpos : ∀ x ∈ (pairs pts).map (segLen sq), 0 < x)
    {k : Nat} {a b : P2 Rat} (hk : (pairs pts)[k]? = some (a, b)) {c : Rat} (hc0 : 0 ≤ c) (hc1 : c ≤ 1) :
    interpolate sq [pts] (gpos ((pairs pts).map (segLen sq)) ⟨0, k, c⟩) = some (lerp a b c) := by
  obtain ⟨hpa, hpb⟩ := pairs_getElem? pts k a b hk
  rw [interpolate, lineOf_single]
  have hkl : k < ((pairs pts).map (segLen sq)).length := by
    rw [List.length_map]; exact (List.getElem?_eq_some_iff.mp hk).1
  generalize (pairs pts).map (segLen sq) = comp at hpos hkl ⊢
  have hcne : comp ≠ [] := fun h => by rw [h] at hkl; cases hkl
  by_cases hlt : c < 1
  · rw [getLocation_gpos comp hpos hcne ⟨Nat.le_of_lt hkl, hc0, hlt, fun _ => hkl⟩]
    exact coordAt_mid rfl hpa hpb hc0 hlt
  · have : gpos comp ⟨0, k, 1⟩ = gpos comp ⟨0, k + 1, 0⟩ := by
      simp only [gpos, vpos_succ comp _ hkl]; grind
    rw [Rat.le_antisymm hc1 (Rat.not_lt.mp hlt), this, getLocation_gpos comp hpos hcne (normLoc_vertex hkl), lerp_one]
    exact coordAt_vertex rfl hpb

/-- projecting `p` on a LineString without repeated points and interpolating at the returned length
gives a point of the line that is at least as close to `p` as every other point of the line -/
theorem project_interpolate_single (sq : Rat → Rat) (pts : List (P2 Rat)) (p : P2 Rat)
    (hne : pairs pts ≠ []) (hg : ∀ s ∈ pairs pts, GoodSeg sq p s) :
    ∃ q, interpolate sq [pts] (project sq [pts] p) = some q ∧
      (∃ s ∈ pairs pts, ∃ t, 0 ≤ t ∧ t ≤ 1 ∧ q = lerp s.1 s.2 t) ∧
      ∀ s ∈ pairs pts, ∀ t, 0 ≤ t → t ≤ 1 → d2 p q ≤ d2 p (lerp s.1 s.2 t) := by
  obtain ⟨k, a, b, hk, hmin, hproj⟩ := project_single sq pts p hne hg
  have hsm : (a, b) ∈ pairs pts := List.mem_of_getElem? hk
  obtain ⟨hc0, hc1, -⟩ := clamp_spec (lo := 0) (hi := 1) (by decide) (rfac a b p)
  have hpos : ∀ x ∈ (pairs pts).map (segLen sq), 0 < x := by
    intro x hx
    obtain ⟨s, hs, rfl⟩ := List.mem_map.mp hx
    exact segLen_pos (hg s hs)
  refine ⟨_, hproj ▸ interpolate_gpos sq pts hpos hk hc0 hc1, ⟨(a, b), hsm, _, hc0, hc1, rfl⟩, ?_⟩
  -- its squared distance is (least segment distance)² ≤ (distance of any other segment)² ≤ |p − any point of that segment|²
  intro s' hs' t ht0 ht1
  obtain ⟨n1, e1⟩ := pointToSegment_spec sq a b p (hg (a, b) hsm)
  obtain ⟨-, e2⟩ := pointToSegment_spec sq s'.1 s'.2 p (hg s' hs')
  have hsq : pointToSegment sq p a b * pointToSegment sq p a b ≤
      pointToSegment sq p s'.1 s'.2 * pointToSegment sq p s'.1 s'.2 := rat_sq_le n1 (hmin s' hs')
  rw [e1, e2] at hsq
  exact Rat.le_trans hsq (seg_nearest s'.1 s'.2 p (hg s' hs').1 t ht0 ht1)

end GeosModel.LinRef
