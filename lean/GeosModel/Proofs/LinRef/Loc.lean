import GeosModel.Proofs.LinRef.Basic
/-!
Length ↔ location lemmas over `Rat`: the loops `locFwdAux` / `lenAux` on an arbitrary item list satisfying the
iterator invariants (`OKItems`, non-negative lengths).

One step of `locFwdAux` is described once (`Stops`, `fracAt`, `locFwdAux_stop`, `locFwdAux_pass`); the facts about
the whole loop are inductions over these two equations.
-/
namespace GeosModel.LinRef

theorem mkLoc_mid (c v : Nat) (f : Rat) (h0 : 0 ≤ f) (h1 : f < 1) : mkLoc c v f = ⟨c, v, f⟩ := by
  have e : (f == 1) = false := beq_eq_false_iff_ne.mpr fun h => Rat.lt_irrefl (h ▸ h1)
  simp only [mkLoc, if_neg (Rat.not_lt.mpr h0), if_neg (Rat.not_lt.mpr (Rat.le_of_lt h1)), e, Bool.false_eq_true, if_false]

/-- `a ≤ b` in the `compareTo` order -/
def Loc.le (a b : Loc Rat) : Prop := b.lt a = false

/-- `compareTo` is the lexicographic order on (component, segment, fraction) -/
theorem Loc.le_iff (a b : Loc Rat) :
    a.le b ↔ a.comp < b.comp ∨ (a.comp = b.comp ∧ (a.seg < b.seg ∨ (a.seg = b.seg ∧ a.frac ≤ b.frac))) := by
  -- `b.lt a` compares components, then segments, then fractions, each with `<` in both directions: a case split on the
  -- two trichotomies, with `¬ b.frac < a.frac ↔ a.frac ≤ b.frac` at the end
  unfold Loc.le Loc.lt
  grind

theorem Loc.le_refl (a : Loc Rat) : a.le a :=
  (Loc.le_iff a a).mpr (Or.inr ⟨rfl, Or.inr ⟨rfl, Rat.le_refl⟩⟩)

/-! ### one step of the forward search -/

/-- the search for `ℓ`, having covered the length `tot`, stops at this position … -/
def Stops (ℓ tot : Rat) : Item Rat → Prop
  | .seg _ _ s => ℓ < tot + s
  | .eol _ _ => tot = ℓ

/-- … with this fraction -/
def fracAt (ℓ tot : Rat) : Item Rat → Rat
  | .seg _ _ s => (ℓ - tot) / s
  | .eol _ _ => 0

variable {ℓ ℓ1 ℓ2 tot : Rat} {it : Item Rat}

/-- a segment at which the search stops has positive length -/
theorem seg_pos {s : Rat} (ht : tot ≤ ℓ) (hs : ℓ < tot + s) : 0 < s :=
  Rat.add_lt_add_left.mp (by rw [Rat.add_zero]; exact Std.lt_of_le_of_lt ht hs)

theorem fracAt_range (ht : tot ≤ ℓ) (hs : Stops ℓ tot it) : 0 ≤ fracAt ℓ tot it ∧ fracAt ℓ tot it < 1 := by
  cases it with
  | eol => exact ⟨Rat.le_refl, show (0 : Rat) < 1 by decide⟩
  | seg c v s =>
    have hs : ℓ < tot + s := hs
    exact ⟨rat_div_nonneg ((Rat.le_iff_sub_nonneg tot ℓ).mp ht) (seg_pos ht hs), rat_div_lt_one (seg_pos ht hs) (by grind)⟩

theorem Stops.anti (ht : tot ≤ ℓ1) (h12 : ℓ1 ≤ ℓ2) (hs : Stops ℓ2 tot it) : Stops ℓ1 tot it := by
  cases it with
  | eol => have : tot = ℓ2 := hs; exact Rat.le_antisymm ht (this ▸ h12)
  | seg c v s => exact Std.lt_of_le_of_lt h12 (show ℓ2 < tot + s from hs)

theorem fracAt_mono (ht : tot ≤ ℓ1) (h12 : ℓ1 ≤ ℓ2) (hs : Stops ℓ2 tot it) : fracAt ℓ1 tot it ≤ fracAt ℓ2 tot it := by
  cases it with
  | eol => exact Rat.le_refl
  | seg c v s => exact rat_div_le_div (seg_pos (Rat.le_trans ht h12) hs) (by grind)

theorem le_of_not_stops (ht : tot ≤ ℓ) (hs : ¬ Stops ℓ tot it) : tot + it.len ≤ ℓ := by
  cases it with
  | eol => rw [Item.len, Rat.add_zero]; exact ht
  | seg c v s => exact Rat.not_lt.mp hs

theorem not_stops_of_lt (hl : 0 ≤ it.len) (h : tot + it.len < ℓ) : ¬ Stops ℓ tot it := by
  cases it with
  | eol => intro hs; rw [Item.len, Rat.add_zero, show tot = ℓ from hs] at h; exact Rat.lt_irrefl h
  | seg c v s => exact Rat.not_lt.mpr (Rat.le_of_lt h)

theorem locFwdAux_stop (r : List (Item Rat)) (ht : tot ≤ ℓ) (hs : Stops ℓ tot it) :
    locFwdAux ℓ tot (it :: r) = some ⟨it.c, it.v, fracAt ℓ tot it⟩ := by
  obtain ⟨h0, h1⟩ := fracAt_range ht hs
  cases it with
  | eol c v => rw [locFwdAux, beq_iff_eq.mpr hs, if_pos rfl]; exact congrArg some (mkLoc_mid c v 0 h0 h1)
  | seg c v s => rw [locFwdAux, if_pos (show ℓ < tot + s from hs)]; exact congrArg some (mkLoc_mid c v _ h0 h1)

theorem locFwdAux_pass (r : List (Item Rat)) (hs : ¬ Stops ℓ tot it) :
    locFwdAux ℓ tot (it :: r) = locFwdAux ℓ (tot + it.len) r := by
  cases it with
  | eol c v => simp only [locFwdAux, beq_eq_false_iff_ne.mpr hs, Bool.false_eq_true, if_false, Item.len, Rat.add_zero]
  | seg c v s => simp only [locFwdAux, if_neg (show ¬ ℓ < tot + s from hs), Item.len]

/-! ### the whole loop -/

/-- where a successful forward search lands: at the position of one of the items, with a fraction in [0,1),
which is 0 unless the item is a segment -/
theorem locFwdAux_pos (ℓ : Rat) (its : List (Item Rat)) (tot : Rat) (a : Loc Rat)
    (ht : tot ≤ ℓ) (h : locFwdAux ℓ tot its = some a) :
    ∃ it ∈ its, a.comp = it.c ∧ a.seg = it.v ∧ 0 ≤ a.frac ∧ a.frac < 1 ∧ (0 < a.frac → ∃ s, it = .seg it.c it.v s) := by
  induction its generalizing tot with
  | nil => cases h
  | cons it r ih =>
    by_cases hs : Stops ℓ tot it
    · rw [locFwdAux_stop r ht hs] at h
      cases h
      refine ⟨it, List.mem_cons_self, rfl, rfl, (fracAt_range ht hs).1, (fracAt_range ht hs).2, fun hf => ?_⟩
      cases it with
      | eol => exact absurd hf Rat.lt_irrefl
      | seg c v s => exact ⟨s, rfl⟩
    · rw [locFwdAux_pass r hs] at h
      obtain ⟨x, hm, hh⟩ := ih _ (le_of_not_stops ht hs) h
      exact ⟨x, List.mem_cons_of_mem _ hm, hh⟩

/-- `getLength` of the location at which the search for `ℓ` stops is `ℓ` -/
theorem lenAux_stop (r : List (Item Rat)) (ht : tot ≤ ℓ) (hs : Stops ℓ tot it) :
    lenAux ⟨it.c, it.v, fracAt ℓ tot it⟩ tot (it :: r) = ℓ := by
  cases it with
  | eol c v => simp only [lenAux, Item.c, BEq.rfl, if_true]; exact hs
  | seg c v s =>
    have h0 := seg_pos ht (show ℓ < tot + s from hs)
    simp only [lenAux, Item.c, Item.v, BEq.rfl, Bool.and_self, if_true, fracAt]
    rw [rat_mul_div_cancel fun h => Rat.lt_irrefl (h ▸ h0), Rat.add_comm, Rat.sub_add_cancel]

/-- `getLength` passes a position that lies before the location -/
theorem lenAux_pass (a : Loc Rat) (tot : Rat) {it x : Item Rat} {r : List (Item Rat)} (hok : OKItems (it :: r)) (hx : x ∈ r)
    (hc : a.comp = x.c) (hv : a.seg = x.v) : lenAux a tot (it :: r) = lenAux a (tot + it.len) r := by
  cases it with
  | eol c v =>
    have := hok.1 x hx
    have hne : (a.comp == c) = false := beq_eq_false_iff_ne.mpr (by omega)
    simp only [lenAux, hne, Bool.false_eq_true, if_false, Item.len, Rat.add_zero]
  | seg c v s =>
    have := hok.1 x hx
    have hne : (a.comp == c && a.seg == v) = false := by
      simp only [Bool.and_eq_false_iff, beq_eq_false_iff_ne]; omega
    simp only [lenAux, hne, Bool.false_eq_true, if_false, Item.len]

/-- **inverse on an item list**: the length of the location found for ℓ is ℓ -/
theorem lenAux_locFwdAux (ℓ : Rat) (its : List (Item Rat)) (tot : Rat) (a : Loc Rat)
    (hok : OKItems its) (ht : tot ≤ ℓ) (h : locFwdAux ℓ tot its = some a) : lenAux a tot its = ℓ := by
  induction its generalizing tot with
  | nil => cases h
  | cons it r ih =>
    by_cases hs : Stops ℓ tot it
    · rw [locFwdAux_stop r ht hs] at h
      cases h
      exact lenAux_stop r ht hs
    · rw [locFwdAux_pass r hs] at h
      obtain ⟨x, hx, hc, hv, _⟩ := locFwdAux_pos ℓ r _ a (le_of_not_stops ht hs) h
      rw [lenAux_pass a tot hok hx hc hv]
      exact ih _ hok.tail (le_of_not_stops ht hs) h

/-- on positions that end with an end-of-line stop the forward search fails only for lengths beyond the total -/
theorem locFwdAux_none (ℓ : Rat) (pre : List (Item Rat)) (c v : Nat) (tot : Rat)
    (ht : tot ≤ ℓ) (h : locFwdAux ℓ tot (pre ++ [.eol c v]) = none) :
    sumFrom tot ((pre ++ [Item.eol c v]).map Item.len) < ℓ := by
  induction pre generalizing tot with
  | nil =>
    by_cases hs : Stops ℓ tot (.eol c v)
    · rw [List.nil_append, locFwdAux_stop [] ht hs] at h; cases h
    · show tot + 0 < ℓ
      rw [Rat.add_zero]; exact Rat.lt_of_le_of_ne ht hs
  | cons it r ih =>
    by_cases hs : Stops ℓ tot it
    · rw [List.cons_append, locFwdAux_stop _ ht hs] at h; cases h
    · rw [List.cons_append, locFwdAux_pass _ hs] at h
      exact ih _ (le_of_not_stops ht hs) h

/-- beyond the total the forward search fails (→ end location) -/
theorem locFwdAux_beyond (ℓ : Rat) (its : List (Item Rat)) (tot : Rat) (hn : ItemsNonNeg its)
    (h : sumFrom tot (its.map Item.len) < ℓ) : locFwdAux ℓ tot its = none := by
  induction its generalizing tot with
  | nil => rfl
  | cons it r ih =>
    have hr : ItemsNonNeg r := fun x hx => hn x (List.mem_cons_of_mem _ hx)
    rw [locFwdAux_pass r (not_stops_of_lt (hn _ List.mem_cons_self) (Std.lt_of_le_of_lt (le_sumFrom _ _ hr) h))]
    exact ih _ hr h

/-- `none` is monotone in ℓ -/
theorem locFwdAux_none_mono (ℓ1 ℓ2 : Rat) (its : List (Item Rat)) (tot : Rat)
    (ht : tot ≤ ℓ1) (h12 : ℓ1 ≤ ℓ2) (h : locFwdAux ℓ1 tot its = none) : locFwdAux ℓ2 tot its = none := by
  induction its generalizing tot with
  | nil => rfl
  | cons it r ih =>
    by_cases hs : Stops ℓ1 tot it
    · rw [locFwdAux_stop r ht hs] at h; cases h
    · rw [locFwdAux_pass r hs] at h
      rw [locFwdAux_pass r fun h2 => hs (h2.anti ht h12)]
      exact ih _ (le_of_not_stops ht hs) h

/-- **monotonicity on an item list** -/
theorem locFwdAux_mono (ℓ1 ℓ2 : Rat) (its : List (Item Rat)) (tot : Rat) (a1 a2 : Loc Rat)
    (hok : OKItems its) (ht : tot ≤ ℓ1) (h12 : ℓ1 ≤ ℓ2)
    (h1 : locFwdAux ℓ1 tot its = some a1) (h2 : locFwdAux ℓ2 tot its = some a2) : a1.le a2 := by
  induction its generalizing tot with
  | nil => cases h1
  | cons it r ih =>
    have ht2 := Rat.le_trans ht h12
    by_cases s2 : Stops ℓ2 tot it
    · rw [locFwdAux_stop r ht (s2.anti ht h12)] at h1
      rw [locFwdAux_stop r ht2 s2] at h2
      cases h1; cases h2
      exact (Loc.le_iff _ _).mpr (Or.inr ⟨rfl, Or.inr ⟨rfl, fracAt_mono ht h12 s2⟩⟩)
    · rw [locFwdAux_pass r s2] at h2
      by_cases s1 : Stops ℓ1 tot it
      · -- ℓ1 stops here, ℓ2 at a later position
        rw [locFwdAux_stop r ht s1] at h1
        cases h1
        obtain ⟨x, hx, hc, hv, _⟩ := locFwdAux_pos ℓ2 r _ a2 (le_of_not_stops ht2 s2) h2
        refine (Loc.le_iff _ _).mpr ?_
        have := hok.head_lt hx
        simp only
        omega
      · rw [locFwdAux_pass r s1] at h1
        exact ih _ hok.tail (le_of_not_stops ht s1) h1 h2

end GeosModel.LinRef
