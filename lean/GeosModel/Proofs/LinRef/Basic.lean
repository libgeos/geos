import GeosModel.Model.LinRef.Map
/-!
Lemmas for the linear-referencing model over the exact carrier `Rat` (core `Rat`; linear arithmetic by `grind`).
-/
namespace GeosModel.LinRef

/-! ### arithmetic of core `Rat` used below: division, cancellation, the two-sided clamp -/

theorem rat_div_nonneg {a s : Rat} (ha : 0 ≤ a) (hs : 0 < s) : 0 ≤ a / s := by
  rw [Rat.div_def]
  exact Rat.mul_nonneg ha (Rat.le_of_lt (Rat.inv_pos.mpr hs))

theorem rat_div_lt_one {a s : Rat} (hs : 0 < s) (h : a < s) : a / s < 1 := by
  rw [Rat.div_lt_iff hs]; grind

theorem rat_div_le_div {a b s : Rat} (hs : 0 < s) (h : a ≤ b) : a / s ≤ b / s := by
  rw [Rat.div_def, Rat.div_def]
  exact Rat.mul_le_mul_of_nonneg_right h (Rat.le_of_lt (Rat.inv_pos.mpr hs))

theorem rat_mul_left_cancel {a f g : Rat} (ha : a ≠ 0) (h : a * f = a * g) : f = g := by
  rw [← Rat.mul_div_cancel (a := f) ha, ← Rat.mul_div_cancel (a := g) ha, Rat.mul_comm f, Rat.mul_comm g, h]

theorem le_add_of_nonneg (x : Rat) {d : Rat} (h : 0 ≤ d) : x ≤ x + d := by
  have := (Rat.add_le_add_left (c := x)).mpr h
  rwa [Rat.add_zero] at this

theorem rat_mul_div_cancel {a s : Rat} (hs : s ≠ 0) : s * (a / s) = a := by
  grind

/-- the two-sided clamp `LengthIndexedLine::clampIndex` and `LineSegment::segmentFraction` apply -/
def clamp (lo hi x : Rat) : Rat := if x < lo then lo else if hi < x then hi else x

theorem clamp_spec {lo hi : Rat} (h : lo ≤ hi) (x : Rat) :
    lo ≤ clamp lo hi x ∧ clamp lo hi x ≤ hi ∧ (lo ≤ x → x ≤ hi → clamp lo hi x = x) ∧
    (x < lo → clamp lo hi x = lo) ∧ (hi < x → clamp lo hi x = hi) := by
  unfold clamp
  grind

/-- the clamp does not care whether the comparisons are strict (`Distance::pointToSegment` and `segmentNearestMeasure` use `≤`) -/
theorem clamp_of_le {lo hi x : Rat} (h : lo ≤ hi) (hx : x ≤ lo) : clamp lo hi x = lo := by
  unfold clamp; grind

theorem clamp_of_ge {lo hi x : Rat} (h : lo ≤ hi) (hx : hi ≤ x) : clamp lo hi x = hi := by
  unfold clamp; grind

/-! ### `sumFrom`, the accumulating sum of the model -/

theorem sumFrom_eq (acc : Rat) (xs : List Rat) : sumFrom acc xs = acc + sumFrom 0 xs := by
  induction xs generalizing acc with
  | nil => exact (Rat.add_zero acc).symm
  | cons x r ih => rw [sumFrom, sumFrom, ih (acc + x), ih (0 + x), Rat.zero_add, Rat.add_assoc]

theorem sumFrom_append (acc : Rat) (xs ys : List Rat) : sumFrom acc (xs ++ ys) = sumFrom (sumFrom acc xs) ys := by
  induction xs generalizing acc with
  | nil => rfl
  | cons x r ih => exact ih (acc + x)

theorem sumFrom_nonneg (xs : List Rat) (h : ∀ x ∈ xs, 0 ≤ x) : 0 ≤ sumFrom 0 xs := by
  induction xs with
  | nil => exact Rat.le_refl
  | cons x r ih =>
    rw [sumFrom, sumFrom_eq, Rat.zero_add]
    exact Rat.add_nonneg (h x List.mem_cons_self) (ih fun y hy => h y (List.mem_cons_of_mem _ hy))

/-- every running total of non-negative terms is at least what it started from -/
theorem le_sumFrom (acc : Rat) (xs : List Rat) (h : ∀ x ∈ xs, 0 ≤ x) : acc ≤ sumFrom acc xs := by
  rw [sumFrom_eq]; exact le_add_of_nonneg acc (sumFrom_nonneg xs h)

/-! ### the lengths along the iterator positions add up to `totalLen` -/

/-- all segment lengths are non-negative -/
def Line.NonNeg (l : Line Rat) : Prop := ∀ c ∈ l, ∀ s ∈ c, 0 ≤ s

/-- the length an iterator position stands for: that of its segment, nothing for an end-of-line stop -/
def Item.len : Item Rat → Rat
  | .seg _ _ s => s
  | .eol _ _ => 0

/-- the lengths along a list of positions are non-negative -/
def ItemsNonNeg (its : List (Item Rat)) : Prop := ∀ x ∈ its.map Item.len, 0 ≤ x

theorem sumFrom_compItems (acc : Rat) (c v : Nat) (comp : List Rat) :
    sumFrom acc ((compItems c v comp).map Item.len) = acc + compLen comp := by
  induction comp generalizing acc v with
  | nil => rfl
  | cons s r ih => exact (ih (acc + s) (v + 1)).trans (by rw [compLen, compLen, sumFrom, sumFrom_eq (0 + s), Rat.zero_add, Rat.add_assoc])

/-- the lengths along the iterator positions add up as `Geometry::getLength` does, from any starting total -/
theorem sumFrom_itemsFrom (acc : Rat) (c : Nat) (l : Line Rat) :
    sumFrom acc ((itemsFrom c l).map Item.len) = sumFrom acc (l.map compLen) := by
  induction l generalizing acc c with
  | nil => rfl
  | cons comp r ih => rw [itemsFrom, List.map_append, sumFrom_append, sumFrom_compItems, ih]; rfl

theorem totalLen_eq (l : Line Rat) : totalLen l = sumFrom 0 ((items l).map Item.len) := (sumFrom_itemsFrom 0 0 l).symm

theorem itemsNonNeg_items (l : Line Rat) (h : l.NonNeg) (c0 : Nat) : ItemsNonNeg (itemsFrom c0 l) := by
  have comp_nonneg (c v : Nat) (comp : List Rat) (hc : ∀ x ∈ comp, 0 ≤ x) : ItemsNonNeg (compItems c v comp) := by
    induction comp generalizing v with
    | nil => intro x hx; rw [List.mem_singleton.mp hx]; exact Rat.le_refl
    | cons y t iht =>
      intro x hx
      rcases List.mem_cons.mp hx with rfl | hx
      · exact hc _ List.mem_cons_self
      · exact iht _ (fun z hz => hc z (List.mem_cons_of_mem _ hz)) x hx
  induction l generalizing c0 with
  | nil => intro x hx; cases hx
  | cons comp r ih =>
    intro x hx
    rw [itemsFrom, List.map_append] at hx
    rcases List.mem_append.mp hx with hx | hx
    · exact comp_nonneg c0 0 comp (h comp List.mem_cons_self) x hx
    · exact ih (fun c hc => h c (List.mem_cons_of_mem _ hc)) (c0 + 1) x hx

/-! ### structure of the iterator positions -/

theorem mem_compItems {c v : Nat} {comp : List Rat} {it : Item Rat} (h : it ∈ compItems c v comp) :
    it.c = c ∧ v ≤ it.v ∧ it.v ≤ v + comp.length := by
  induction comp generalizing v with
  | nil => rw [List.mem_singleton.mp h]; exact ⟨rfl, Nat.le_refl _, Nat.le_refl _⟩
  | cons s r ih =>
    rcases List.mem_cons.mp h with rfl | h
    · exact ⟨rfl, Nat.le_refl _, Nat.le_add_right _ _⟩
    · have := ih h
      simp only [List.length_cons]
      omega

/-- a segment position is never the last vertex of its component -/
theorem seg_mem_compItems {c v0 : Nat} {r : List Rat} {c' v : Nat} {s : Rat} (h : Item.seg c' v s ∈ compItems c v0 r) :
    v < v0 + r.length := by
  induction r generalizing v0 with
  | nil => cases List.mem_singleton.mp h
  | cons x t ih =>
    simp only [List.length_cons]
    rcases List.mem_cons.mp h with h | h
    · cases h; omega
    · have := ih h; omega

theorem mem_itemsFrom {c : Nat} {l : Line Rat} {it : Item Rat} (h : it ∈ itemsFrom c l) : c ≤ it.c := by
  induction l generalizing c with
  | nil => cases h
  | cons comp r ih =>
    rcases List.mem_append.mp h with h | h
    · exact Nat.le_of_eq (mem_compItems h).1.symm
    · exact Nat.le_of_succ_le (ih h)

/-- the positions are strictly increasing: after a segment only later positions follow, after an end-of-line
stop only later components follow -/
def OKItems : List (Item Rat) → Prop
  | [] => True
  | .seg c v _ :: r => (∀ it ∈ r, c < it.c ∨ (it.c = c ∧ v < it.v)) ∧ OKItems r
  | .eol c _ :: r => (∀ it ∈ r, c < it.c) ∧ OKItems r

theorem OKItems.tail {it : Item Rat} {r : List (Item Rat)} (h : OKItems (it :: r)) : OKItems r := by
  cases it <;> exact h.2

theorem OKItems.head_lt {it x : Item Rat} {r : List (Item Rat)} (h : OKItems (it :: r)) (hx : x ∈ r) :
    it.c < x.c ∨ (x.c = it.c ∧ it.v < x.v) := by
  cases it with
  | seg => exact h.1 x hx
  | eol => exact Or.inl (h.1 x hx)

theorem okItems_append_comp (c v : Nat) (comp : List Rat) (rest : List (Item Rat))
    (hr : OKItems rest) (hc : ∀ it ∈ rest, c < it.c) : OKItems (compItems c v comp ++ rest) := by
  induction comp generalizing v with
  | nil => exact ⟨hc, hr⟩
  | cons s r ih =>
    refine ⟨fun it hit => ?_, ih (v + 1)⟩
    rcases List.mem_append.mp hit with h | h
    · have := mem_compItems h
      right; omega
    · left; exact hc it h

theorem okItems_itemsFrom (c : Nat) (l : Line Rat) : OKItems (itemsFrom c l) := by
  induction l generalizing c with
  | nil => trivial
  | cons comp r ih => exact okItems_append_comp _ _ _ _ (ih (c + 1)) fun it hit => mem_itemsFrom hit

/-- the positions of a non-empty geometry end with an end-of-line stop -/
theorem itemsFrom_eq_append (c : Nat) (l : Line Rat) (hl : l ≠ []) : ∃ pre c' v', itemsFrom c l = pre ++ [.eol c' v'] := by
  have comp_eq (c v : Nat) (comp : List Rat) : ∃ pre v', compItems c v comp = pre ++ [.eol c v'] := by
    induction comp generalizing v with
    | nil => exact ⟨[], v, rfl⟩
    | cons s r ih =>
      obtain ⟨pre, v', h⟩ := ih (v + 1)
      exact ⟨.seg c v s :: pre, v', by rw [compItems, h, List.cons_append]⟩
  induction l generalizing c with
  | nil => exact absurd rfl hl
  | cons comp r ih =>
    by_cases hr : r = []
    · obtain ⟨pre, v', h⟩ := comp_eq c 0 comp
      exact ⟨pre, c, v', by rw [hr, itemsFrom, itemsFrom, List.append_nil, h]⟩
    · obtain ⟨pre, c', v', h⟩ := ih (c + 1) hr
      exact ⟨compItems c 0 comp ++ pre, c', v', by rw [itemsFrom, h, List.append_assoc]⟩

end GeosModel.LinRef
