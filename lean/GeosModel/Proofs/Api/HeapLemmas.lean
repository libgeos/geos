import GeosModel.Model.Api.Heap
/-! Lemmas about the ownership-discipline model (`Model/Api/Heap.lean`) used by `Props/C12.lean`, and at the end three
executable views of a run (`accepted`, `heapAfter`, `allOwnedConsumed`) that its examples evaluate. -/
namespace GeosModel.Api

/-! ### unpacking legality -/

structure Legal (h : Heap) (c : Call) (obs : Obs) : Prop where
  args : ∀ a ∈ c.args, argOk h a = true
  excl : ∀ i ∈ c.excl, exclusiveOk h i = true
  nodup : c.excl.Nodup
  sep : ∀ i ∈ c.readOnly, root h i ∉ c.excl
  obs : obsOk c obs = true

theorem legal_iff (h : Heap) (c : Call) (obs : Obs) : legal h c obs = true ↔ Legal h c obs := by
  simp only [legal, Bool.and_eq_true, List.all_eq_true, decide_eq_true_eq, Bool.not_eq_true',
    List.contains_eq_mem, decide_eq_false_iff_not]
  exact ⟨fun ⟨⟨⟨⟨h1, h2⟩, h3⟩, h4⟩, h5⟩ => ⟨h1, h2, h3, h4, h5⟩, fun ⟨h1, h2, h3, h4, h5⟩ => ⟨⟨⟨⟨h1, h2⟩, h3⟩, h4⟩, h5⟩⟩

theorem step_ok_iff (h : Heap) (c : Call) (obs : Obs) (h' : Heap) (out : Outcome) :
    step h c obs = .ok (h', out) ↔ Legal h c obs ∧ h' = apply h c obs ∧ out = outcome h c obs := by
  rw [← legal_iff, step]
  by_cases hl : legal h c obs = true
  · simp [hl, eq_comm]
  · simp [hl]

theorem mem_idsOf (c : Call) (p : Mode → Bool) (i : Id) :
    i ∈ c.idsOf p ↔ ∃ a ∈ c.args, p a.mode = true ∧ i ∈ a.ids := by
  simp only [Call.idsOf, List.mem_flatMap, List.mem_filter]
  constructor
  · rintro ⟨a, ⟨ha, hp⟩, hi⟩; exact ⟨a, ha, hp, hi⟩
  · rintro ⟨a, ha, hp, hi⟩; exact ⟨a, ⟨ha, hp⟩, hi⟩

theorem mem_allIds (c : Call) (i : Id) : i ∈ c.allIds ↔ ∃ a ∈ c.args, i ∈ a.ids := by
  simp [Call.allIds, List.mem_flatMap]

theorem idsOf_sub_allIds (c : Call) (p : Mode → Bool) (i : Id) (hi : i ∈ c.idsOf p) : i ∈ c.allIds := by
  obtain ⟨a, ha, _, hia⟩ := (mem_idsOf c p i).mp hi
  exact (mem_allIds c i).mpr ⟨a, ha, hia⟩

theorem consumed_sub_excl (c : Call) (i : Id) (hi : i ∈ c.consumed) : i ∈ c.excl := by
  simp [Call.excl, hi]

theorem mutated_sub_excl (c : Call) (i : Id) (hi : i ∈ c.mutated) : i ∈ c.excl := by
  simp [Call.excl, hi]

theorem retained_sub_readOnly (c : Call) (i : Id) (hi : i ∈ c.retained) : i ∈ c.readOnly := by
  obtain ⟨a, ha, hp, hia⟩ := (mem_idsOf c _ i).mp hi
  refine (mem_idsOf c _ i).mpr ⟨a, ha, ?_, hia⟩
  simp only [beq_iff_eq] at hp
  simp [hp]

/-- every argument is live and of the declared kind (`legal_seq_no_dangling`, one call) -/
theorem Legal.arg_live {h : Heap} {c : Call} {obs : Obs} (hl : Legal h c obs) (i : Id) (hi : i ∈ c.allIds) :
    ∃ o, h[i]? = some o ∧ o.live = true := by
  obtain ⟨a, ha, hia⟩ := (mem_allIds c i).mp hi
  have := hl.args a ha
  simp only [argOk, Bool.and_eq_true, List.all_eq_true] at this
  have h2 := this.2 i hia
  cases hg : h[i]? with
  | none => simp [hg] at h2
  | some o =>
    simp only [hg, Bool.and_eq_true] at h2
    exact ⟨o, rfl, h2.1⟩

theorem Legal.arg_cases {h : Heap} {c : Call} {obs : Obs} (hl : Legal h c obs) (i : Id) (hi : i ∈ c.allIds) :
    i ∈ c.excl ∨ i ∈ c.readOnly := by
  obtain ⟨a, ha, hia⟩ := (mem_allIds c i).mp hi
  have := hl.args a ha
  simp only [argOk, Bool.and_eq_true, bne_iff_ne, ne_eq] at this
  have hm := this.1
  cases hmode : a.mode with
  | na => exact absurd hmode hm
  | const_ => right; exact (mem_idsOf c _ i).mpr ⟨a, ha, by simp [hmode], hia⟩
  | retain => right; exact (mem_idsOf c _ i).mpr ⟨a, ha, by simp [hmode], hia⟩
  | modify => left; exact mutated_sub_excl c i ((mem_idsOf c _ i).mpr ⟨a, ha, by simp [hmode], hia⟩)
  | consume => left; exact consumed_sub_excl c i ((mem_idsOf c _ i).mpr ⟨a, ha, by simp [hmode], hia⟩)

theorem Legal.excl_owned {h : Heap} {c : Call} {obs : Obs} (hl : Legal h c obs) (i : Id) (hi : i ∈ c.excl) :
    (∃ o, h[i]? = some o ∧ o.owner = none) ∧ isBorrowed h i = false := by
  have := hl.excl i hi
  simp only [exclusiveOk, Bool.and_eq_true, Bool.not_eq_true'] at this
  refine ⟨?_, this.2⟩
  cases hg : h[i]? with
  | none => simp [hg] at this
  | some o =>
    simp only [hg, beq_iff_eq] at this
    exact ⟨o, rfl, this.1⟩

theorem not_borrowed {h : Heap} {i : Id} (hb : isBorrowed h i = false) (j : Id) (o : Obj)
    (hj : h[j]? = some o) (hlive : o.live = true) : i ∉ o.borrows := by
  intro hmem
  have : isBorrowed h i = true := by
    simp only [isBorrowed, List.any_eq_true, Bool.and_eq_true, List.contains_eq_mem, decide_eq_true_eq]
    exact ⟨o, List.mem_of_getElem? hj, hlive, hmem⟩
  simp [this] at hb

/-! ### the effect on old and new positions -/

section
variable (c : Call) (R : List Id) (i : Id) (o : Obj)

/-- the three things `touch` can do to an object, each with the reason -/
theorem touch_cases :
    (touch c R i o = { o with live := false } ∧ (i ∈ c.consumed ∨ ∃ p, o.owner = some p ∧ p ∈ c.excl)) ∨
    (touch c R i o = { o with ver := o.ver + 1, borrows := o.borrows ++ R } ∧ i ∈ c.mutated) ∨
    (touch c R i o = o ∧ ∀ p, o.owner = some p → p ∉ c.excl) := by
  unfold touch
  by_cases h1 : i ∈ c.consumed
  · exact .inl ⟨if_pos (List.contains_iff_mem.mpr h1), .inl h1⟩
  rw [if_neg (mt List.contains_iff_mem.mp h1)]
  by_cases h2 : i ∈ c.mutated
  · exact .inr (.inl ⟨if_pos (List.contains_iff_mem.mpr h2), h2⟩)
  rw [if_neg (mt List.contains_iff_mem.mp h2)]
  cases ho : o.owner with
  | none => exact .inr (.inr ⟨rfl, nofun⟩)
  | some p =>
    by_cases h3 : p ∈ c.excl
    · exact .inl ⟨if_pos (List.contains_iff_mem.mpr h3), .inr ⟨p, rfl, h3⟩⟩
    · exact .inr (.inr ⟨if_neg (mt List.contains_iff_mem.mp h3), fun q hq => Option.some.inj hq ▸ h3⟩)

theorem touch_live_of (hl : (touch c R i o).live = true) :
    o.live = true := by
  rcases touch_cases c R i o with ⟨h, -⟩ | ⟨h, -⟩ | ⟨h, -⟩ <;> rw [h] at hl
  · cases hl
  · exact hl
  · exact hl

theorem touch_owner : (touch c R i o).owner = o.owner := by
  rcases touch_cases c R i o with ⟨h, -⟩ | ⟨h, -⟩ | ⟨h, -⟩ <;> rw [h]

theorem touch_borrows (b : Id) (hb : b ∈ (touch c R i o).borrows) :
    b ∈ o.borrows ∨ (i ∈ c.mutated ∧ b ∈ R) := by
  rcases touch_cases c R i o with ⟨h, -⟩ | ⟨h, hm⟩ | ⟨h, -⟩ <;> rw [h] at hb
  · exact .inl hb
  · exact (List.mem_append.mp hb).imp_right fun hb => ⟨hm, hb⟩
  · exact .inl hb

/-- an object outside the consumed/modified set whose parent is outside it too is not touched at all -/
theorem touch_untouched (hi : i ∉ c.excl)
    (hp : ∀ p, o.owner = some p → p ∉ c.excl) : touch c R i o = o := by
  rcases touch_cases c R i o with ⟨-, h | ⟨p, ho, h⟩⟩ | ⟨-, h⟩ | ⟨h, -⟩
  · exact absurd (consumed_sub_excl c i h) hi
  · exact absurd h (hp p ho)
  · exact absurd (mutated_sub_excl c i h) hi
  · exact h

end

theorem touch_kind (c : Call) (R : List Id) (i : Id) (o : Obj) : (touch c R i o).kind = o.kind := by
  rcases touch_cases c R i o with ⟨h, -⟩ | ⟨h, -⟩ | ⟨h, -⟩ <;> rw [h]

/-- a new object is live; it is caller-owned and borrows the retained roots, or — a borrowed result — a view of the root of the
first argument that borrows nothing -/
theorem mem_newObjs {h : Heap} {c : Call} {n : Nat} {o : Obj} (ho : o ∈ newObjs h c n) :
    o.live = true ∧ ((o.owner = none ∧ o.borrows = c.retainedRoots h) ∨
      ∃ k, c.res = .borrowed k ∧ o.owner = c.allIds.head?.map (root h) ∧ o.borrows = []) := by
  unfold newObjs at ho
  cases hres : c.res <;> rw [hres] at ho
  · cases ho
  · rw [(List.mem_replicate.mp ho).2]; exact ⟨rfl, .inl ⟨rfl, rfl⟩⟩
  · rw [(List.mem_replicate.mp ho).2]; exact ⟨rfl, .inl ⟨rfl, rfl⟩⟩
  · rw [(List.mem_replicate.mp ho).2]; exact ⟨rfl, .inr ⟨_, rfl, rfl, rfl⟩⟩

theorem apply_old {h : Heap} {i : Id} {o : Obj} (c : Call) (obs : Obs) (hg : h[i]? = some o) :
    (apply h c obs)[i]? = some (touch c (c.retainedRoots h) i o) := by
  have hi := (List.getElem?_eq_some_iff.mp hg).1
  cases obs with
  | err => simp [apply, List.getElem?_mapIdx, hg]
  | ok n =>
    rw [apply, List.getElem?_append_left (by simpa using hi)]
    simp [List.getElem?_mapIdx, hg]

theorem apply_new_getElem? (h : Heap) (c : Call) (n k : Nat) :
    (apply h c (.ok n))[h.length + k]? = (newObjs h c n)[k]? := by
  rw [apply, List.getElem?_append_right (by simp)]; simp

/-- an object of the heap after a call is an old one, touched, or one of the new ones -/
theorem apply_cases {h : Heap} {c : Call} {obs : Obs} {i : Id} {o' : Obj} (hg : (apply h c obs)[i]? = some o') :
    (∃ o, h[i]? = some o ∧ o' = touch c (c.retainedRoots h) i o) ∨ ∃ n, obs = .ok n ∧ o' ∈ newObjs h c n := by
  cases hgo : h[i]? with
  | some o => rw [apply_old c obs hgo] at hg; exact .inl ⟨o, rfl, (Option.some.inj hg).symm⟩
  | none =>
    obtain ⟨k, rfl⟩ := Nat.exists_eq_add_of_le (List.getElem?_eq_none_iff.mp hgo)
    cases obs with
    | err => rw [apply, List.getElem?_eq_none_iff.mpr (by simp)] at hg; cases hg
    | ok n => rw [apply_new_getElem?] at hg; exact .inr ⟨n, rfl, List.mem_of_getElem? hg⟩

theorem apply_length_ge (h : Heap) (c : Call) (obs : Obs) : h.length ≤ (apply h c obs).length := by
  cases obs <;> simp [apply]

theorem apply_survivor (h : Heap) (c : Call) (obs : Obs) (p : Id) (po : Obj) (hg : h[p]? = some po)
    (hl : po.live = true) (ho : po.owner = none) (hc : p ∉ c.consumed) :
    ∃ po', (apply h c obs)[p]? = some po' ∧ po'.live = true ∧ po'.owner = none := by
  refine ⟨_, apply_old c obs hg, ?_, (touch_owner ..).trans ho⟩
  rcases touch_cases c (c.retainedRoots h) p po with ⟨-, h' | ⟨q, hq, -⟩⟩ | ⟨h', -⟩ | ⟨h', -⟩
  · exact absurd h' hc
  · rw [ho] at hq; cases hq
  · rw [h']; exact hl
  · rw [h']; exact hl

/-! ### roots -/

theorem root_live_owned {h : Heap} (wf : WF h) (i : Id) (o : Obj) (hg : h[i]? = some o) (hl : o.live = true) :
    ∃ ro, h[root h i]? = some ro ∧ ro.live = true ∧ ro.owner = none := by
  unfold root
  simp only [hg]
  cases ho : o.owner with
  | none => exact ⟨o, by simpa using hg, hl, ho⟩
  | some p =>
    simp only [Option.getD_some]
    exact wf.owner i o p hg hl ho

theorem root_of_owned {h : Heap} (i : Id) (o : Obj) (hg : h[i]? = some o) (ho : o.owner = none) : root h i = i := by
  simp [root, hg, ho]

theorem readOnly_root_survives {h : Heap} {c : Call} {obs : Obs} (wf : WF h) (hl : Legal h c obs) (i : Id)
    (hi : i ∈ c.readOnly) :
    ∃ ro', (apply h c obs)[root h i]? = some ro' ∧ ro'.live = true ∧ ro'.owner = none := by
  obtain ⟨o, hg, hlive⟩ := hl.arg_live i (idsOf_sub_allIds c _ i hi)
  obtain ⟨ro, hr, hrl, hro⟩ := root_live_owned wf i o hg hlive
  have hne : root h i ∉ c.consumed := fun hh => hl.sep i hi (consumed_sub_excl c _ hh)
  exact apply_survivor h c obs (root h i) ro hr hrl hro hne

/-- the root of any argument that is not consumed survives the call -/
theorem arg_root_survives {h : Heap} {c : Call} {obs : Obs} (wf : WF h) (hl : Legal h c obs) (i : Id)
    (hi : i ∈ c.allIds) (hc : i ∉ c.consumed) :
    ∃ ro', (apply h c obs)[root h i]? = some ro' ∧ ro'.live = true ∧ ro'.owner = none := by
  rcases hl.arg_cases i hi with he | hr
  · -- a modified argument is caller-owned: it is its own root
    obtain ⟨⟨o, hg, ho⟩, _⟩ := hl.excl_owned i he
    obtain ⟨o2, hg2, hlive⟩ := hl.arg_live i hi
    rw [hg] at hg2; cases hg2
    rw [root_of_owned i o hg ho]
    exact apply_survivor h c obs i o hg hlive ho hc
  · exact readOnly_root_survives wf hl i hr

/-! ### the invariant is preserved -/

theorem apply_wf {h : Heap} {c : Call} {obs : Obs} (wf : WF h) (hl : Legal h c obs) : WF (apply h c obs) := by
  have retained_ok : ∀ b ∈ c.retainedRoots h,
      ∃ bo, (apply h c obs)[b]? = some bo ∧ bo.live = true ∧ bo.owner = none := by
    intro b hb
    simp only [Call.retainedRoots, List.mem_map] at hb
    obtain ⟨i, hi, rfl⟩ := hb
    exact readOnly_root_survives wf hl i (retained_sub_readOnly c i hi)
  constructor
  · -- owner
    intro i o' p hg hlive hown
    rcases apply_cases hg with ⟨o, hgo, rfl⟩ | ⟨n, rfl, hmem⟩
    · have hl0 := touch_live_of c _ i o hlive
      rw [touch_owner] at hown
      obtain ⟨po, hpo, hpl, hpown⟩ := wf.owner i o p hgo hl0 hown
      -- the parent is not consumed, otherwise the view would have been killed
      have hpc : p ∉ c.consumed := by
        refine fun hh => absurd (consumed_sub_excl c p hh) ?_
        rcases touch_cases c (c.retainedRoots h) i o with ⟨ht, -⟩ | ⟨-, hm⟩ | ⟨-, hp⟩
        · rw [ht] at hlive; cases hlive
        · -- a modified object is caller-owned, it has no parent
          obtain ⟨⟨o2, hg2, ho2⟩, _⟩ := hl.excl_owned i (mutated_sub_excl c i hm)
          rw [hgo] at hg2; cases hg2
          rw [hown] at ho2; cases ho2
        · exact hp p hown
      exact apply_survivor h c obs p po hpo hpl hpown hpc
    · rcases (mem_newObjs hmem).2 with ⟨ho, -⟩ | ⟨k, hres, ho, -⟩ <;> rw [ho] at hown
      · cases hown
      · have hobs := hl.obs
        simp only [obsOk, hres, Bool.and_eq_true] at hobs
        cases hhead : c.allIds.head? with
        | none => simp [hhead] at hobs
        | some j =>
          simp only [hhead, Option.map_some, Option.some.injEq] at hown
          subst hown
          simp only [hhead, Bool.not_eq_true', List.contains_eq_mem, decide_eq_false_iff_not] at hobs
          exact arg_root_survives wf hl j (List.mem_of_mem_head? hhead) hobs.2
  · -- borrows
    intro i o' b hg hlive hb
    rcases apply_cases hg with ⟨o, hgo, rfl⟩ | ⟨n, rfl, hmem⟩
    · have hl0 := touch_live_of c _ i o hlive
      rcases touch_borrows c _ i o b hb with hb0 | ⟨_, hbR⟩
      · obtain ⟨bo, hbo, hbl, hbown⟩ := wf.borrows i o b hgo hl0 hb0
        have hbc : b ∉ c.consumed := by
          intro hh
          obtain ⟨_, hnb⟩ := hl.excl_owned b (consumed_sub_excl c b hh)
          exact not_borrowed hnb i o hgo hl0 hb0
        exact apply_survivor h c obs b bo hbo hbl hbown hbc
      · exact retained_ok b hbR
    · rcases (mem_newObjs hmem).2 with ⟨-, ho⟩ | ⟨-, -, -, ho⟩ <;> rw [ho] at hb
      · exact retained_ok b hb
      · cases hb

theorem wf_nil : WF ([] : Heap) := ⟨by intro i o p hg; simp at hg, by intro i o b hg; simp at hg⟩

/-! ### dead stays dead, consumed is dead -/

theorem apply_dead_stays (h : Heap) (c : Call) (obs : Obs) (i : Id) (o : Obj) (hg : h[i]? = some o)
    (hd : o.live = false) : ∃ o', (apply h c obs)[i]? = some o' ∧ o'.live = false := by
  refine ⟨_, apply_old c obs hg, ?_⟩
  cases hl : (touch c (c.retainedRoots h) i o).live with
  | false => rfl
  | true => rw [touch_live_of c _ i o hl] at hd; cases hd

theorem apply_consumed_dead {h : Heap} {c : Call} {obs : Obs} (hl : Legal h c obs) (i : Id) (hi : i ∈ c.consumed) :
    ∃ o', (apply h c obs)[i]? = some o' ∧ o'.live = false := by
  obtain ⟨o, hg, _⟩ := hl.arg_live i (idsOf_sub_allIds c _ i hi)
  refine ⟨_, apply_old c obs hg, ?_⟩
  unfold touch
  rw [if_pos (List.contains_iff_mem.mpr hi)]

/-! ### sequences -/

theorem run_cons_ok (h : Heap) (c : Call) (obs : Obs) (cs : List (Call × Obs)) (h' : Heap) (outs : List Outcome)
    (hr : run h ((c, obs) :: cs) = .ok (h', outs)) :
    ∃ out outs', Legal h c obs ∧ outs = out :: outs' ∧ out = outcome h c obs ∧
      run (apply h c obs) cs = .ok (h', outs') := by
  simp only [run] at hr
  cases hs : step h c obs with
  | error e => simp [hs] at hr
  | ok p =>
    obtain ⟨h1, out⟩ := p
    simp only [hs] at hr
    obtain ⟨hl, rfl, rfl⟩ := (step_ok_iff h c obs h1 out).mp hs
    cases hr2 : run (apply h c obs) cs with
    | error e => simp [hr2] at hr
    | ok q =>
      obtain ⟨h2, outs2⟩ := q
      simp only [hr2, Except.ok.injEq, Prod.mk.injEq] at hr
      obtain ⟨rfl, rfl⟩ := hr
      exact ⟨_, outs2, hl, rfl, rfl, rfl⟩

theorem run_wf : ∀ (cs : List (Call × Obs)) (h h' : Heap) (outs : List Outcome), WF h →
    run h cs = .ok (h', outs) → WF h'
  | [], h, h', outs, wf, hr => by cases hr; exact wf
  | (c, obs) :: cs, h, h', outs, wf, hr => by
    obtain ⟨out, outs', hl, _, _, hr'⟩ := run_cons_ok h c obs cs h' outs hr
    exact run_wf cs _ h' outs' (apply_wf wf hl) hr'

theorem run_append : ∀ (pre post : List (Call × Obs)) (h h' : Heap) (outs : List Outcome),
    run h (pre ++ post) = .ok (h', outs) →
    ∃ hk outs1 outs2, run h pre = .ok (hk, outs1) ∧ run hk post = .ok (h', outs2) ∧ outs = outs1 ++ outs2
  | [], post, h, h', outs, hr => ⟨h, [], outs, rfl, hr, rfl⟩
  | (c, obs) :: pre, post, h, h', outs, hr => by
    obtain ⟨out, outs', hl, rfl, rfl, hr'⟩ := run_cons_ok h c obs (pre ++ post) h' outs hr
    obtain ⟨hk, o1, o2, h1, h2, rfl⟩ := run_append pre post _ h' outs' hr'
    refine ⟨hk, outcome h c obs :: o1, o2, ?_, h2, rfl⟩
    rw [run, (step_ok_iff h c obs _ _).mpr ⟨hl, rfl, rfl⟩]
    dsimp only
    rw [h1]

/-- ids consumed along a run are dead at its end, and so is everything that was dead before -/
theorem run_consumed_dead : ∀ (cs : List (Call × Obs)) (h h' : Heap) (outs : List Outcome) (D : List Id),
    (∀ i ∈ D, ∃ o, h[i]? = some o ∧ o.live = false) →
    run h cs = .ok (h', outs) →
    ∀ i, i ∈ D ∨ i ∈ consumedAll cs → ∃ o, h'[i]? = some o ∧ o.live = false
  | [], h, h', outs, D, hD, hr, i, hi => by cases hr; exact hi.elim (hD i) nofun
  | (c, obs) :: cs, h, h', outs, D, hD, hr, i, hi => by
    obtain ⟨out, outs', hl, _, _, hr'⟩ := run_cons_ok h c obs cs h' outs hr
    refine run_consumed_dead cs (apply h c obs) h' outs' (D ++ c.consumed) ?_ hr' i ?_
    · intro j hj
      rcases List.mem_append.mp hj with hj | hj
      · obtain ⟨o, hg, hd⟩ := hD j hj
        exact apply_dead_stays h c obs j o hg hd
      · exact apply_consumed_dead hl j hj
    · simpa [consumedAll, or_assoc] using hi

theorem range_shift_nodup (n k : Nat) : ((List.range n).map (· + k)).Nodup := by
  rw [List.nodup_iff_pairwise_ne, List.pairwise_map]
  have := @List.nodup_range n
  rw [List.nodup_iff_pairwise_ne] at this
  exact this.imp (by intro a b hab; omega)

/-! ### executable views of a run, for the examples of `Props/C12.lean` -/

def accepted (cs : List (Call × Obs)) : Bool :=
  match run [] cs with
  | .ok _ => true
  | .error _ => false

def heapAfter (cs : List (Call × Obs)) : Heap :=
  match run [] cs with
  | .ok (h, _) => h
  | .error _ => []

def allOwnedConsumed (h : Heap) (cs : List (Call × Obs)) : Bool :=
  (List.range h.length).all (fun i =>
    match h[i]? with
    | some o => o.owner != none || (consumedAll cs).contains i
    | none => true)

theorem allOwnedConsumed_spec (h : Heap) (cs : List (Call × Obs)) (hb : allOwnedConsumed h cs = true) :
    ∀ (i : Id) (o : Obj), h[i]? = some o → o.owner = none → i ∈ consumedAll cs := by
  intro i o hg ho
  simp only [allOwnedConsumed, List.all_eq_true, List.mem_range] at hb
  have hlt : i < h.length := (List.getElem?_eq_some_iff.mp hg).1
  have := hb i hlt
  simp only [hg, ho, bne_self_eq_false, Bool.false_or, List.contains_eq_mem, decide_eq_true_eq] at this
  exact this

end GeosModel.Api
