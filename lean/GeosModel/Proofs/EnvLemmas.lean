import GeosModel.Base.Env
/-!
# Lemmas about the envelopes of `Base/Env` (`inter`, `covers`, `union`, `containsPt`), used by the rectangle fast path, overlay clipping and the
index properties.  Core Lean only.
-/
namespace GeosModel.Env

/-- an envelope that covers one that intersects `q` intersects `q` -/
theorem inter_of_covers {c a q : Env} (hc : covers c a = true) (h : inter a q = true) : inter c q = true := by
  cases a with
  | none => cases c <;> exact absurd hc Bool.false_ne_true
  | some a =>
    cases c with
    | none => exact absurd hc Bool.false_ne_true
    | some c =>
      cases q with
      | none => exact absurd h Bool.false_ne_true
      | some q =>
        simp only [covers, inter, Bool.and_eq_true, decide_eq_true_eq] at hc h ⊢
        omega

/-- `expandToInclude` covers both envelopes (this lemma and the next) -/
theorem covers_union_left (a : Box) (b : Env) : covers (union (some a) b) (some a) = true := by
  cases b with
  | none => simp [union, covers]
  | some b =>
    simp only [union, covers, Bool.and_eq_true, decide_eq_true_eq]
    refine ⟨⟨⟨?_, ?_⟩, ?_⟩, ?_⟩ <;> split <;> omega

theorem covers_union_right (a : Env) (b : Box) : covers (union a (some b)) (some b) = true := by
  cases a with
  | none => simp [union, covers]
  | some a =>
    simp only [union, covers, Bool.and_eq_true, decide_eq_true_eq]
    refine ⟨⟨⟨?_, ?_⟩, ?_⟩, ?_⟩ <;> split <;> omega

theorem inter_union_left (a b q : Env) (h : inter a q = true) : inter (union a b) q = true := by
  cases a with
  | none => exact absurd h Bool.false_ne_true
  | some a => exact inter_of_covers (covers_union_left a b) h

theorem inter_union_right (a b q : Env) (h : inter b q = true) : inter (union a b) q = true := by
  cases b with
  | none => cases a <;> exact absurd h Bool.false_ne_true
  | some b => exact inter_of_covers (covers_union_right a b) h

/-- two well-formed boxes intersect (in the code's sense) iff they share a point -/
theorem inter_iff_common_point (a q : Box) (ha : a.minx ≤ a.maxx ∧ a.miny ≤ a.maxy)
    (hq : q.minx ≤ q.maxx ∧ q.miny ≤ q.maxy) :
    inter (some a) (some q) = true ↔ ∃ x y, containsPt (some a) x y = true ∧ containsPt (some q) x y = true := by
  simp only [inter, containsPt, Bool.and_eq_true, decide_eq_true_eq]
  constructor
  · intro h
    refine ⟨max a.minx q.minx, max a.miny q.miny, ?_, ?_⟩ <;> omega
  · rintro ⟨x, y, h1, h2⟩
    omega

theorem inter_comm (a q : Env) : inter a q = inter q a := by
  cases a <;> cases q <;> simp only [inter, ge_iff_le, Bool.and_comm, Bool.and_left_comm, Bool.and_assoc]

theorem inter_self (a : Box) (ha : a.minx ≤ a.maxx ∧ a.miny ≤ a.maxy) : inter (some a) (some a) = true := by
  simp [inter]; omega

/-! point membership -/

theorem inter_of_common_pt (q b : Env) (x y : Int) (h1 : containsPt q x y = true) (h2 : containsPt b x y = true) :
    inter q b = true := by
  cases q <;> cases b <;> simp_all [containsPt, inter]
  omega

theorem covers_containsPt (p c : Env) (x y : Int) (h : covers p c = true) (hc : containsPt c x y = true) :
    containsPt p x y = true := by
  cases p <;> cases c <;> simp_all [containsPt, covers]
  omega

theorem containsPt_ne_null (b : Env) (x y : Int) (h : containsPt b x y = true) : b.isNull = false := by
  cases b <;> simp_all [containsPt, isNull]

theorem containsPt_union (a b : Env) (x y : Int) (h : containsPt a x y = true ∨ containsPt b x y = true) :
    containsPt (union a b) x y = true := by
  cases a with
  | none => exact h.resolve_left (by simp [containsPt])
  | some a =>
    cases b with
    | none => exact h.resolve_right (by simp [containsPt])
    | some o =>
      simp only [union, containsPt, Bool.and_eq_true, decide_eq_true_eq] at h ⊢
      refine ⟨⟨⟨?_, ?_⟩, ?_⟩, ?_⟩ <;> split <;> omega

/-- an accumulated envelope contains what the start value or any member contains -/
theorem foldl_union (x y : Int) : ∀ (l : List Env) (acc : Env),
    (containsPt acc x y = true ∨ ∃ e ∈ l, containsPt e x y = true) →
    containsPt (l.foldl (fun env b => union env b) acc) x y = true
  | [], _, h => h.resolve_right (fun ⟨_, he, _⟩ => nomatch he)
  | a :: r, acc, h => by
    refine foldl_union x y r _ ?_
    rcases h with h | ⟨e, he, h⟩
    · exact Or.inl (containsPt_union _ _ x y (Or.inl h))
    · rcases List.mem_cons.1 he with rfl | hr
      · exact Or.inl (containsPt_union _ _ x y (Or.inr h))
      · exact Or.inr ⟨e, hr, h⟩

end GeosModel.Env
