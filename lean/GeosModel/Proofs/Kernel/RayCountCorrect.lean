import GeosModel.Model.Kernel.RayCount
import GeosModel.Proofs.Kernel.Basic
/-!
# `RayCrossingCounter` (ported) = `Kernel.locateInRing` on closed rings

Per segment: what `countSegment` reports as on-segment is a true on-segment; every true on-segment is
reported by this segment except when the point is the segment's *first* vertex and the segment goes
down — in a closed ring that vertex is the second vertex of another segment, which reports it.
When nothing is reported, the counter is incremented exactly when `Kernel.crosses` holds.
-/
namespace GeosModel.RayCount
open GeosModel.Kernel

/-- the on-segment report of one `countSegment` call -/
def segOn (p a b : Pt) : Bool := (countSegment p RCC.init a b).onSeg
/-- the crossing-count increment of one `countSegment` call -/
def segInc (p a b : Pt) : Nat := (countSegment p RCC.init a b).count

/-- the tests of `countSegment` do not look at the counter: a call adds what it does to the initial counter -/
theorem countSegment_eq (p : Pt) (st : RCC) (a b : Pt) :
    countSegment p st a b = ⟨st.onSeg || segOn p a b, st.count + segInc p a b⟩ := by
  show _ = (fun r : RCC => (⟨st.onSeg || r.onSeg, st.count + r.count⟩ : RCC)) (countSegment p RCC.init a b)
  unfold countSegment
  simp only [apply_ite (fun r : RCC => (⟨st.onSeg || r.onSeg, st.count + r.count⟩ : RCC)), RCC.init, Bool.or_false,
    Bool.or_true, Nat.add_zero, Nat.zero_add]

/-- a segment whose y-range misses `p.y` leaves the counter unchanged -/
theorem countSegment_off_level (p : Pt) (st : RCC) {a b : Pt} (h : (p.y < a.y ∧ p.y < b.y) ∨ (a.y < p.y ∧ b.y < p.y)) :
    countSegment p st a b = st := by
  have c2 : ¬ (p.x = b.x ∧ p.y = b.y) := fun hc => h.elim (fun h => h.2.ne hc.2) (fun h => h.2.ne' hc.2)
  have c3 : ¬ (a.y = p.y ∧ b.y = p.y) := fun hc => h.elim (fun h => h.2.ne' hc.2) (fun h => h.2.ne hc.2)
  have c5 : ¬ ((a.y > p.y ∧ b.y ≤ p.y) ∨ (b.y > p.y ∧ a.y ≤ p.y)) := by omega
  simp only [countSegment, c2, c3, c5, if_false, ite_self]

/-! ### arithmetic facts -/

/-- the determinant split at the level of `p` -/
theorem det_level (a b p : Pt) : det a b p = (b.x - p.x) * (p.y - a.y) + (a.x - p.x) * (b.y - p.y) := by
  unfold det; ring

/-- both endpoints strictly left of p, edge going up through p's level: the crossing is left of p -/
theorem left_up (p a b : Pt) (h1 : a.x < p.x) (h2 : b.x < p.x) (h3 : a.y ≤ p.y) (h4 : p.y < b.y) :
    det a b p < 0 := by
  rw [det_level]
  exact add_neg_of_nonpos_of_neg (mul_nonpos_of_nonpos_of_nonneg (sub_nonpos.2 h2.le) (sub_nonneg.2 h3))
    (mul_neg_of_neg_of_pos (sub_neg.2 h1) (sub_pos.2 h4))

theorem left_down (p a b : Pt) (h1 : a.x < p.x) (h2 : b.x < p.x) (h3 : b.y ≤ p.y) (h4 : p.y < a.y) :
    0 < det a b p := by
  have := left_up p b a h2 h1 h3 h4
  rw [det_swap12] at this; omega

theorem right_up (p a b : Pt) (h1 : p.x < a.x) (h2 : p.x < b.x) (h3 : a.y ≤ p.y) (h4 : p.y < b.y) :
    0 < det a b p := by
  rw [det_level]
  exact add_pos_of_nonneg_of_pos (mul_nonneg (sub_nonneg.2 h2.le) (sub_nonneg.2 h3)) (mul_pos (sub_pos.2 h1) (sub_pos.2 h4))

theorem right_down (p a b : Pt) (h1 : p.x < a.x) (h2 : p.x < b.x) (h3 : b.y ≤ p.y) (h4 : p.y < a.y) :
    det a b p < 0 := by
  have := right_up p b a h2 h1 h3 h4
  rw [det_swap12] at this; omega

/-- a point of the segment at the level of one endpoint, the other endpoint at another level, is that endpoint -/
theorem on_level_left (a b p : Pt) (hd : det a b p = 0) (hy : p.y = a.y) (hne : b.y ≠ a.y) : p.x = a.x := by
  have e : det a b p = -((b.y - a.y) * (p.x - a.x)) := by unfold det; rw [hy]; ring
  rw [e] at hd
  have : (b.y - a.y) * (p.x - a.x) = 0 := by omega
  rcases Int.mul_eq_zero.mp this with h | h <;> omega

theorem on_level_right (a b p : Pt) (hd : det a b p = 0) (hy : p.y = b.y) (hne : b.y ≠ a.y) : p.x = b.x := by
  have hd' : det b a p = 0 := by rw [det_swap12]; omega
  exact on_level_left b a p hd' hy (fun h => hne h.symm)

/-! ### per segment -/

/-- **the tests of `countSegment`, in order**, and what a call on the initial counter reports in each: both endpoints
strictly left of `p`; `p` is the second vertex; a horizontal segment at the level of `p`; a segment that changes side
of the level of `p` (down or up, half-open); none of these. -/
theorem countSegment_cases (p a b : Pt) :
    (a.x < p.x ∧ b.x < p.x ∧ segOn p a b = false ∧ segInc p a b = 0) ∨
    (p.x = b.x ∧ p.y = b.y ∧ segOn p a b = true) ∨
    (¬ (a.x < p.x ∧ b.x < p.x) ∧ a.y = p.y ∧ b.y = p.y ∧ segInc p a b = 0 ∧
      (segOn p a b = true ↔ min a.x b.x ≤ p.x ∧ p.x ≤ max a.x b.x)) ∨
    (¬ (a.x < p.x ∧ b.x < p.x) ∧ b.y ≤ p.y ∧ p.y < a.y ∧ (segOn p a b = true ↔ det a b p = 0) ∧
      segInc p a b = if det a b p < 0 then 1 else 0) ∨
    (¬ (a.x < p.x ∧ b.x < p.x) ∧ a.y ≤ p.y ∧ p.y < b.y ∧ (segOn p a b = true ↔ det a b p = 0) ∧
      segInc p a b = if 0 < det a b p then 1 else 0) ∨
    (¬ (p.x = b.x ∧ p.y = b.y) ∧ ¬ (a.y = p.y ∧ b.y = p.y) ∧ ¬ (b.y ≤ p.y ∧ p.y < a.y) ∧ ¬ (a.y ≤ p.y ∧ p.y < b.y) ∧
      segOn p a b = false ∧ segInc p a b = 0) := by
  by_cases c1 : a.x < p.x ∧ b.x < p.x
  · have hv : countSegment p RCC.init a b = RCC.init := if_pos c1
    exact Or.inl ⟨c1.1, c1.2, congrArg RCC.onSeg hv, congrArg RCC.count hv⟩
  by_cases c2 : p.x = b.x ∧ p.y = b.y
  · have hv : countSegment p RCC.init a b = ⟨true, 0⟩ := by rw [countSegment, if_neg c1, if_pos c2]; rfl
    exact Or.inr (Or.inl ⟨c2.1, c2.2, congrArg RCC.onSeg hv⟩)
  by_cases c3 : a.y = p.y ∧ b.y = p.y
  · have hv : countSegment p RCC.init a b =
        if min a.x b.x ≤ p.x ∧ p.x ≤ max a.x b.x then ⟨true, 0⟩ else ⟨false, 0⟩ := by
      simp only [countSegment, RCC.init, if_neg c1, if_neg c2, if_pos c3, if_gt_eq_min, if_gt_eq_max, ge_iff_le]
    refine Or.inr (Or.inr (Or.inl ⟨c1, c3.1, c3.2, ?_, ?_⟩))
    · rw [segInc, hv]; split <;> rfl
    · rw [segOn, hv]; split
      exacts [iff_of_true rfl ‹_›, iff_of_false Bool.false_ne_true ‹_›]
  by_cases c5 : (a.y > p.y ∧ b.y ≤ p.y) ∨ (b.y > p.y ∧ a.y ≤ p.y)
  · -- the sign of `orient` is the sign of `det`; a downward edge flips it
    have hs : (0 < orient a b p ↔ 0 < det a b p) ∧ (0 < -orient a b p ↔ det a b p < 0) :=
      ⟨orient_pos, by rw [Int.neg_pos]; exact orient_neg⟩
    have hv : countSegment p RCC.init a b = if det a b p = 0 then ⟨true, 0⟩ else
        if 0 < (if b.y < a.y then -orient a b p else orient a b p) then ⟨false, 1⟩ else ⟨false, 0⟩ := by
      simp only [countSegment, RCC.init, if_neg c1, if_neg c2, if_neg c3, if_pos c5, orient_eq_zero, gt_iff_lt]
    have hon : segOn p a b = true ↔ det a b p = 0 := by
      rw [segOn, hv]
      by_cases hd : det a b p = 0
      · rw [if_pos hd]; exact iff_of_true rfl hd
      · rw [if_neg hd, apply_ite RCC.onSeg, ite_self]; exact iff_of_false Bool.false_ne_true hd
    rcases c5 with ⟨u, v⟩ | ⟨u, v⟩
    · refine Or.inr (Or.inr (Or.inr (Or.inl ⟨c1, v, u, hon, ?_⟩)))
      rw [segInc, hv, if_pos (lt_of_le_of_lt v u)]; simp only [hs.2]
      by_cases hd : det a b p = 0
      · rw [if_pos hd, if_neg (by rw [hd]; exact lt_irrefl 0)]
      · rw [if_neg hd]; split <;> rfl
    · refine Or.inr (Or.inr (Or.inr (Or.inr (Or.inl ⟨c1, v, u, hon, ?_⟩))))
      rw [segInc, hv, if_neg (not_lt.2 (v.trans u.le))]; simp only [hs.1]
      by_cases hd : det a b p = 0
      · rw [if_pos hd, if_neg (by rw [hd]; exact lt_irrefl 0)]
      · rw [if_neg hd]; split <;> rfl
  · have hv : countSegment p RCC.init a b = RCC.init := by rw [countSegment, if_neg c1, if_neg c2, if_neg c3, if_neg c5]
    exact Or.inr (Or.inr (Or.inr (Or.inr (Or.inr ⟨c2, c3, fun h => c5 (Or.inl ⟨h.2, h.1⟩), fun h => c5 (Or.inr ⟨h.2, h.1⟩),
      congrArg RCC.onSeg hv, congrArg RCC.count hv⟩))))

/-- what one call reports: the point lies on the segment — except when it is the segment's *first* vertex and the
segment goes down (in a closed ring that vertex is the second vertex of another segment, which reports it) -/
theorem segOn_iff (p a b : Pt) : segOn p a b = true ↔ onSegment a b p = true ∧ ¬ (p = a ∧ b.y < a.y) := by
  rw [onSegment_iff, inBox_iff, Pt.ext_iff']
  -- a segment that changes side of the level of `p` and is not strictly left of it: on the line means on the segment
  have key : ¬ (a.x < p.x ∧ b.x < p.x) → (a.y > p.y ∧ b.y ≤ p.y) ∨ (b.y > p.y ∧ a.y ≤ p.y) → (det a b p = 0 ↔
      (det a b p = 0 ∧ min a.x b.x ≤ p.x ∧ p.x ≤ max a.x b.x ∧ min a.y b.y ≤ p.y ∧ p.y ≤ max a.y b.y) ∧
        ¬ ((p.x = a.x ∧ p.y = a.y) ∧ b.y < a.y)) := fun c1 c5 => by
    refine ⟨fun hd => ⟨⟨hd, ?_, ?_, ?_⟩, fun h => ?_⟩, fun h => h.1.1⟩
    · -- both endpoints strictly right of `p` would give the determinant a sign
      by_contra hlt
      rw [min_le_iff, not_or, not_le, not_le] at hlt
      rcases c5 with ⟨u, v⟩ | ⟨u, v⟩
      · exact (right_down p a b hlt.1 hlt.2 v u).ne hd
      · exact (right_up p a b hlt.1 hlt.2 v u).ne' hd
    · by_contra hlt
      rw [le_max_iff, not_or, not_le, not_le] at hlt
      exact c1 hlt
    · rcases c5 with ⟨u, v⟩ | ⟨u, v⟩
      · exact ⟨min_le_iff.2 (Or.inr v), le_max_iff.2 (Or.inl u.le)⟩
      · exact ⟨min_le_iff.2 (Or.inl v), le_max_iff.2 (Or.inr u.le)⟩
    · rcases c5 with ⟨u, v⟩ | ⟨u, v⟩
      · exact u.ne h.1.2
      · exact lt_irrefl _ (h.2.trans (by rw [← h.1.2]; exact u))
  rcases countSegment_cases p a b with ⟨l1, l2, hon, -⟩ | ⟨e1, e2, hon⟩ | ⟨-, ha, hb, -, hon⟩ | ⟨c1, v, u, hon, -⟩ |
    ⟨c1, v, u, hon, -⟩ | ⟨c2, c3, nd, nu, hon, -⟩
  · rw [hon]; exact iff_of_false Bool.false_ne_true fun h => not_le.2 (max_lt l1 l2) h.1.2.2.1
  · have hd : det a b p = 0 := by rw [(Pt.ext_iff' p b).2 ⟨e1, e2⟩, det_self23]
    rw [hon]
    refine iff_of_true rfl ⟨⟨hd, ?_⟩, fun h => ?_⟩
    · rw [e1, e2]; exact ⟨min_le_right .., le_max_right .., min_le_right .., le_max_right ..⟩
    · exact absurd h.2 (by rw [← e2, h.1.2]; exact lt_irrefl _)
  · have hd : det a b p = 0 := by unfold det; rw [ha, hb]; ring
    rw [hon]
    simp only [hd, ha, hb, min_self, max_self, le_refl, lt_irrefl, and_false, not_false_eq_true, and_true, true_and]
  · exact hon.trans (key c1 (Or.inl ⟨u, v⟩))
  · exact hon.trans (key c1 (Or.inr ⟨u, v⟩))
  rw [hon]
  refine iff_of_false Bool.false_ne_true ?_
  rintro ⟨⟨hd, -, -, hy1, hy2⟩, hne⟩
  -- `p.y` is the top level of the segment and the segment is not horizontal: `p` is the endpoint at that level
  rcases lt_trichotomy a.y b.y with hab | hab | hab
  · rw [max_eq_right hab.le] at hy2; rw [min_eq_left hab.le] at hy1
    have hb : p.y = b.y := le_antisymm hy2 (not_lt.1 fun h => nu ⟨hy1, h⟩)
    exact c2 ⟨on_level_right a b p hd hb hab.ne', hb⟩
  · rw [hab, max_self] at hy2; rw [hab, min_self] at hy1
    have hb := le_antisymm hy2 hy1
    exact c3 ⟨hab.trans hb.symm, hb.symm⟩
  · rw [max_eq_left hab.le] at hy2; rw [min_eq_right hab.le] at hy1
    have ha : p.y = a.y := le_antisymm hy2 (not_lt.1 fun h => nd ⟨hy1, h⟩)
    exact hne ⟨⟨on_level_left a b p hd ha hab.ne, ha⟩, hab⟩

/-- what is reported is true -/
theorem segOn_sound (p a b : Pt) (h : segOn p a b = true) : onSegment a b p = true := ((segOn_iff p a b).1 h).1

theorem _root_.GeosModel.Kernel.crosses_iff (p a b : Pt) : crosses p a b = true ↔
    (a.y ≤ p.y ∧ p.y < b.y ∧ 0 < det a b p) ∨ (b.y ≤ p.y ∧ p.y < a.y ∧ det a b p < 0) := by
  unfold crosses
  simp only [Bool.and_eq_true, decide_eq_true_eq, gt_iff_lt]
  split_ifs with hu hd
  · rw [decide_eq_true_eq]; omega
  · rw [decide_eq_true_eq]; omega
  · rw [false_iff]; omega

theorem _root_.GeosModel.Kernel.crosses_straddle {p a b : Pt} (h : crosses p a b = true) :
    (a.y ≤ p.y ∧ p.y < b.y) ∨ (b.y ≤ p.y ∧ p.y < a.y) :=
  ((crosses_iff p a b).1 h).imp (fun h => ⟨h.1, h.2.1⟩) (fun h => ⟨h.1, h.2.1⟩)

/-- an edge strictly left of `p` is not counted: its crossing with the level of `p`, if any, is left of `p` -/
theorem _root_.GeosModel.Kernel.not_crosses_left {p a b : Pt} (h1 : a.x < p.x) (h2 : b.x < p.x) : ¬ crosses p a b = true := by
  rw [crosses_iff]
  rintro (⟨u, v, hd⟩ | ⟨u, v, hd⟩)
  · exact lt_asymm hd (left_up p a b h1 h2 u v)
  · exact lt_asymm hd (left_down p a b h1 h2 u v)

/-- when this segment reports nothing, it counts exactly the `Kernel.crosses` crossings -/
theorem segInc_eq (p a b : Pt) (h : segOn p a b = false) :
    segInc p a b = if crosses p a b then 1 else 0 := by
  rcases countSegment_cases p a b with ⟨l1, l2, -, hinc⟩ | ⟨-, -, hon⟩ | ⟨-, ha, hb, hinc, -⟩ | ⟨-, v, u, hon, hinc⟩ |
    ⟨-, v, u, hon, hinc⟩ | ⟨-, -, nd, nu, -, hinc⟩
  · rw [hinc, if_neg (not_crosses_left l1 l2)]
  · rw [hon] at h; cases h
  · rw [hinc, if_neg fun hc => (crosses_straddle hc).elim (fun h => h.2.ne hb.symm) (fun h => h.2.ne ha.symm)]
  · -- downward edge, `det ≠ 0`: counted iff `det < 0`
    rw [hinc]; congr 1; rw [crosses_iff]
    exact propext ⟨fun hd => Or.inr ⟨v, u, hd⟩, fun hc => hc.elim (fun hc => absurd hc.1 (not_le.2 u)) (fun hc => hc.2.2)⟩
  · rw [hinc]; congr 1; rw [crosses_iff]
    exact propext ⟨fun hd => Or.inl ⟨v, u, hd⟩, fun hc => hc.elim (fun hc => hc.2.2) (fun hc => absurd hc.1 (not_le.2 u))⟩
  · rw [hinc, if_neg fun hc => (crosses_straddle hc).elim (fun h => nu h) (fun h => nd h)]

/-! ### the loop -/

theorem locLoop_spec (p : Pt) : ∀ (ring : List Pt) (st : RCC), st.onSeg = false →
    (locLoop p st ring).onSeg = (edges ring).any (fun e => segOn p e.1 e.2) ∧
    ((edges ring).any (fun e => segOn p e.1 e.2) = false →
      (locLoop p st ring).count = st.count + ((edges ring).map (fun e => segInc p e.1 e.2)).sum)
  | [], st, h => by simp [locLoop, edges, h]
  | [_], st, h => by simp [locLoop, edges, h]
  | a :: b :: r, st, h => by
    simp only [locLoop, edges, List.any_cons, List.map_cons, List.sum_cons]
    rw [countSegment_eq, h, Bool.false_or]
    by_cases hs : segOn p a b = true
    · simp [hs]
    · have hs' : segOn p a b = false := by simpa using hs
      simp only [hs', Bool.false_or, Bool.false_eq_true, if_false]
      obtain ⟨h1, h2⟩ := locLoop_spec p (b :: r) ⟨false, st.count + segInc p a b⟩ rfl
      refine ⟨h1, fun hno => ?_⟩
      rw [h2 hno]; simp only; omega

/-! ### closed rings: every first vertex of an edge is the second vertex of an edge -/

theorem edge_first : ∀ (l : List Pt) (a b : Pt), (a, b) ∈ edges l → l.head? = some a ∨ ∃ z, (z, a) ∈ edges l
  | [], _, _, h | [_], _, _, h => nomatch h
  | x :: y :: r, a, b, h => by
    rcases List.mem_cons.1 h with h | h
    · exact Or.inl (congrArg some (Prod.mk.inj h).1.symm)
    · rcases edge_first (y :: r) a b h with h1 | ⟨z, hz⟩
      · exact Or.inr ⟨x, Option.some.inj h1 ▸ List.mem_cons_self ..⟩
      · exact Or.inr ⟨z, List.mem_cons_of_mem _ hz⟩

theorem edge_last : ∀ (l : List Pt) (a : Pt) (e : Pt × Pt), e ∈ edges l → l.getLast? = some a → ∃ z, (z, a) ∈ edges l
  | [], _, _, he, _ | [_], _, _, he, _ => nomatch he
  | [x, _], _, _, _, hl => ⟨x, Option.some.inj hl ▸ List.mem_cons_self ..⟩
  | _ :: y :: w :: r, a, _, _, hl =>
    let ⟨z, hz⟩ := edge_last (y :: w :: r) a (y, w) (List.mem_cons_self ..) (List.getLast?_cons_cons ▸ hl)
    ⟨z, List.mem_cons_of_mem _ hz⟩

/-- on a closed ring the reports of `countSegment` over all segments detect exactly the boundary -/
theorem any_segOn_iff (p : Pt) (ring : List Pt) (hc : Closed ring) :
    (edges ring).any (fun e => segOn p e.1 e.2) = (edges ring).any (fun e => onSegment e.1 e.2 p) := by
  rw [Bool.eq_iff_iff, List.any_eq_true, List.any_eq_true]
  constructor
  · rintro ⟨e, he, h⟩; exact ⟨e, he, segOn_sound p e.1 e.2 h⟩
  · rintro ⟨⟨a, b⟩, he, h⟩
    by_cases hx : p = a ∧ b.y < a.y
    · -- the first vertex of a descending edge is the second vertex of the edge before it (closed ring)
      obtain ⟨rfl, -⟩ := hx
      obtain ⟨z, hz⟩ : ∃ z, (z, p) ∈ edges ring := (edge_first ring p b he).elim
        (fun hh => edge_last ring p _ he (hc ▸ hh)) id
      exact ⟨(z, p), hz, (segOn_iff p z p).2 ⟨onSegment_right z p, fun ⟨h1, h2⟩ => by rw [h1] at h2; exact lt_irrefl _ h2⟩⟩
    · exact ⟨(a, b), he, (segOn_iff p a b).2 ⟨h, hx⟩⟩

theorem sum_segInc (p : Pt) : ∀ (es : List (Pt × Pt)), es.any (fun e => segOn p e.1 e.2) = false →
    (es.map (fun e => segInc p e.1 e.2)).sum = (es.filter (fun e => crosses p e.1 e.2)).length
  | [], _ => by simp
  | e :: es, h => by
    simp only [List.any_cons, Bool.or_eq_false_iff] at h
    have ih := sum_segInc p es h.2
    simp only [List.map_cons, List.sum_cons, ih, segInc_eq p e.1 e.2 h.1, List.filter_cons]
    split
    · rw [List.length_cons, Nat.add_comm]
    · rw [Nat.zero_add]

/-- **the ported `locatePointInRing` is the specification `Kernel.locateInRing`** on every closed ring,
for every point (on the ring or not) -/
theorem locatePointInRing_eq (p : Pt) (ring : List Pt) (hc : Closed ring) :
    locatePointInRing p ring = locateInRing p ring := by
  unfold locatePointInRing getLocation locateInRing
  obtain ⟨h1, h2⟩ := locLoop_spec p ring RCC.init rfl
  rw [h1, any_segOn_iff p ring hc]
  simp only
  cases hb : (edges ring).any (fun e => onSegment e.1 e.2 p)
  · have hno := (any_segOn_iff p ring hc).trans hb
    rw [h2 hno, sum_segInc p _ hno, RCC.init, Nat.zero_add]
  · rfl

end GeosModel.RayCount
