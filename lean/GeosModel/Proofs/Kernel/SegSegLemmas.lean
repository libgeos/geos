import GeosModel.Model.Kernel.SegSeg
import GeosModel.Proofs.Kernel.Basic
/-!
# Geometry of two segments, before `computeIntersect` is looked at

Everything is derived from polynomial identities among the four determinants
`D1 = det p1 p2 q1`, `D2 = det p1 p2 q2`, `D3 = det q1 q2 p1`, `D4 = det q1 q2 p2`
(`det_four`, `det_vec_x`, `det_vec_y`, `det_plucker_x`, `det_plucker_y` in Basic) plus sign reasoning: integer lemmas about
weighted means and proportions; collinear points and boxes; the two envelope tests; crossing segments have intersecting
envelopes (`proper_env`); a point of a line seen from a second line through it (`not_same_of_onSegment`,
`onSegment_of_not_same`), whence the touching case (`touch_of_zero`).
-/
namespace GeosModel.SegSeg
open GeosModel.Kernel

/-- strictly opposite signs -/
def Opp (a b : Int) : Prop := (0 < a ∧ b < 0) ∨ (a < 0 ∧ 0 < b)
/-- the same strict sign -/
def Same (a b : Int) : Prop := (0 < a ∧ 0 < b) ∨ (a < 0 ∧ b < 0)

instance (a b : Int) : Decidable (Opp a b) := by unfold Opp; exact inferInstance
instance (a b : Int) : Decidable (Same a b) := by unfold Same; exact inferInstance

theorem same_neg_iff {a b : Int} : Same (-a) (-b) ↔ Same a b := by unfold Same; omega

/-- a weighted mean with non-negative weights lies between the extremes -/
theorem convex_between {u v a b lo hi : Int} (hu : 0 ≤ u) (hv : 0 ≤ v)
    (ha : lo ≤ a ∧ a ≤ hi) (hb : lo ≤ b ∧ b ≤ hi) :
    lo * (u + v) ≤ u * a + v * b ∧ u * a + v * b ≤ hi * (u + v) := by
  have h1 := Int.mul_le_mul_of_nonneg_left ha.1 hu
  have h2 := Int.mul_le_mul_of_nonneg_left hb.1 hv
  have h3 := Int.mul_le_mul_of_nonneg_left ha.2 hu
  have h4 := Int.mul_le_mul_of_nonneg_left hb.2 hv
  constructor <;> linarith

/-- two weighted means with the same positive total weight: if they are equal, the two ranges meet -/
theorem means_meet {u1 u2 v1 v2 a1 a2 b1 b2 : Int} (hu1 : 0 ≤ u1) (hu2 : 0 ≤ u2) (hv1 : 0 ≤ v1) (hv2 : 0 ≤ v2)
    (hs : u1 + u2 = v1 + v2) (hpos : 0 < u1 + u2) (heq : u1 * a1 + u2 * a2 = v1 * b1 + v2 * b2) :
    ¬ (max a1 a2 < min b1 b2) ∧ ¬ (max b1 b2 < min a1 a2) := by
  have ha := convex_between hu1 hu2 ⟨min_le_left a1 a2, le_max_left a1 a2⟩ ⟨min_le_right a1 a2, le_max_right a1 a2⟩
  have hb := convex_between hv1 hv2 ⟨min_le_left b1 b2, le_max_left b1 b2⟩ ⟨min_le_right b1 b2, le_max_right b1 b2⟩
  rw [← hs] at hb
  refine ⟨fun h => ?_, fun h => ?_⟩ <;> have := Int.mul_lt_mul_of_pos_right h hpos <;> linarith

/-- the 1-D content of "crossing segments have overlapping envelopes": `D1·a2 − D2·a1 = D4·b1 − D3·b2` is such a pair of
means (up to a common sign) -/
theorem ranges_meet {D1 D2 D3 D4 a1 a2 b1 b2 : Int} (h12 : Opp D1 D2) (h34 : Opp D3 D4) (hf : D1 - D2 = D4 - D3)
    (hv : D1 * a2 - D2 * a1 + D3 * b2 - D4 * b1 = 0) :
    ¬ (max a1 a2 < min b1 b2) ∧ ¬ (max b1 b2 < min a1 a2) := by
  unfold Opp at h12 h34
  rcases h12 with ⟨h1, h2⟩ | ⟨h1, h2⟩
  · exact means_meet (u1 := -D2) (u2 := D1) (v1 := D4) (v2 := -D3) (by omega) (by omega) (by omega) (by omega) (by omega)
      (by omega) (by linarith)
  · exact means_meet (u1 := D2) (u2 := -D1) (v1 := -D4) (v2 := D3) (by omega) (by omega) (by omega) (by omega) (by omega)
      (by omega) (by linarith)

/-- `d1·A = d2·B`: then `(d1·d2)·(A·B)` is the square of either side, so if it is not positive both sides vanish -/
theorem mul_eq_zero_of_prop {d1 d2 A B : Int} (h : d1 * A = d2 * B) (hle : (d1 * d2) * (A * B) ≤ 0) :
    d1 * A = 0 ∧ d2 * B = 0 := by
  have e : (d1 * d2) * (A * B) = (d1 * A) * (d1 * A) := by
    rw [show (d1 * d2) * (A * B) = (d1 * A) * (d2 * B) by ring, h]
  have h0 : d1 * A = 0 := mul_self_eq_zero.mp (Int.le_antisymm (e ▸ hle) (mul_self_nonneg _))
  exact ⟨h0, h ▸ h0⟩

/-- `d1·A = d2·B` with `d1, d2` of the same strict sign and `A`, `B` of weakly opposite signs: both vanish -/
theorem opp_zero {d1 d2 A B : Int} (hd : Same d1 d2) (h : d1 * A = d2 * B)
    (hAB : (A ≤ 0 ∧ 0 ≤ B) ∨ (0 ≤ A ∧ B ≤ 0)) : A = 0 ∧ B = 0 := by
  have hd' : 0 < d1 * d2 := mul_pos_iff.mpr hd
  have hAB' : A * B ≤ 0 := mul_nonpos_iff.mpr (by omega)
  obtain ⟨h1, h2⟩ := mul_eq_zero_of_prop h (mul_nonpos_of_nonneg_of_nonpos hd'.le hAB')
  have hne : d1 ≠ 0 ∧ d2 ≠ 0 := by unfold Same at hd; omega
  exact ⟨(mul_eq_zero.mp h1).resolve_left hne.1, (mul_eq_zero.mp h2).resolve_left hne.2⟩

/-- `d3·A = d4·B` with `d3, d4` not of the same strict sign and not both zero: `A`, `B` have weakly opposite signs -/
theorem weights_between {d3 d4 A B : Int} (h : d3 * A = d4 * B) (hs : ¬ Same d3 d4) (hnz : ¬ (d3 = 0 ∧ d4 = 0)) :
    (A ≤ 0 ∧ 0 ≤ B) ∨ (0 ≤ A ∧ B ≤ 0) := by
  have hd : d3 * d4 ≤ 0 := not_lt.mp (mt mul_pos_iff.mp hs)
  by_contra hcon
  have hAB : 0 < A * B := mul_pos_iff.mpr (by omega)
  obtain ⟨h1, h2⟩ := mul_eq_zero_of_prop h (mul_nonpos_of_nonpos_of_nonneg hd hAB.le)
  have hne : A ≠ 0 ∧ B ≠ 0 := by omega
  exact hnz ⟨(mul_eq_zero.mp h1).resolve_right hne.1, (mul_eq_zero.mp h2).resolve_right hne.2⟩

/-- `A·u = t·v` with `0 ≤ t ≤ A`, `0 < A`: `u` lies between `0` and `v` -/
theorem frac_between {A t u v : Int} (hA : 0 < A) (ht0 : 0 ≤ t) (htA : t ≤ A) (h : A * u = t * v) :
    (0 ≤ u ∧ u ≤ v) ∨ (v ≤ u ∧ u ≤ 0) := by
  have pos : ∀ {u v : Int}, 0 ≤ v → A * u = t * v → 0 ≤ u ∧ u ≤ v := fun hv h =>
    ⟨nonneg_of_mul_nonneg_right (h ▸ mul_nonneg ht0 hv) hA,
     le_of_mul_le_mul_left (h ▸ Int.mul_le_mul_of_nonneg_right htA hv) hA⟩
  rcases Int.le_total 0 v with hv | hv
  · exact Or.inl (pos hv h)
  · have := pos (u := -u) (v := -v) (by omega) (by rw [mul_neg, mul_neg, h])
    omega

/-- `q1` within the range of `p1, p2` and `q2` outside: `q1 ≠ q2` and one of `p1`, `p2` is within the range of `q1, q2` -/
theorem exit_range {p1 p2 q1 q2 : Int} (h1 : min p1 p2 ≤ q1) (h2 : q1 ≤ max p1 p2)
    (hout : q2 < min p1 p2 ∨ max p1 p2 < q2) :
    q1 ≠ q2 ∧ ((min q1 q2 ≤ p1 ∧ p1 ≤ max q1 q2) ∨ (min q1 q2 ≤ p2 ∧ p2 ≤ max q1 q2)) := by
  omega

/-! ### collinear points: in the x-range (of a non-vertical segment) means in the box -/

/-- a point of the line through two points with different abscissae: between them in `x` means between them in `y` -/
theorem between_of_slope {ax bx cx ay by' cy : Int} (hd : (bx - ax) * (cy - ay) = (cx - ax) * (by' - ay))
    (hab : ax ≠ bx) (hx : min ax bx ≤ cx ∧ cx ≤ max ax bx) : min ay by' ≤ cy ∧ cy ≤ max ay by' := by
  rcases Int.lt_or_gt_of_ne hab with hlt | hgt
  · rw [min_eq_left hlt.le, max_eq_right hlt.le] at hx
    have := frac_between (A := bx - ax) (t := cx - ax) (by omega) (by omega) (by omega) hd
    omega
  · rw [min_eq_right hgt.le, max_eq_left hgt.le] at hx
    have := frac_between (A := ax - bx) (t := cx - bx) (u := cy - by') (v := ay - by') (by omega) (by omega) (by omega)
      (by linarith)
    omega

theorem between_of_x {a b c : Pt} (hd : det a b c = 0) (hab : a.x ≠ b.x)
    (hx : min a.x b.x ≤ c.x ∧ c.x ≤ max a.x b.x) : inBox a b c = true :=
  (inBox_iff a b c).mpr ⟨hx.1, hx.2, between_of_slope (by unfold det at hd; linarith) hab hx⟩

theorem between_of_y {a b c : Pt} (hd : det a b c = 0) (hab : a.y ≠ b.y)
    (hy : min a.y b.y ≤ c.y ∧ c.y ≤ max a.y b.y) : inBox a b c = true :=
  have := between_of_slope (by unfold det at hd; linarith) hab hy
  (inBox_iff a b c).mpr ⟨this.1, this.2, hy⟩

theorem envPt_eq_inBox (a b p : Pt) : envPt a b p = inBox a b p := by
  unfold envPt inBox
  simp only [if_lt_eq_min, if_gt_eq_max, ge_iff_le]

theorem envIntersects_iff (p1 p2 q1 q2 : Pt) :
    envIntersects p1 p2 q1 q2 = true ↔
      ¬ (max q1.x q2.x < min p1.x p2.x) ∧ ¬ (max p1.x p2.x < min q1.x q2.x) ∧
      ¬ (max q1.y q2.y < min p1.y p2.y) ∧ ¬ (max p1.y p2.y < min q1.y q2.y) := by
  unfold envIntersects
  simp only [if_false_else_iff, gt_iff_lt, and_true]

/-! ### signs of the four determinants -/

theorem sign_mul_neg_iff (a b : Int) : a.sign * b.sign < 0 ↔ Opp a b := by
  rw [← Int.sign_mul, Int.sign_neg_iff]; exact mul_neg_iff

theorem opp_of_not_same {a b : Int} (ha : a ≠ 0) (hb : b ≠ 0)
    (h : ¬ ((0 < a ∧ 0 < b) ∨ (a < 0 ∧ b < 0))) : Opp a b := by
  unfold Opp; omega

theorem opp_pair {D1 D2 D3 D4 : Int} (h12 : ¬ Same D1 D2) (h34 : ¬ Same D3 D4)
    (hz : ¬ (D1 = 0 ∨ D2 = 0 ∨ D3 = 0 ∨ D4 = 0)) : Opp D1 D2 ∧ Opp D3 D4 := by
  unfold Opp; unfold Same at h12 h34; omega

theorem not_opp_of_zero {D1 D2 D3 D4 : Int} (hz : D1 = 0 ∨ D2 = 0 ∨ D3 = 0 ∨ D4 = 0) :
    ¬ (Opp D1 D2 ∧ Opp D3 D4) := by
  unfold Opp; omega

/-- an endpoint on the other line, the four points not collinear: the other segment is not inside this endpoint's line -/
theorem nz_other {D1 D2 D3 D4 : Int} (hf : D1 - D2 = D4 - D3) (hn : ¬ (D1 = 0 ∧ D2 = 0 ∧ D3 = 0 ∧ D4 = 0)) :
    (D1 = 0 ∨ D2 = 0 → ¬ (D3 = 0 ∧ D4 = 0)) ∧ (D3 = 0 ∨ D4 = 0 → ¬ (D1 = 0 ∧ D2 = 0)) := by
  omega

/-! ### crossing segments have intersecting envelopes -/

theorem env_of_inBox {p1 p2 q1 q2 x : Pt} (hp : inBox p1 p2 x = true) (hq : inBox q1 q2 x = true) :
    envIntersects p1 p2 q1 q2 = true := by
  rw [envIntersects_iff]; rw [inBox_iff] at hp hq; omega

theorem proper_env {p1 p2 q1 q2 : Pt} (h12 : Opp (det p1 p2 q1) (det p1 p2 q2))
    (h34 : Opp (det q1 q2 p1) (det q1 q2 p2)) : envIntersects p1 p2 q1 q2 = true := by
  have hf := det_four p1 p2 q1 q2
  have hx := ranges_meet h12 h34 hf (det_vec_x p1 p2 q1 q2)
  have hy := ranges_meet h12 h34 hf (det_vec_y p1 p2 q1 q2)
  exact (envIntersects_iff p1 p2 q1 q2).mpr ⟨hx.1, hx.2, hy.1, hy.2⟩

/-! ### a point of one line against a line through it -/

/-- `c` on the line `ab`, and any line `cd` through it: the distances of `a` and `b` from `cd` are in the ratio of
their offsets from `c` -/
theorem on_line_rel {a b c : Pt} (d : Pt) (h : det a b c = 0) :
    det c d a * (b.x - c.x) = det c d b * (a.x - c.x) ∧ det c d a * (b.y - c.y) = det c d b * (a.y - c.y) := by
  have hx := det_plucker_x c a b d
  have hy := det_plucker_y c a b d
  rw [det_cycle' a b c, h, det_swap23 c d b] at hx hy
  constructor <;> linarith

/-- a point of the segment `ab` does not have `a` and `b` strictly on the same side of a line through it -/
theorem not_same_of_onSegment {a b c : Pt} (d : Pt) (h : onSegment a b c = true) : ¬ Same (det c d a) (det c d b) := by
  intro hs
  rw [onSegment_iff, inBox_iff] at h
  obtain ⟨ex, ey⟩ := on_line_rel d h.1
  have zx := opp_zero hs ex (by omega)
  have zy := opp_zero hs ey (by omega)
  have : a = c := (Pt.ext_iff' _ _).mpr ⟨by omega, by omega⟩
  rw [this, det_self13] at hs
  unfold Same at hs; omega

/-- a point `c` of the line `ab` is on the segment as soon as some line through `c` has `a` and `b` not strictly on the
same side and not both on it -/
theorem onSegment_of_not_same {a b c d : Pt} (h : det a b c = 0) (hns : ¬ Same (det c d a) (det c d b))
    (hnz : ¬ (det c d a = 0 ∧ det c d b = 0)) : onSegment a b c = true := by
  rw [onSegment_iff, inBox_iff]
  obtain ⟨ex, ey⟩ := on_line_rel d h
  have bx := weights_between ex hns hnz
  have by' := weights_between ey hns hnz
  exact ⟨h, by omega⟩

/-- the same with the auxiliary line given as `dc` -/
theorem onSegment_of_not_same' {a b c d : Pt} (h : det a b c = 0) (hns : ¬ Same (det d c a) (det d c b))
    (hnz : ¬ (det d c a = 0 ∧ det d c b = 0)) : onSegment a b c = true :=
  onSegment_of_not_same (d := d) h (by rwa [det_swap12 d c, det_swap12 d c, same_neg_iff])
    (by rwa [det_swap12 d c, det_swap12 d c, neg_eq_zero, neg_eq_zero])

/-- neither segment strictly on one side of the other, the four points not collinear, some determinant zero (the endpoint branch
of `computeIntersect`): an endpoint lies on the other segment -/
theorem touch_of_zero {p1 p2 q1 q2 : Pt} (hns1 : ¬ Same (det p1 p2 q1) (det p1 p2 q2)) (hns2 : ¬ Same (det q1 q2 p1) (det q1 q2 p2))
    (hncol : ¬ (det p1 p2 q1 = 0 ∧ det p1 p2 q2 = 0 ∧ det q1 q2 p1 = 0 ∧ det q1 q2 p2 = 0))
    (hz : det p1 p2 q1 = 0 ∨ det p1 p2 q2 = 0 ∨ det q1 q2 p1 = 0 ∨ det q1 q2 p2 = 0) :
    onSegment p1 p2 q1 = true ∨ onSegment p1 p2 q2 = true ∨ onSegment q1 q2 p1 = true ∨ onSegment q1 q2 p2 = true := by
  obtain ⟨n34, n12⟩ := nz_other (det_four p1 p2 q1 q2) hncol
  rcases hz with h | h | h | h
  · exact Or.inl (onSegment_of_not_same h hns2 (n34 (Or.inl h)))
  · exact Or.inr (Or.inl (onSegment_of_not_same' h hns2 (n34 (Or.inr h))))
  · exact Or.inr (Or.inr (Or.inl (onSegment_of_not_same h hns1 (n12 (Or.inl h)))))
  · exact Or.inr (Or.inr (Or.inr (onSegment_of_not_same' h hns1 (n12 (Or.inr h)))))

end GeosModel.SegSeg
