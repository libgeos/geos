import GeosModel.Model.Kernel.PolyLocate
import GeosModel.Proofs.Kernel.RayCountCorrect
/-!
# `locatePointInSurface` (ported) = `Kernel.locateInPolygon`

Two facts carry the proof.  (1) The envelope rejects are sound: a point outside the bounding box of a *closed*
ring is EXTERIOR by the even–odd specification — no segment can contain it, and the edges crossing its ray
are none (box to the left, above or below) or all the edges that change side of the ray's level, an even
number in a closed ring (box to the right).  (2) The early exits of the hole loop agree with the
specification's "BOUNDARY of any hole, else INTERIOR of any hole" unless the point is interior to one hole
and on the boundary of another, which valid polygons exclude.
-/
namespace GeosModel.PolyLocate
open GeosModel.Kernel GeosModel.RayCount

/-- `p.y < v.y` -/
def above (p v : Pt) : Bool := decide (p.y < v.y)

/-- the edge changes side of the level of `p` (half-open) -/
def straddles (p : Pt) (e : Pt × Pt) : Bool := above p e.1 != above p e.2

/-- along any vertex chain the number of level changes has the parity of "first and last on different sides" -/
theorem straddle_parity (p : Pt) : ∀ (l : List Pt) (a z : Pt), l.head? = some a → l.getLast? = some z →
    ((edges l).filter (straddles p)).length % 2 = if above p a != above p z then 1 else 0
  | [], a, z, h, _ => by simp at h
  | [x], a, z, h1, h2 => by
    simp at h1 h2; subst h1; subst h2; simp [edges]
  | x :: y :: r, a, z, h1, h2 => by
    simp at h1; subst h1
    have hl : (y :: r).getLast? = some z := by simpa [List.getLast?_cons_cons] using h2
    have ih := straddle_parity p (y :: r) y z rfl hl
    have hs : straddles p (x, y) = (above p x != above p y) := rfl
    simp only [edges, List.filter_cons, hs]
    -- the edge `(x, y)` is counted exactly when `x`, `y` lie on different sides: it flips the parity of the rest
    cases hx : above p x <;> cases hy : above p y <;> cases hz : above p z <;>
      simp_all [Nat.succ_mod_two_eq_zero_iff, Nat.succ_mod_two_eq_one_iff]

theorem straddle_even_closed (p : Pt) (ring : List Pt) (hc : Closed ring) :
    ((edges ring).filter (straddles p)).length % 2 = 0 := by
  cases ring with
  | nil => simp [edges]
  | cons a r =>
    unfold Closed at hc
    have h2 : (a :: r).getLast? = some a := by rw [← hc]; rfl
    have := straddle_parity p (a :: r) a a rfl h2
    simpa using this

theorem straddles_iff (p a b : Pt) : straddles p (a, b) = true ↔
    (a.y ≤ p.y ∧ p.y < b.y) ∨ (b.y ≤ p.y ∧ p.y < a.y) := by
  simp only [straddles, above, bne_iff_ne, ne_eq, decide_eq_decide]
  omega

theorem outside_env_side (p : Pt) (l : List Pt) (h : envContains l p = false) :
    (∀ v ∈ l, p.x < v.x) ∨ (∀ v ∈ l, v.x < p.x) ∨ (∀ v ∈ l, p.y < v.y) ∨ (∀ v ∈ l, v.y < p.y) := by
  simpa only [envContains, Bool.and_eq_false_iff, List.any_eq_false, decide_eq_true_eq, not_le, or_assoc] using h

/-- outside the envelope of a chain no segment of the chain contains the point, and no vertex is the point -/
theorem outside_env_off (p : Pt) (l : List Pt) (h : envContains l p = false) :
    (edges l).any (fun e => onSegment e.1 e.2 p) = false ∧ ∀ v ∈ l, v ≠ p := by
  have hside := outside_env_side p l h
  constructor
  · rw [List.any_eq_false]
    intro e he hs
    obtain ⟨m1, m2⟩ := edges_mem l e he
    obtain ⟨hx1, hx2, hy1, hy2⟩ := (inBox_iff e.1 e.2 p).1 ((onSegment_iff _ _ _).1 hs).2
    rcases hside with hs' | hs' | hs' | hs'
    · exact not_le.2 (lt_min (hs' _ m1) (hs' _ m2)) hx1
    · exact not_le.2 (max_lt (hs' _ m1) (hs' _ m2)) hx2
    · exact not_le.2 (lt_min (hs' _ m1) (hs' _ m2)) hy1
    · exact not_le.2 (max_lt (hs' _ m1) (hs' _ m2)) hy2
  · rintro v hv rfl
    rcases hside with hs' | hs' | hs' | hs' <;> exact lt_irrefl _ (hs' _ hv)

/-- **envelope reject is sound**: outside the bounding box of a closed ring the specification says EXTERIOR -/
theorem outside_env_exterior (p : Pt) (ring : List Pt) (hc : Closed ring) (h : envContains ring p = false) :
    locateInRing p ring = .exterior := by
  have hside := outside_env_side p ring h
  have hon := (outside_env_off p ring h).1
  have hnone : (∀ e ∈ edges ring, ¬ crosses p e.1 e.2 = true) →
      ((edges ring).filter (fun e => crosses p e.1 e.2)).length % 2 = 0 := fun hn => by
    rw [List.filter_eq_nil_iff.2 hn]; rfl
  have hpar : ((edges ring).filter (fun e => crosses p e.1 e.2)).length % 2 = 0 := by
    rcases hside with hs' | hs' | hs' | hs'
    · -- box strictly to the right: every level change is a crossing
      have : (edges ring).filter (fun e => crosses p e.1 e.2) = (edges ring).filter (straddles p) := by
        apply List.filter_congr
        intro e he
        obtain ⟨m1, m2⟩ := edges_mem ring e he
        rw [Bool.eq_iff_iff, show straddles p e = straddles p (e.1, e.2) from rfl, straddles_iff]
        refine ⟨crosses_straddle, fun hs => (crosses_iff p e.1 e.2).2 (hs.imp ?_ ?_)⟩
        · exact fun ⟨a1, a2⟩ => ⟨a1, a2, right_up p e.1 e.2 (hs' _ m1) (hs' _ m2) a1 a2⟩
        · exact fun ⟨a1, a2⟩ => ⟨a1, a2, right_down p e.1 e.2 (hs' _ m1) (hs' _ m2) a1 a2⟩
      rw [this]; exact straddle_even_closed p ring hc
    · -- box strictly to the left: no crossing
      exact hnone fun e he => not_crosses_left (hs' _ (edges_mem ring e he).1) (hs' _ (edges_mem ring e he).2)
    -- box above or below: no edge reaches the level of `p`
    all_goals
      refine hnone fun e he hc => ?_
      obtain ⟨m1, m2⟩ := edges_mem ring e he
      have y1 := hs' _ m1; have y2 := hs' _ m2
      have := crosses_straddle hc
      omega
  unfold locateInRing
  simp [hon, hpar]

theorem locateInRing_boundary_iff (p : Pt) (r : List Pt) :
    locateInRing p r = .boundary ↔ (edges r).any (fun e => onSegment e.1 e.2 p) = true := by
  unfold locateInRing
  by_cases h : (edges r).any (fun e => onSegment e.1 e.2 p) = true
  · simp [h]
  · simp only [h, Bool.false_eq_true, if_false, iff_false]
    split <;> simp

/-- crossing number of one ring -/
def crossCount (p : Pt) (r : List Pt) : Nat := ((edges r).filter (fun e => crosses p e.1 e.2)).length

theorem locateInRing_off (p : Pt) (r : List Pt) (h : (edges r).any (fun e => onSegment e.1 e.2 p) = false) :
    locateInRing p r = if crossCount p r % 2 = 1 then .interior else .exterior := by
  unfold locateInRing crossCount
  simp only [h, Bool.false_eq_true, if_false]
  split <;> simp_all

/-- no point is interior to one hole and on the boundary of another (true of every valid polygon) -/
def HolesSeparateAt (p : Pt) (holes : List (List Pt)) : Prop :=
  ∀ h1 ∈ holes, ∀ h2 ∈ holes, locateInRing p h1 = .interior → locateInRing p h2 ≠ .boundary

/-- an envelope shortcut never changes an answer: what is returned outside the envelope is what the ring test
would have led to -/
theorem env_shortcut {α} (p : Pt) {r : List Pt} (hc : Closed r) {x y : α} (h : locateInRing p r = .exterior → x = y) :
    (if envContains r p then x else y) = x := by
  cases he : envContains r p
  · exact (h (outside_env_exterior p r hc he)).symm
  · rfl

/-- the same with the test spelled `!envContains`, as two of the ports do -/
theorem env_shortcut_not {α} (p : Pt) {r : List Pt} (hc : Closed r) {x y : α} (h : locateInRing p r = .exterior → x = y) :
    (if !envContains r p then y else x) = x :=
  (show (if !envContains r p then y else x) = if envContains r p then x else y by cases envContains r p <;> rfl).trans
    (env_shortcut p hc h)

theorem holesLoop_eq (p : Pt) : ∀ (holes : List (List Pt)), (∀ h ∈ holes, Closed h) → HolesSeparateAt p holes →
    holesLoop p holes =
      if holes.any (fun h => locateInRing p h == .boundary) then .boundary
      else if holes.any (fun h => locateInRing p h == .interior) then .exterior else .interior
  | [], _, _ => rfl
  | h :: hs, hc, hsep => by
    have hch : Closed h := hc h (List.mem_cons_self ..)
    have ih := holesLoop_eq p hs (fun h' m => hc h' (List.mem_cons_of_mem _ m))
      fun a ma b mb => hsep a (List.mem_cons_of_mem _ ma) b (List.mem_cons_of_mem _ mb)
    rw [holesLoop, locatePointInRing_eq p h hch, env_shortcut p hch fun hl => by rw [hl]]
    cases hl : locateInRing p h with
    | boundary => simp [hl]
    | exterior => simp [hl, ih]
    | interior =>
      -- no other hole has p on its boundary
      have hnb : hs.any (fun h' => locateInRing p h' == .boundary) = false := List.any_eq_false.2 fun h' m hb =>
        hsep h (List.mem_cons_self ..) h' (List.mem_cons_of_mem _ m) hl (by simpa using hb)
      simp [hl, hnb]

/-- **the ported `locatePointInSurface` is the specification `Kernel.locateInPolygon`** for every polygon whose rings
are closed and every point at which the holes are separate -/
theorem locatePointInPolygon_eq (p : Pt) (rings : List (List Pt)) (hc : ∀ r ∈ rings, Closed r)
    (hsep : HolesSeparateAt p rings.tail) :
    locatePointInPolygon p rings = locateInPolygon p rings := by
  cases rings with
  | nil => rfl
  | cons shell holes =>
    have hcs : Closed shell := hc shell (List.mem_cons_self ..)
    rw [locatePointInPolygon, locateInPolygon, locatePointInRing_eq p shell hcs,
      env_shortcut_not p hcs fun hl => by rw [hl]]
    cases locateInRing p shell with
    | interior => simpa using holesLoop_eq p holes (fun h m => hc h (List.mem_cons_of_mem _ m)) hsep
    | _ => rfl

end GeosModel.PolyLocate
