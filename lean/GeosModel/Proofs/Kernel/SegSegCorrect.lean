import GeosModel.Proofs.Kernel.SegSegLemmas
/-!
# `computeIntersect` (ported) = `Kernel.segRel`

`classify_eq_segRel`: for all `Int` segments (degenerate ones included) the meaning of the ported
`LineIntersector::computeIntersect` result is the specification `Kernel.segRel`.

Both sides are first read as a chain of tests on the four determinants (`segRel_det`, `computeIntersect_eq`); then one lemma
per test: envelope reject (`segRel_disjoint_of_not_env`), one segment strictly on one side (`same_side_disjoint`), the collinear
branch through the shapes of its result (`computeCollinearIntersection_cases`, `collinear_classify`), the endpoint branch
(`touch_of_zero` of SegSegLemmas).  After the main theorem: `isProper`, the reported points, the raw result code, and the exact
point of a proper crossing.
-/
namespace GeosModel.SegSeg
open GeosModel.Kernel

variable {p1 p2 q1 q2 : Pt}

/-- the collinear branch of `segRel` -/
def specCol (p1 p2 q1 q2 : Pt) : SegRel :=
  if segCands p1 p2 q1 q2 = [] then .disjoint
  else if ∃ a ∈ segCands p1 p2 q1 q2, ∃ b ∈ segCands p1 p2 q1 q2, a ≠ b then .overlap
  else .point false

theorem specCol_disjoint (h : ∀ y, y ∉ segCands p1 p2 q1 q2) :
    specCol p1 p2 q1 q2 = .disjoint :=
  if_pos (List.eq_nil_iff_forall_not_mem.mpr h)

/-- two candidates decide: distinct ones make an overlap, equal ones a point unless a third candidate differs -/
theorem specCol_pair {x y : Pt} (hx : x ∈ segCands p1 p2 q1 q2) (hy : y ∈ segCands p1 p2 q1 q2)
    (hall : x = y → ∀ z ∈ segCands p1 p2 q1 q2, z = x) :
    specCol p1 p2 q1 q2 = if x = y then .point false else .overlap := by
  unfold specCol
  rw [if_neg (List.ne_nil_of_mem hx)]
  by_cases e : x = y
  · rw [if_pos e, if_neg]
    rintro ⟨a, ha, b, hb, hab⟩
    exact hab ((hall e a ha).trans (hall e b hb).symm)
  · rw [if_neg e, if_pos ⟨x, hx, y, hy, e⟩]

/-- `segRel` in terms of the four determinants -/
theorem segRel_det (p1 p2 q1 q2 : Pt) :
    segRel p1 p2 q1 q2 =
      if Opp (det p1 p2 q1) (det p1 p2 q2) ∧ Opp (det q1 q2 p1) (det q1 q2 p2) then .point true
      else if det p1 p2 q1 = 0 ∧ det p1 p2 q2 = 0 ∧ det q1 q2 p1 = 0 ∧ det q1 q2 p2 = 0 then specCol p1 p2 q1 q2
      else if onSegment p1 p2 q1 = true ∨ onSegment p1 p2 q2 = true ∨
          onSegment q1 q2 p1 = true ∨ onSegment q1 q2 p2 = true then .point false
      else .disjoint := by
  rw [segRel_eq]
  have e1 : ∀ a b c d : Pt, orient a b c * orient a b d < 0 ↔ Opp (det a b c) (det a b d) :=
    fun a b c d => sign_mul_neg_iff _ _
  have e2 : ∀ a b c : Pt, (det a b c = 0 ∧ onSegment a b c = true) ↔ onSegment a b c = true :=
    fun a b c => ⟨fun h => h.2, fun h => ⟨((onSegment_iff a b c).mp h).1, h⟩⟩
  simp only [e1, orient_eq_zero, e2, specCol]

/-! ### the branches of `computeIntersect` -/

/-- the point copied in the endpoint branch -/
def endpointChoice (p1 p2 q1 q2 : Pt) : Pt :=
  if p1 = q1 then p1
  else if p1 = q2 then p1
  else if p2 = q1 then p2
  else if p2 = q2 then p2
  else if orient p1 p2 q1 = 0 then q1
  else if orient p1 p2 q2 = 0 then q2
  else if orient q1 q2 p1 = 0 then p1
  else p2

/-- `computeIntersect` with its tests read as conditions on the four determinants -/
theorem computeIntersect_eq (p1 p2 q1 q2 : Pt) :
    computeIntersect p1 p2 q1 q2 =
      if envIntersects p1 p2 q1 q2 = false then LI.none
      else if Same (det p1 p2 q1) (det p1 p2 q2) then LI.none
      else if Same (det q1 q2 p1) (det q1 q2 p2) then LI.none
      else if det p1 p2 q1 = 0 ∧ det p1 p2 q2 = 0 ∧ det q1 q2 p1 = 0 ∧ det q1 q2 p2 = 0 then
        computeCollinearIntersection p1 p2 q1 q2
      else if det p1 p2 q1 = 0 ∨ det p1 p2 q2 = 0 ∨ det q1 q2 p1 = 0 ∨ det q1 q2 p2 = 0 then
        ⟨1, false, [endpointChoice p1 p2 q1 q2], Option.none⟩
      else ⟨1, true, [], some (intersectionRat p1 p2 q1 q2)⟩ := by
  unfold computeIntersect endpointChoice Same
  simp only [gt_iff_lt, orient_pos, orient_neg, orient_eq_zero, Bool.not_eq_true']

theorem computeIntersect_cases (p1 p2 q1 q2 : Pt) :
    computeIntersect p1 p2 q1 q2 = LI.none ∨
    ((det p1 p2 q1 = 0 ∧ det p1 p2 q2 = 0 ∧ det q1 q2 p1 = 0 ∧ det q1 q2 p2 = 0) ∧
      computeIntersect p1 p2 q1 q2 = computeCollinearIntersection p1 p2 q1 q2) ∨
    (¬ Same (det p1 p2 q1) (det p1 p2 q2) ∧ ¬ Same (det q1 q2 p1) (det q1 q2 p2) ∧
      ¬ (det p1 p2 q1 = 0 ∧ det p1 p2 q2 = 0 ∧ det q1 q2 p1 = 0 ∧ det q1 q2 p2 = 0) ∧
      (det p1 p2 q1 = 0 ∨ det p1 p2 q2 = 0 ∨ det q1 q2 p1 = 0 ∨ det q1 q2 p2 = 0) ∧
      computeIntersect p1 p2 q1 q2 = ⟨1, false, [endpointChoice p1 p2 q1 q2], Option.none⟩) ∨
    (Opp (det p1 p2 q1) (det p1 p2 q2) ∧ Opp (det q1 q2 p1) (det q1 q2 p2) ∧
      computeIntersect p1 p2 q1 q2 = ⟨1, true, [], some (intersectionRat p1 p2 q1 q2)⟩) := by
  -- `r` for the result, so that the chain of tests stands in one place only
  have h := computeIntersect_eq p1 p2 q1 q2
  revert h
  generalize computeIntersect p1 p2 q1 q2 = r
  refine ite_pred (P := fun x => r = x → _) (fun _ e => Or.inl e) fun _ => ?_
  refine ite_pred (P := fun x => r = x → _) (fun _ e => Or.inl e) fun hs1 => ?_
  refine ite_pred (P := fun x => r = x → _) (fun _ e => Or.inl e) fun hs2 => ?_
  refine ite_pred (P := fun x => r = x → _) (fun hcol e => Or.inr (Or.inl ⟨hcol, e⟩)) fun hcol => ?_
  refine ite_pred (P := fun x => r = x → _) (fun hz e => Or.inr (Or.inr (Or.inl ⟨hs1, hs2, hcol, hz, e⟩))) fun hz e => ?_
  exact Or.inr (Or.inr (Or.inr ⟨(opp_pair hs1 hs2 hz).1, (opp_pair hs1 hs2 hz).2, e⟩))

/-! ### envelope reject is sound -/

theorem segCands_common {z : Pt} (hz : z ∈ segCands p1 p2 q1 q2) :
    onSegment p1 p2 z = true ∧ onSegment q1 q2 z = true := by
  rcases (mem_segCands p1 p2 q1 q2 z).mp hz with ⟨rfl | rfl, h⟩ | ⟨rfl | rfl, h⟩
  exacts [⟨h, onSegment_left _ _⟩, ⟨h, onSegment_right _ _⟩, ⟨onSegment_left _ _, h⟩, ⟨onSegment_right _ _, h⟩]

theorem segRel_disjoint_of_not_env (h : envIntersects p1 p2 q1 q2 = false) :
    segRel p1 p2 q1 q2 = .disjoint := by
  have hne : ¬ envIntersects p1 p2 q1 q2 = true := by rw [h]; exact Bool.false_ne_true
  -- a candidate is a common point of the two boxes, and an endpoint on the other segment is a candidate
  have hnil : ∀ z, z ∉ segCands p1 p2 q1 q2 := fun z hz =>
    hne (env_of_inBox ((onSegment_iff _ _ _).mp (segCands_common hz).1).2 ((onSegment_iff _ _ _).mp (segCands_common hz).2).2)
  have mem := mem_segCands p1 p2 q1 q2
  have hC : ¬ (onSegment p1 p2 q1 = true ∨ onSegment p1 p2 q2 = true ∨ onSegment q1 q2 p1 = true ∨ onSegment q1 q2 p2 = true) := by
    rintro (t | t | t | t)
    exacts [hnil _ ((mem q1).mpr (Or.inl ⟨Or.inl rfl, t⟩)), hnil _ ((mem q2).mpr (Or.inl ⟨Or.inr rfl, t⟩)),
      hnil _ ((mem p1).mpr (Or.inr ⟨Or.inl rfl, t⟩)), hnil _ ((mem p2).mpr (Or.inr ⟨Or.inr rfl, t⟩))]
  rw [segRel_det, if_neg (fun a => hne (proper_env a.1 a.2)), if_neg hC, specCol_disjoint hnil, ite_self]

/-! ### both endpoints of one segment strictly on one side of the other line -/

theorem same_side_disjoint (hs : Same (det p1 p2 q1) (det p1 p2 q2)) :
    segRel p1 p2 q1 q2 = .disjoint := by
  have hs' : Same (det p2 p1 q1) (det p2 p1 q2) := by rwa [det_swap12 p1 p2, det_swap12 p1 p2, same_neg_iff]
  have hC : ¬ (onSegment p1 p2 q1 = true ∨ onSegment p1 p2 q2 = true ∨ onSegment q1 q2 p1 = true ∨ onSegment q1 q2 p2 = true) := by
    unfold Same at hs
    rintro (h | h | h | h)
    · have := ((onSegment_iff _ _ _).mp h).1; omega
    · have := ((onSegment_iff _ _ _).mp h).1; omega
    · exact not_same_of_onSegment p2 h hs
    · exact not_same_of_onSegment p1 h hs'
  rw [segRel_det, if_neg (by unfold Opp; unfold Same at hs; omega), if_neg (by unfold Same at hs; omega), if_neg hC]

/-! ### collinear segments -/

/-- four collinear points: if `q1` is in the box of `p`, so is `q2`, or an endpoint of `p` is in the box of `q` -/
theorem collinear_exit (h3 : det q1 q2 p1 = 0) (h4 : det q1 q2 p2 = 0) (hin : inBox p1 p2 q1 = true) :
    inBox p1 p2 q2 = true ∨ inBox q1 q2 p1 = true ∨ inBox q1 q2 p2 = true := by
  by_cases hout : inBox p1 p2 q2 = true
  · exact Or.inl hout
  refine Or.inr ?_
  rw [inBox_iff] at hin hout
  -- in a coordinate where `q2` is outside the range of `p`, the endpoint of `p` next to it is between `q1` and `q2`
  by_cases hx : q2.x < min p1.x p2.x ∨ max p1.x p2.x < q2.x
  · have := exit_range hin.1 hin.2.1 hx
    exact this.2.imp (between_of_x h3 this.1) (between_of_x h4 this.1)
  · have := exit_range (q2 := q2.y) hin.2.2.1 hin.2.2.2 (by omega)
    exact this.2.imp (between_of_y h3 this.1) (between_of_y h4 this.1)

/-- an endpoint of one segment in the bounding box of the other: all that `computeCollinearIntersection` looks at -/
def BoxCand (p1 p2 q1 q2 z : Pt) : Prop :=
  ((z = q1 ∨ z = q2) ∧ inBox p1 p2 z = true) ∨ ((z = p1 ∨ z = p2) ∧ inBox q1 q2 z = true)

theorem boxCand_eq_of_q {p1 p2 q z : Pt} (h : BoxCand p1 p2 q q z) : z = q := by
  rcases h with ⟨h | h, _⟩ | ⟨_, h⟩
  exacts [h, h, (inBox_self_iff q z).mp h]

theorem boxCand_eq_of_p {p q1 q2 z : Pt} (h : BoxCand p p q1 q2 z) : z = p := by
  rcases h with ⟨_, h⟩ | ⟨h | h, _⟩
  exacts [(inBox_self_iff p z).mp h, h, h]

/-- a result that lists two such endpoints `x`, `y`: they coincide only if no third one differs from them; the code is 1
only if they coincide, and 2 for coinciding ones only when they are the two ends of a degenerate segment -/
def PairResult (p1 p2 q1 q2 : Pt) (r : LI) : Prop :=
  ∃ n x y, r = ⟨n, false, [x, y], Option.none⟩ ∧ BoxCand p1 p2 q1 q2 x ∧ BoxCand p1 p2 q1 q2 y ∧
    (x = y → ∀ z, BoxCand p1 p2 q1 q2 z → z = x) ∧ (n = 1 ∧ x = y ∨ n = 2 ∧ (x = y → p1 = p2 ∨ q1 = q2))

theorem pairResult_same {x y : Pt} (hx : BoxCand p1 p2 q1 q2 x) (hy : BoxCand p1 p2 q1 q2 y)
    (hdeg : x = y → (∀ z, BoxCand p1 p2 q1 q2 z → z = x) ∧ (p1 = p2 ∨ q1 = q2)) :
    PairResult p1 p2 q1 q2 ⟨2, false, [x, y], Option.none⟩ :=
  ⟨2, x, y, rfl, hx, hy, fun e => (hdeg e).1, Or.inr ⟨rfl, fun e => (hdeg e).2⟩⟩

theorem pairResult_mixed {x y : Pt} (hx : BoxCand p1 p2 q1 q2 x) (hy : BoxCand p1 p2 q1 q2 y)
    {f1 f2 : Bool} (h1 : ¬ f1 = true) (h2 : ¬ f2 = true) (hall : ∀ z, BoxCand p1 p2 q1 q2 z → z = x ∨ z = y) :
    PairResult p1 p2 q1 q2 ⟨if x = y ∧ (!f1) = true ∧ (!f2) = true then 1 else 2, false, [x, y], Option.none⟩ := by
  rw [Bool.eq_false_iff.mpr h1, Bool.eq_false_iff.mpr h2]
  refine ⟨_, x, y, rfl, hx, hy, fun e z hz => (hall z hz).elim id (fun h => h.trans e.symm), ?_⟩
  by_cases e : x = y
  · exact Or.inl ⟨if_pos ⟨e, rfl, rfl⟩, e⟩
  · exact Or.inr ⟨if_neg fun h => e h.1, fun h => absurd h e⟩

/-- `computeCollinearIntersection` returns nothing when no two of the four endpoints are in the other box, else two of them -/
theorem computeCollinearIntersection_cases (p1 p2 q1 q2 : Pt) :
    (computeCollinearIntersection p1 p2 q1 q2 = LI.none ∧
      ¬ (inBox p1 p2 q1 = true ∧ inBox p1 p2 q2 = true) ∧ ¬ (inBox q1 q2 p1 = true ∧ inBox q1 q2 p2 = true) ∧
      ¬ (inBox p1 p2 q1 = true ∧ inBox q1 q2 p1 = true) ∧ ¬ (inBox p1 p2 q1 = true ∧ inBox q1 q2 p2 = true) ∧
      ¬ (inBox p1 p2 q2 = true ∧ inBox q1 q2 p1 = true) ∧ ¬ (inBox p1 p2 q2 = true ∧ inBox q1 q2 p2 = true)) ∨
    PairResult p1 p2 q1 q2 (computeCollinearIntersection p1 p2 q1 q2) := by
  unfold computeCollinearIntersection
  simp only [envPt_eq_inBox, Bool.and_eq_true]
  by_cases hab : inBox p1 p2 q1 = true ∧ inBox p1 p2 q2 = true
  · rw [if_pos hab]
    exact Or.inr (pairResult_same (Or.inl ⟨Or.inl rfl, hab.1⟩) (Or.inl ⟨Or.inr rfl, hab.2⟩)
      fun e => by subst e; exact ⟨fun z => boxCand_eq_of_q, Or.inr rfl⟩)
  rw [if_neg hab]
  by_cases hcd : inBox q1 q2 p1 = true ∧ inBox q1 q2 p2 = true
  · rw [if_pos hcd]
    exact Or.inr (pairResult_same (Or.inr ⟨Or.inl rfl, hcd.1⟩) (Or.inr ⟨Or.inr rfl, hcd.2⟩)
      fun e => by subst e; exact ⟨fun z => boxCand_eq_of_p, Or.inl rfl⟩)
  rw [if_neg hcd]
  by_cases hac : inBox p1 p2 q1 = true ∧ inBox q1 q2 p1 = true
  · have hb : ¬ inBox p1 p2 q2 = true := fun h => hab ⟨hac.1, h⟩
    have hd : ¬ inBox q1 q2 p2 = true := fun h => hcd ⟨hac.2, h⟩
    rw [if_pos hac]
    refine Or.inr (pairResult_mixed (Or.inl ⟨Or.inl rfl, hac.1⟩) (Or.inr ⟨Or.inl rfl, hac.2⟩) hb hd ?_)
    rintro z (⟨rfl | rfl, h⟩ | ⟨rfl | rfl, h⟩)
    exacts [Or.inl rfl, absurd h hb, Or.inr rfl, absurd h hd]
  rw [if_neg hac]
  by_cases had : inBox p1 p2 q1 = true ∧ inBox q1 q2 p2 = true
  · have hb : ¬ inBox p1 p2 q2 = true := fun h => hab ⟨had.1, h⟩
    have hc : ¬ inBox q1 q2 p1 = true := fun h => hcd ⟨h, had.2⟩
    rw [if_pos had]
    refine Or.inr (pairResult_mixed (Or.inl ⟨Or.inl rfl, had.1⟩) (Or.inr ⟨Or.inr rfl, had.2⟩) hb hc ?_)
    rintro z (⟨rfl | rfl, h⟩ | ⟨rfl | rfl, h⟩)
    exacts [Or.inl rfl, absurd h hb, absurd h hc, Or.inr rfl]
  rw [if_neg had]
  by_cases hbc : inBox p1 p2 q2 = true ∧ inBox q1 q2 p1 = true
  · have ha : ¬ inBox p1 p2 q1 = true := fun h => hab ⟨h, hbc.1⟩
    have hd : ¬ inBox q1 q2 p2 = true := fun h => hcd ⟨hbc.2, h⟩
    rw [if_pos hbc]
    refine Or.inr (pairResult_mixed (Or.inl ⟨Or.inr rfl, hbc.1⟩) (Or.inr ⟨Or.inl rfl, hbc.2⟩) ha hd ?_)
    rintro z (⟨rfl | rfl, h⟩ | ⟨rfl | rfl, h⟩)
    exacts [absurd h ha, Or.inl rfl, Or.inr rfl, absurd h hd]
  rw [if_neg hbc]
  by_cases hbd : inBox p1 p2 q2 = true ∧ inBox q1 q2 p2 = true
  · have ha : ¬ inBox p1 p2 q1 = true := fun h => hab ⟨h, hbd.1⟩
    have hc : ¬ inBox q1 q2 p1 = true := fun h => hcd ⟨h, hbd.2⟩
    rw [if_pos hbd]
    refine Or.inr (pairResult_mixed (Or.inl ⟨Or.inr rfl, hbd.1⟩) (Or.inr ⟨Or.inr rfl, hbd.2⟩) ha hc ?_)
    rintro z (⟨rfl | rfl, h⟩ | ⟨rfl | rfl, h⟩)
    exacts [absurd h ha, Or.inl rfl, absurd h hc, Or.inr rfl]
  rw [if_neg hbd]
  exact Or.inl ⟨rfl, hab, hcd, hac, had, hbc, hbd⟩

theorem collinear_not_proper (p1 p2 q1 q2 : Pt) : (computeCollinearIntersection p1 p2 q1 q2).proper = false := by
  rcases computeCollinearIntersection_cases p1 p2 q1 q2 with ⟨e, _⟩ | ⟨n, x, y, e, _⟩ <;> rw [e] <;> rfl

theorem mem_segCands_collinear (h1 : det p1 p2 q1 = 0) (h2 : det p1 p2 q2 = 0)
    (h3 : det q1 q2 p1 = 0) (h4 : det q1 q2 p2 = 0) (z : Pt) :
    z ∈ segCands p1 p2 q1 q2 ↔ BoxCand p1 p2 q1 q2 z := by
  rw [mem_segCands, BoxCand]
  refine or_congr (and_congr_right ?_) (and_congr_right ?_) <;> rintro (rfl | rfl) <;> rw [onSegment_eq_inBox ‹_›]

theorem classify_pair {n : Nat} {x y : Pt} (hn : n = 1 ∧ x = y ∨ n = 2) :
    LI.classify ⟨n, false, [x, y], Option.none⟩ = if x = y then .point false else .overlap := by
  rcases hn with ⟨rfl, rfl⟩ | rfl
  · exact (if_pos rfl).symm
  · rfl

theorem collinear_classify (h1 : det p1 p2 q1 = 0) (h2 : det p1 p2 q2 = 0)
    (h3 : det q1 q2 p1 = 0) (h4 : det q1 q2 p2 = 0) :
    (computeCollinearIntersection p1 p2 q1 q2).classify = specCol p1 p2 q1 q2 := by
  have mem := mem_segCands_collinear h1 h2 h3 h4
  rcases computeCollinearIntersection_cases p1 p2 q1 q2 with
    ⟨e, hab, hcd, hac, had, hbc, hbd⟩ | ⟨n, x, y, e, hx, hy, hall, hn⟩
  · -- no two endpoints in the other box, and one in brings a second (`collinear_exit`): there is none
    rw [e]
    refine (specCol_disjoint fun z hz => ?_).symm
    have h3' : det q2 q1 p1 = 0 := by rw [det_swap12, h3]; rfl
    have h4' : det q2 q1 p2 = 0 := by rw [det_swap12, h4]; rfl
    have h1' : det p2 p1 q1 = 0 := by rw [det_swap12, h1]; rfl
    have h2' : det p2 p1 q2 = 0 := by rw [det_swap12, h2]; rfl
    rcases (mem z).mp hz with ⟨rfl | rfl, h⟩ | ⟨rfl | rfl, h⟩
    · rcases collinear_exit h3 h4 h with g | g | g
      exacts [hab ⟨h, g⟩, hac ⟨h, g⟩, had ⟨h, g⟩]
    · rcases collinear_exit h3' h4' h with g | g | g
      exacts [hab ⟨g, h⟩, hbc ⟨h, inBox_symm _ _ _ ▸ g⟩, hbd ⟨h, inBox_symm _ _ _ ▸ g⟩]
    · rcases collinear_exit h1 h2 h with g | g | g
      exacts [hcd ⟨h, g⟩, hac ⟨g, h⟩, hbc ⟨g, h⟩]
    · rcases collinear_exit h1' h2' h with g | g | g
      exacts [hcd ⟨g, h⟩, had ⟨inBox_symm _ _ _ ▸ g, h⟩, hbd ⟨inBox_symm _ _ _ ▸ g, h⟩]
  · rw [e, classify_pair (hn.imp_right And.left),
      specCol_pair ((mem x).mpr hx) ((mem y).mpr hy) fun exy z hz => hall exy z ((mem z).mp hz)]

/-- whatever holds of each point under the test that selects it holds of the chosen point -/
theorem endpointChoice_elim {P : Pt → Prop} (a1 : p1 = q1 ∨ p1 = q2 → P p1) (a2 : p2 = q1 ∨ p2 = q2 → P p2)
    (b1 : det p1 p2 q1 = 0 → P q1) (b2 : det p1 p2 q2 = 0 → P q2) (b3 : det q1 q2 p1 = 0 → P p1)
    (b4 : ¬ det p1 p2 q1 = 0 → ¬ det p1 p2 q2 = 0 → ¬ det q1 q2 p1 = 0 → P p2) : P (endpointChoice p1 p2 q1 q2) := by
  unfold endpointChoice
  simp only [orient_eq_zero]
  exact ite_pred (fun e => a1 (Or.inl e)) fun _ => ite_pred (fun e => a1 (Or.inr e)) fun _ =>
    ite_pred (fun e => a2 (Or.inl e)) fun _ => ite_pred (fun e => a2 (Or.inr e)) fun _ =>
    ite_pred b1 fun e5 => ite_pred b2 fun e6 => ite_pred b3 fun e7 => b4 e5 e6 e7

/-- **`computeIntersect` classifies exactly like the specification**, for all `Int` segments -/
theorem classify_eq_segRel (p1 p2 q1 q2 : Pt) :
    (computeIntersect p1 p2 q1 q2).classify = segRel p1 p2 q1 q2 := by
  rw [computeIntersect_eq]
  refine apply_ite_eq _ (fun henv => (segRel_disjoint_of_not_env henv).symm) fun _ => ?_
  refine apply_ite_eq _ (fun hs1 => (same_side_disjoint hs1).symm) fun hs1 => ?_
  refine apply_ite_eq _ (fun hs2 => by rw [← segRel_symm]; exact (same_side_disjoint hs2).symm) fun hs2 => ?_
  refine apply_ite_eq _ (fun hcol => ?_) fun hcol => ?_
  · rw [collinear_classify hcol.1 hcol.2.1 hcol.2.2.1 hcol.2.2.2, segRel_det,
      if_neg (not_opp_of_zero (Or.inl hcol.1)), if_pos hcol]
  refine apply_ite_eq _ (fun hz => ?_) fun hz => ?_
  · rw [segRel_det, if_neg (not_opp_of_zero hz), if_neg hcol, if_pos (touch_of_zero hs1 hs2 hcol hz)]
    rfl
  · rw [segRel_det, if_pos (opp_pair hs1 hs2 hz)]
    rfl

theorem classify_point_true_iff (r : LI) : r.classify = .point true ↔ r.code = 1 ∧ r.proper = true := by
  rcases r with ⟨_ | _ | n, proper, pts, rat⟩
  · simp [LI.classify]
  · simp [LI.classify]
  · -- a code above 1 classifies as `.overlap`, or as `.point false` when the two listed points coincide
    simp only [LI.classify]
    split
    · split <;> simp
    · simp

/-- `isProper` ⇔ the segments cross at a point interior to both -/
theorem proper_iff (p1 p2 q1 q2 : Pt) :
    (computeIntersect p1 p2 q1 q2).proper = true ↔ segRel p1 p2 q1 q2 = .point true := by
  rw [← classify_eq_segRel, classify_point_true_iff]
  refine ⟨fun h => ⟨?_, h⟩, fun h => h.2⟩
  rcases computeIntersect_cases p1 p2 q1 q2 with e | ⟨_, e⟩ | ⟨_, _, _, _, e⟩ | ⟨_, _, e⟩ <;> rw [e] at h ⊢
  · exact absurd h Bool.false_ne_true
  · rw [collinear_not_proper] at h; exact absurd h Bool.false_ne_true

/-- every intersection point that is reported as a copy of an input endpoint lies on both segments -/
theorem reported_common (p1 p2 q1 q2 : Pt) :
    ∀ x ∈ (computeIntersect p1 p2 q1 q2).pts, onSegment p1 p2 x = true ∧ onSegment q1 q2 x = true := by
  rcases computeIntersect_cases p1 p2 q1 q2 with e | ⟨⟨h1, h2, h3, h4⟩, e⟩ | ⟨hns1, hns2, hncol, hz, e⟩ | ⟨_, _, e⟩ <;>
    rw [e] <;> intro z hz'
  · cases hz'
  · -- the collinear branch lists box candidates, and those are candidates of `segRel` here
    have mem := mem_segCands_collinear h1 h2 h3 h4
    rcases computeCollinearIntersection_cases p1 p2 q1 q2 with ⟨e, _⟩ | ⟨n, x, y, e, hx, hy, _⟩ <;> rw [e] at hz'
    · cases hz'
    · simp only [List.mem_cons, List.not_mem_nil, or_false] at hz'
      rcases hz' with rfl | rfl
      exacts [segCands_common ((mem _).mpr hx), segCands_common ((mem _).mpr hy)]
  · -- the endpoint branch: each test of the choice puts the chosen endpoint on the other segment
    rw [List.mem_singleton.mp hz']
    obtain ⟨n34, n12⟩ := nz_other (det_four p1 p2 q1 q2) hncol
    exact endpointChoice_elim (P := fun x => onSegment p1 p2 x = true ∧ onSegment q1 q2 x = true)
      (fun e => ⟨onSegment_left _ _, e.elim (· ▸ onSegment_left _ _) (· ▸ onSegment_right _ _)⟩)
      (fun e => ⟨onSegment_right _ _, e.elim (· ▸ onSegment_left _ _) (· ▸ onSegment_right _ _)⟩)
      (fun e => ⟨onSegment_of_not_same e hns2 (n34 (Or.inl e)), onSegment_left _ _⟩)
      (fun e => ⟨onSegment_of_not_same' e hns2 (n34 (Or.inr e)), onSegment_right _ _⟩)
      (fun e => ⟨onSegment_left _ _, onSegment_of_not_same e hns1 (n12 (Or.inl e))⟩)
      (fun e5 e6 e7 => have e := ((hz.resolve_left e5).resolve_left e6).resolve_left e7
        ⟨onSegment_right _ _, onSegment_of_not_same' e hns1 (n12 (Or.inr e))⟩)
  · cases hz'

/-- the reported points `intPt[0 .. result)` lie on both segments -/
theorem reported_on_both (p1 p2 q1 q2 : Pt) :
    ∀ x ∈ (computeIntersect p1 p2 q1 q2).reported, onSegment p1 p2 x = true ∧ onSegment q1 q2 x = true :=
  fun x hx => reported_common p1 p2 q1 q2 x (List.mem_of_mem_take hx)

/-- for segments of positive length the result code itself (NO / POINT / COLLINEAR) is the specification -/
theorem rawClass_eq_segRel (p1 p2 q1 q2 : Pt) (hp : p1 ≠ p2) (hq : q1 ≠ q2) :
    (computeIntersect p1 p2 q1 q2).rawClass = segRel p1 p2 q1 q2 := by
  rw [← classify_eq_segRel]
  rcases computeIntersect_cases p1 p2 q1 q2 with e | ⟨_, e⟩ | ⟨_, _, _, _, e⟩ | ⟨_, _, e⟩ <;> rw [e]
  · rfl
  · -- a collinear result with code 2 and coinciding points needs a degenerate segment
    rcases computeCollinearIntersection_cases p1 p2 q1 q2 with
      ⟨e, _⟩ | ⟨n, x, y, e, _, _, _, ⟨rfl, rfl⟩ | ⟨rfl, hdeg⟩⟩ <;> rw [e]
    · rfl
    · rfl
    · exact (if_neg fun exy => (hdeg exy).elim hp hq).symm
  · rfl
  · rfl

/-! ### the proper intersection point -/

theorem intersectionRat_w (p1 p2 q1 q2 : Pt) :
    (intersectionRat p1 p2 q1 q2).w = det q1 q2 p1 - det q1 q2 p2 := by
  unfold intersectionRat det; ring
theorem intersectionRat_w' (p1 p2 q1 q2 : Pt) :
    (intersectionRat p1 p2 q1 q2).w = det p1 p2 q2 - det p1 p2 q1 := by
  unfold intersectionRat det; ring
theorem intersectionRat_x (p1 p2 q1 q2 : Pt) :
    (intersectionRat p1 p2 q1 q2).x = det q1 q2 p1 * p2.x + (- det q1 q2 p2) * p1.x := by
  unfold intersectionRat det; ring
theorem intersectionRat_y (p1 p2 q1 q2 : Pt) :
    (intersectionRat p1 p2 q1 q2).y = det q1 q2 p1 * p2.y + (- det q1 q2 p2) * p1.y := by
  unfold intersectionRat det; ring
theorem intersectionRat_x' (p1 p2 q1 q2 : Pt) :
    (intersectionRat p1 p2 q1 q2).x = det p1 p2 q2 * q1.x + (- det p1 p2 q1) * q2.x := by
  unfold intersectionRat det; ring
theorem intersectionRat_y' (p1 p2 q1 q2 : Pt) :
    (intersectionRat p1 p2 q1 q2).y = det p1 p2 q2 * q1.y + (- det p1 p2 q1) * q2.y := by
  unfold intersectionRat det; ring

/-- a point `(u·a + v·b) / (u + v)` with `u`, `v` of the same strict sign lies in the box of `a`, `b` -/
theorem ratInBox_of_weights {r : RatPt} {a b : Pt} {u v : Int} (hw : r.w = u + v)
    (hx : r.x = u * b.x + v * a.x) (hy : r.y = u * b.y + v * a.y)
    (hs : (0 < u ∧ 0 < v) ∨ (u < 0 ∧ v < 0)) : r.inBox a b = true := by
  unfold RatPt.inBox
  simp only [Bool.and_eq_true, decide_eq_true_eq]
  -- multiplied by the sign `s` of `u + v` the weights are non-negative
  generalize hsg : r.w.sign = s
  obtain ⟨hu, hv⟩ : 0 ≤ u * s ∧ 0 ≤ v * s := by
    rw [← hsg, hw]
    rcases hs with ⟨hu, hv⟩ | ⟨hu, hv⟩
    · rw [Int.sign_eq_one_of_pos (by omega)]; omega
    · rw [Int.sign_eq_neg_one_of_neg (by omega)]; omega
  have cx := convex_between hu hv ⟨min_le_right a.x b.x, le_max_right a.x b.x⟩ ⟨min_le_left a.x b.x, le_max_left a.x b.x⟩
  have cy := convex_between hu hv ⟨min_le_right a.y b.y, le_max_right a.y b.y⟩ ⟨min_le_left a.y b.y, le_max_left a.y b.y⟩
  rw [hx, hy, hw]
  refine ⟨⟨⟨?_, ?_⟩, ?_⟩, ?_⟩ <;> linarith

/-- **the exact intersection point of a proper crossing** lies on both lines and in both bounding boxes -/
theorem proper_point (p1 p2 q1 q2 : Pt) (h12 : Opp (det p1 p2 q1) (det p1 p2 q2))
    (h34 : Opp (det q1 q2 p1) (det q1 q2 p2)) :
    (intersectionRat p1 p2 q1 q2).w ≠ 0 ∧
    (intersectionRat p1 p2 q1 q2).inBox p1 p2 = true ∧ (intersectionRat p1 p2 q1 q2).inBox q1 q2 = true ∧
    (intersectionRat p1 p2 q1 q2).onLine p1 p2 = true ∧ (intersectionRat p1 p2 q1 q2).onLine q1 q2 = true := by
  refine ⟨?_, ?_, ?_, ?_, ?_⟩
  · rw [intersectionRat_w]; unfold Opp at h34; omega
  · apply ratInBox_of_weights (u := det q1 q2 p1) (v := - det q1 q2 p2)
      (by rw [intersectionRat_w]; omega) (intersectionRat_x p1 p2 q1 q2) (intersectionRat_y p1 p2 q1 q2)
    unfold Opp at h34; omega
  · apply ratInBox_of_weights (u := - det p1 p2 q1) (v := det p1 p2 q2)
      (by rw [intersectionRat_w']; omega)
      (by rw [intersectionRat_x']; ring) (by rw [intersectionRat_y']; ring)
    unfold Opp at h12; omega
  · unfold RatPt.onLine intersectionRat; simp only [beq_iff_eq]; ring
  · unfold RatPt.onLine intersectionRat; simp only [beq_iff_eq]; ring

end GeosModel.SegSeg
