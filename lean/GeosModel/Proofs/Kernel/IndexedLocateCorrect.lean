import GeosModel.Proofs.Kernel.PolyLocateCorrect
/-!
# `IndexedPointInAreaLocator::locate` (ported) = `Kernel.locateInPolygon`

The counter's final state is (some visited segment reports on-segment, sum of the increments): it does not depend on
the order of the visit; segments whose y-range misses `p.y` contribute nothing, so the interval query loses nothing;
per closed ring the reports are the true on-segment tests and, off the rings, the increments are the crossings.
With every ring's crossings thrown into one counter the answer is the parity of the sum, which is the specification
provided the holes lie inside the shell and at most one hole contains the point — true of valid polygons.
-/
namespace GeosModel.PolyLocate
open GeosModel.Kernel GeosModel.RayCount

/-! ### the counter as (any, sum) -/

theorem foldl_countSegment (p : Pt) : ∀ (es : List (Pt × Pt)) (st : RCC),
    es.foldl (fun st e => countSegment p st e.1 e.2) st =
      ⟨st.onSeg || es.any (fun e => segOn p e.1 e.2), st.count + (es.map (fun e => segInc p e.1 e.2)).sum⟩
  | [], st => by cases st; simp
  | e :: es, st => by
    rw [List.foldl_cons, foldl_countSegment p es, countSegment_eq]
    simp [Bool.or_assoc, Nat.add_assoc]

theorem visit_eq (p : Pt) (es : List (Pt × Pt)) :
    visit p es = ⟨es.any (fun e => segOn p e.1 e.2), (es.map (fun e => segInc p e.1 e.2)).sum⟩ := by
  unfold visit; rw [foldl_countSegment]; simp [RCC.init]

theorem perm_any {α} (f : α → Bool) {l1 l2 : List α} (h : l1.Perm l2) : l1.any f = l2.any f := h.any_eq

/-- the visit order is irrelevant -/
theorem visit_perm (p : Pt) {l1 l2 : List (Pt × Pt)} (h : l1.Perm l2) : visit p l1 = visit p l2 := by
  rw [visit_eq, visit_eq, h.any_eq, (h.map _).sum_nat]

/-! ### the interval query loses nothing -/

theorem visit_filter (p : Pt) (es : List (Pt × Pt)) : visit p (es.filter (inYRange p)) = visit p es :=
  foldl_filter_of_noop _ _ (fun st e he => countSegment_off_level p st (by
    simpa only [inYRange, Bool.and_eq_false_iff, decide_eq_false_iff_not, min_le_iff, le_max_iff, not_or, not_le]
      using he)) es RCC.init

/-! ### all rings in one counter -/

theorem sum_flatMap (g : Pt × Pt → Nat) : ∀ (rings : List (List Pt)),
    ((rings.flatMap edges).map g).sum = (rings.map (fun r => ((edges r).map g).sum)).sum
  | [] => rfl
  | r :: rs => by simp [List.flatMap_cons, sum_flatMap g rs]

/-- no ring passes through `p` -/
def OffRings (p : Pt) (rings : List (List Pt)) : Prop :=
  ∀ r ∈ rings, (edges r).any (fun e => onSegment e.1 e.2 p) = false

theorem any_allSegs (p : Pt) (rings : List (List Pt)) (hc : ∀ r ∈ rings, Closed r) :
    (allSegs rings).any (fun e => segOn p e.1 e.2) = rings.any (fun r => (edges r).any (fun e => onSegment e.1 e.2 p)) := by
  unfold allSegs
  rw [List.any_flatMap]
  induction rings with
  | nil => rfl
  | cons r rs ih =>
    simp only [List.any_cons]
    rw [any_segOn_iff p r (hc r (List.mem_cons_self ..)), ih (fun r' m => hc r' (List.mem_cons_of_mem _ m))]

theorem sum_allSegs (p : Pt) (rings : List (List Pt)) (hc : ∀ r ∈ rings, Closed r) (hoff : OffRings p rings) :
    ((allSegs rings).map (fun e => segInc p e.1 e.2)).sum = (rings.map (crossCount p)).sum := by
  unfold allSegs
  rw [sum_flatMap]
  congr 1
  apply List.map_congr_left
  intro r hr
  apply sum_segInc
  rw [any_segOn_iff p r (hc r hr)]
  exact hoff r hr

/-! ### parity bookkeeping -/

/-- the holes lie in the closed shell, as far as `p` can tell: `p` inside or on a hole is not outside the shell,
and `p` strictly inside a hole is strictly inside the shell -/
def HolesInShellAt (p : Pt) (shell : List Pt) (holes : List (List Pt)) : Prop :=
  ∀ h ∈ holes, (locateInRing p h = .interior → locateInRing p shell = .interior) ∧
               (locateInRing p h = .boundary → locateInRing p shell ≠ .exterior)

/-- `p` is strictly inside at most one hole -/
def AtMostOneHoleAt (p : Pt) (holes : List (List Pt)) : Prop :=
  (holes.filter (fun h => locateInRing p h == .interior)).length ≤ 1

/-- **the ported `IndexedPointInAreaLocator::locate` is the specification**, whatever order the index visits the
segments in -/
theorem locateIndexed_eq (p : Pt) (shell : List Pt) (holes : List (List Pt)) (visited : List (Pt × Pt))
    (hperm : visited.Perm ((allSegs (shell :: holes)).filter (inYRange p)))
    (hc : ∀ r ∈ shell :: holes, Closed r)
    (hin : HolesInShellAt p shell holes) (hone : AtMostOneHoleAt p holes) :
    getLocation (visit p visited) = locateInPolygon p (shell :: holes) := by
  rw [visit_perm p hperm, visit_filter, visit_eq]
  unfold getLocation
  simp only
  rw [any_allSegs p _ hc]
  cases hon : (shell :: holes).any (fun r => (edges r).any (fun e => onSegment e.1 e.2 p))
  · -- off every ring: the parity of all crossings
    have hoff : OffRings p (shell :: holes) := fun r hr => by
      simpa only [Bool.not_eq_true] using List.any_eq_false.1 hon r hr
    have lr : ∀ r ∈ shell :: holes, locateInRing p r = if crossCount p r % 2 = 1 then .interior else .exterior :=
      fun r hr => locateInRing_off p r (hoff r hr)
    have hnb : holes.any (fun h => locateInRing p h == .boundary) = false := List.any_eq_false.2 fun h m => by
      rw [lr h (List.mem_cons_of_mem _ m)]; split <;> simp
    -- the holes with an odd count are the holes containing `p`: at most one
    have hfilt : (holes.map (crossCount p)).filter (fun c => c % 2 == 1) =
        (holes.filter (fun h => locateInRing p h == .interior)).map (crossCount p) := by
      rw [List.filter_map]
      congr 1
      apply List.filter_congr
      intro h m
      rw [Function.comp, lr h (List.mem_cons_of_mem _ m)]
      by_cases hodd : crossCount p h % 2 = 1 <;> simp [hodd]
    have hsum := sum_mod_two (holes.map (crossCount p))
    rw [hfilt, List.length_map, Nat.mod_eq_of_lt (Nat.lt_succ_of_le hone)] at hsum
    rw [sum_allSegs p _ hc hoff, List.map_cons, List.sum_cons, Nat.add_mod, hsum]
    simp only [locateInPolygon, hnb, Bool.false_eq_true, if_false]
    cases hK : holes.filter (fun h => locateInRing p h == .interior) with
    | nil =>
      have hni : holes.any (fun h => locateInRing p h == .interior) = false := List.any_eq_false.2 fun h m hb => by
        have : h ∈ holes.filter (fun h => locateInRing p h == .interior) := List.mem_filter.2 ⟨m, hb⟩
        rw [hK] at this; cases this
      rw [lr shell (List.mem_cons_self ..), hni, List.length_nil, Nat.add_zero, Nat.mod_mod]
      by_cases hs : crossCount p shell % 2 = 1 <;> simp [hs]
    | cons h t =>
      -- that hole lies in the shell, so the shell's count is odd as well
      obtain ⟨hm, hint⟩ := List.mem_filter.1 (hK ▸ List.mem_cons_self ..)
      have hsi := (hin h hm).1 (by simpa using hint)
      have hni : holes.any (fun h => locateInRing p h == .interior) = true := List.any_eq_true.2 ⟨h, hm, hint⟩
      have hs : crossCount p shell % 2 = 1 := by
        rw [lr shell (List.mem_cons_self ..)] at hsi; by_contra hs; simp [hs] at hsi
      have ht : t.length = 0 := by rw [AtMostOneHoleAt, hK, List.length_cons] at hone; omega
      rw [hsi, hni, hs, List.length_cons, ht]
      rfl
  · -- on some ring: BOUNDARY on both sides
    simp only [List.any_cons, Bool.or_eq_true, ← locateInRing_boundary_iff] at hon
    rw [List.any_eq_true] at hon
    simp only [← locateInRing_boundary_iff] at hon
    rw [if_pos rfl, locateInPolygon]
    rcases hon with hb | ⟨h, hm, hb⟩
    · rw [hb]
    · have hany : holes.any (fun h => locateInRing p h == .boundary) = true :=
        List.any_eq_true.2 ⟨h, hm, by rw [hb]; rfl⟩
      cases hs : locateInRing p shell with
      | exterior => exact absurd hs ((hin h hm).2 hb)
      | boundary => rfl
      | interior => simp only [hany, if_true]

end GeosModel.PolyLocate
