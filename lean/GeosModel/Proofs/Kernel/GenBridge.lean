import GeosModel.Model.Kernel.RayCount
import GeosModel.Model.Kernel.SegSeg
import GeosModel.Model.Kernel.PolyLocate
import GeosModel.Model.Kernel.CxxDy
import GeosModel.Generated.KernelC07
import GeosModel.Proofs.Kernel.Basic
import GeosModel.Proofs.CxxLoop
/-!
# C07 — views between the regenerated C++ (`Generated/KernelC07.lean`) and the hand-written kernels

The regenerated definitions speak about `Cxx.XY R` (a `CoordinateXY`), `DDv R` (a `geos::math::DD`) and tuples of member
values; the hand-written models about `Kernel.Pt`, `Filter.DD`, `RayCount.RCC`, `SegSeg.LI`.  This file holds the conversions the
bridge theorems of `Props/C07Gen.lean` are stated with (`xy`, `unxy`, `orientXY`, `liMembers`, `ddv`), the three loops of the point
locators (`isOnLine`, `locLoop`, `holesLoop`) written as folds with early exit, and a few arithmetic facts about the dyadic carrier.
-/
namespace GeosModel.C07Bridge
open GeosModel GeosModel.Kernel GeosModel.Filter GeosModel.Generated

/-! ### exact carrier `Int` -/

/-- a grid point as the C++ sees it -/
def xy (p : Pt) : Cxx.XY Int := ⟨p.x, p.y⟩

/-- back from the C++ view -/
def unxy (q : Cxx.XY Int) : Pt := ⟨q.x, q.y⟩
@[simp] theorem unxy_xy (p : Pt) : unxy (xy p) = p := rfl
@[simp] theorem xy_unxy (q : Cxx.XY Int) : xy (unxy q) = q := rfl

/-- the exact orientation index in the place of `Orientation::index` / `CGAlgorithmsDD::orientationIndex(p1, p2, q)` -/
def orientXY (a b c : Cxx.XY Int) : Int := orient ⟨a.x, a.y⟩ ⟨b.x, b.y⟩ ⟨c.x, c.y⟩

@[simp] theorem xy_x (p : Pt) : (xy p).x = p.x := rfl
@[simp] theorem xy_y (p : Pt) : (xy p).y = p.y := rfl
@[simp] theorem orientXY_xy (a b c : Pt) : orientXY (xy a) (xy b) (xy c) = orient a b c := rfl
theorem xyMk_eq (p : Pt) : KernelC07.xyMk p.x p.y = xy p := rfl

/-- the members `(result, isProperVar, intPt[0], intPt[1])` a `LineIntersector` holds after `computeIntersect`, read off the
model's result `m`: reported points are copies of input points, a proper intersection point is whatever
`intersection(p1, p2, q1, q2)` returned (`P`), members the call does not assign keep their previous values `i0`, `i1` -/
def liMembers (P i0 i1 : Cxx.XY Int) (m : SegSeg.LI) : Nat × Bool × Cxx.XY Int × Cxx.XY Int :=
  (m.code, m.proper, (if m.proper then P else (m.pts.map xy).getD 0 i0), (m.pts.map xy).getD 1 i1)

/-! ### the three loops of the point locators as folds (the index-loop lemmas are in `Proofs/CxxLoop.lean`) -/

/-- one iteration of the loop of `PointLocation::isOnLine`, in terms of the model: stop with `true` at the first segment the point is on -/
def lineStep (p : Pt) (u v : Cxx.XY Int) (_s : Option Bool × Unit) : Id (ForInStep (Option Bool × Unit)) :=
  if RayCount.isOnSegment p (unxy u) (unxy v) = true then pure (ForInStep.done (some true, ()))
  else pure (ForInStep.yield (none, ()))

/-- the model's `isOnLine` is that fold -/
theorem isOnLine_fold (p : Pt) : ∀ (a : Pt) (rest : List Pt),
    (forIn (((a :: rest).map xy).zip (rest.map xy)) ((none : Option Bool), ()) (fun ab s => lineStep p ab.1 ab.2 s)).run
      = (if RayCount.isOnLine p (a :: rest) then (some true, ()) else (none, ())) := by
  intro a rest
  induction rest generalizing a with
  | nil => simp [RayCount.isOnLine]
  | cons b rest ih =>
    simp only [List.map_cons, List.zip_cons_cons, List.forIn_cons, RayCount.isOnLine]
    rw [lineStep]
    by_cases h : RayCount.isOnSegment p a b = true
    · simp [h]
    · have := ih b
      simp only [List.map_cons] at this
      simp [h, this]

/-- one iteration of the loop of `RayCrossingCounter::locatePointInRing`, in terms of the model: count the segment, stop with
the location when the point is on it -/
def ringStep (u v : Cxx.XY Int) (s : Option Loc × KernelC07.RCCv Int) : Id (ForInStep (Option Loc × KernelC07.RCCv Int)) :=
  let st' := RayCount.countSegment (unxy s.2.point) ⟨s.2.isPointOnSegment, s.2.crossingCount⟩ (unxy u) (unxy v)
  if st'.onSeg = true then pure (ForInStep.done (some (RayCount.getLocation st'), ⟨s.2.point, st'.onSeg, st'.count⟩))
  else pure (ForInStep.yield (none, ⟨s.2.point, st'.onSeg, st'.count⟩))

/-- the model's `locLoop` is that fold -/
theorem locLoop_fold (p : Pt) : ∀ (rest : List Pt) (a : Pt) (st : RayCount.RCC), st.onSeg = false →
    (forIn (((a :: rest).map xy).zip (rest.map xy)) ((none : Option Loc), (⟨xy p, st.onSeg, st.count⟩ : KernelC07.RCCv Int))
        (fun ab s => ringStep ab.1 ab.2 s)).run
      = ((if (RayCount.locLoop p st (a :: rest)).onSeg then some (RayCount.getLocation (RayCount.locLoop p st (a :: rest))) else none),
         ⟨xy p, (RayCount.locLoop p st (a :: rest)).onSeg, (RayCount.locLoop p st (a :: rest)).count⟩) := by
  intro rest
  induction rest with
  | nil => intro a st h; simp [RayCount.locLoop, h]
  | cons b rest ih =>
    rintro a ⟨o, c⟩ h
    simp only [List.map_cons, List.zip_cons_cons, List.forIn_cons, RayCount.locLoop]
    by_cases h' : (RayCount.countSegment p ⟨o, c⟩ a b).onSeg = true
    · rw [ringStep]; simp [h']
    · rw [Bool.not_eq_true] at h'
      have := ih b _ h'
      simp only [List.map_cons] at this
      rw [ringStep]; simp [h', ← this]

/-- one iteration of the hole loop of `SimplePointInAreaLocator::locatePointInSurface`, in terms of the model -/
def holeStep (p : Pt) (h : List Pt) (_s : Option Loc × Unit) : Id (ForInStep (Option Loc × Unit)) :=
  if PolyLocate.envContains h p = true then
    (if RayCount.locatePointInRing p h = .boundary then pure (ForInStep.done (some Loc.boundary, ()))
     else if RayCount.locatePointInRing p h = .interior then pure (ForInStep.done (some Loc.exterior, ()))
     else pure (ForInStep.yield (none, ())))
  else pure (ForInStep.yield (none, ()))

/-- the model's `holesLoop` is that fold (`none`: fell through all the holes, the point is interior) -/
theorem holesLoop_fold (p : Pt) : ∀ holes : List (List Pt),
    (forIn holes ((none : Option Loc), ()) (holeStep p)).run
      = (match PolyLocate.holesLoop p holes with | .interior => none | l => some l, ()) := by
  intro holes
  induction holes with
  | nil => simp [PolyLocate.holesLoop]
  | cons h hs ih =>
    simp only [List.forIn_cons, PolyLocate.holesLoop, holeStep]
    by_cases he : PolyLocate.envContains h p = true
    · rcases hl : RayCount.locatePointInRing p h <;> simp [he]
      exact ih
    · simp [he]
      exact ih

/-! ### rounded dyadic carrier `Rd rnd` -/

/-- a model double-double as the regenerated code sees it -/
def ddv (rnd : Dy → Dy) (x : DD) : KernelC07.DDv (Rd rnd) := ⟨⟨x.hi⟩, ⟨x.lo⟩⟩

@[simp] theorem ddv_hi (rnd : Dy → Dy) (x : DD) : (ddv rnd x).hi = ⟨x.hi⟩ := rfl
@[simp] theorem ddv_lo (rnd : Dy → Dy) (x : DD) : (ddv rnd x).lo = ⟨x.lo⟩ := rfl

theorem sub_zero_left_m (d : Dy) : (Dy.sub Dy.zero d).m = -d.m := by
  simp [Dy.sub, Dy.add, Dy.neg, Dy.zero, Dy.mk']
  -- `Dy.mk'` normalises a zero mantissa: the two cases are `d.m = 0` or not
  split <;> simp_all
theorem sub_zero_right_m (d : Dy) : (Dy.sub d Dy.zero).m = d.m := by
  simp [Dy.sub, Dy.add, Dy.neg, Dy.zero, Dy.mk']
  split <;> simp_all

/-- `DD(double x) : hi(x), lo(0.0)` is `DD.ofD` -/
theorem ddOfDouble_eq (rnd : Dy → Dy) (x : Dy) : KernelC07.ddOfDouble (R := Rd rnd) ⟨x⟩ = ddv rnd (DD.ofD x) := by
  simp [KernelC07.ddOfDouble, ddv, DD.ofD, Dy.mk']

/-- the literal of `orientationIndexFilter`, converted like a compiler converts it, is the model's coefficient -/
theorem errCoef_literal : decToDy 33306690621773724 (-32) = errCoef := by decide

theorem negOne_literal : Dy.mk' (-1) 0 = negOne := by decide

end GeosModel.C07Bridge
