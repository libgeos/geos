import GeosModel.Model.Kernel.PointLocator
import GeosModel.Proofs.Kernel.PolyLocateCorrect
/-!
# the ported `algorithm::PointLocator` against the specifications of `Base/Kernel`

* `PointLocation::isOnSegment` / `isOnLine` are the exact on-segment test (all points, all chains)
* `locateInPolygonRing` (envelope reject, boundary scan, **then** ray crossing) is `Kernel.locateInRing` on closed rings
* `locate(p, Polygon)` is `Kernel.locateInPolygon` where `SimplePointInAreaLocator` is
* with the two tests in the other order the ring locator never answers BOUNDARY
* `locate(p, LineString)`: BOUNDARY exactly at the end points of a line that is not closed, INTERIOR on the rest of it
* collections: the walk `computeLocation` / `updateLocationInfo` is the Mod-2 rule over the atomic elements (`locate_coll`)
-/
namespace GeosModel.PointLocator
open GeosModel.Kernel GeosModel.RayCount GeosModel.PolyLocate

theorem envIntersectsPt_eq_inBox (a b p : Pt) : envIntersectsPt a b p = inBox a b p := by
  simp only [envIntersectsPt, inBox, ge_iff_le, if_lt_eq_min, if_gt_eq_max]

/-- `PointLocation::isOnSegment(p, p0, p1)` is the exact on-segment test -/
theorem isOnSegment_eq (p a b : Pt) : isOnSegment p a b = onSegment a b p := by
  unfold isOnSegment onSegment
  rw [envIntersectsPt_eq_inBox]
  cases hb : inBox a b p
  · simp
  · simp only [Bool.not_true, Bool.false_eq_true, if_false, Bool.and_true]
    by_cases he : (p == a) = true
    · have : p = a := (Pt.beq_iff _ _).mp he
      subst this
      simp [det]
    · simp only [he, if_false, Bool.false_eq_true]
      unfold orient
      rw [Bool.eq_iff_iff]
      simp [Int.sign_eq_zero_iff_zero]

/-- `PointLocation::isOnLine(p, chain)`: some segment of the chain contains `p` -/
theorem isOnLine_eq_any (p : Pt) : ∀ l : List Pt, isOnLine p l = (edges l).any (fun e => onSegment e.1 e.2 p)
  | [] => by simp [isOnLine, edges]
  | [_] => by simp [isOnLine, edges]
  | a :: b :: r => by
    simp only [isOnLine, edges, List.any_cons, isOnSegment_eq, isOnLine_eq_any p (b :: r)]

/-- **`PointLocator::locateInPolygonRing` is the specification** on every closed ring, for every point -/
theorem locateInPolygonRing_eq (p : Pt) (ring : List Pt) (hc : Closed ring) :
    locateInPolygonRing p ring = locateInRing p ring := by
  unfold locateInPolygonRing isInRing
  cases he : envContains ring p
  · simp [outside_env_exterior p ring hc he]
  · rw [isOnLine_eq_any, locatePointInRing_eq p ring hc]
    have hb := locateInRing_boundary_iff p ring
    -- all that matters of the ring: its location `l`, the on-ring flag `b`, and `hb : l = .boundary ↔ b = true`
    generalize locateInRing p ring = l at hb ⊢
    generalize (edges ring).any (fun e => onSegment e.1 e.2 p) = b at hb ⊢
    cases l <;> cases b <;> simp_all

/-- the hole loop of `PointLocator::locate(p, Polygon)` and the hole loop of `SimplePointInAreaLocator` agree on closed holes -/
theorem holesLoop_eq_simple (p : Pt) : ∀ holes : List (List Pt), (∀ h ∈ holes, Closed h) →
    holesLoop p holes = PolyLocate.holesLoop p holes
  | [], _ => rfl
  | h :: hs, hc => by
    have hch : Closed h := hc h (List.mem_cons_self ..)
    have ih := holesLoop_eq_simple p hs (fun h' m => hc h' (List.mem_cons_of_mem _ m))
    rw [holesLoop, PolyLocate.holesLoop, locateInPolygonRing_eq p h hch, locatePointInRing_eq p h hch, ih,
      env_shortcut p hch fun hl => by rw [hl]]
    cases locateInRing p h <;> rfl

/-- `PointLocator::locate(p, Polygon)` and `SimplePointInAreaLocator::locatePointInSurface` agree on closed rings -/
theorem locatePolygon_eq_simple (p : Pt) (rings : List (List Pt)) (hc : ∀ r ∈ rings, Closed r) :
    locatePolygon p rings = locatePointInPolygon p rings := by
  cases rings with
  | nil => rfl
  | cons shell holes =>
    have hcs : Closed shell := hc shell (List.mem_cons_self ..)
    have hch : ∀ h ∈ holes, Closed h := fun h m => hc h (List.mem_cons_of_mem _ m)
    simp only [locatePolygon, locatePointInPolygon]
    rw [locateInPolygonRing_eq p shell hcs, locatePointInRing_eq p shell hcs, holesLoop_eq_simple p holes hch]
    cases shell with
    | nil => simp [envContains]
    | cons a r =>
      rw [List.isEmpty_cons, if_neg Bool.false_ne_true, env_shortcut_not p hcs fun hl => by rw [hl]]
      cases locateInRing p (a :: r) <;> rfl

/-- **`PointLocator::locate(p, Polygon)` is the specification `Kernel.locateInPolygon`** for every polygon with closed
rings and every point that is not at once interior to one hole and on the boundary of another -/
theorem locatePolygon_eq (p : Pt) (rings : List (List Pt)) (hc : ∀ r ∈ rings, Closed r)
    (hsep : HolesSeparateAt p rings.tail) :
    locatePolygon p rings = locateInPolygon p rings := by
  rw [locatePolygon_eq_simple p rings hc, locatePointInPolygon_eq p rings hc hsep]

/-- on a closed ring `PointLocation::isInRing` is true on the ring itself as well as inside it -/
theorem isInRing_of_onLine (p : Pt) (ring : List Pt) (hc : Closed ring) (h : isOnLine p ring = true) :
    isInRing p ring = true := by
  unfold isInRing
  rw [locatePointInRing_eq p ring hc]
  unfold locateInRing
  rw [isOnLine_eq_any] at h
  simp [h]

/-- the swapped order answers INTERIOR exactly where the specification says INTERIOR or BOUNDARY -/
theorem swapped_eq (p : Pt) (ring : List Pt) (hc : Closed ring) :
    locateInPolygonRingSwapped p ring = if locateInRing p ring = .exterior then .exterior else .interior := by
  unfold locateInPolygonRingSwapped isInRing
  cases he : envContains ring p
  · simp [outside_env_exterior p ring hc he]
  · rw [isOnLine_eq_any, locatePointInRing_eq p ring hc]
    have hb := locateInRing_boundary_iff p ring
    -- all that matters of the ring: its location `l`, the on-ring flag `b`, and `hb : l = .boundary ↔ b = true`
    generalize locateInRing p ring = l at hb ⊢
    generalize (edges ring).any (fun e => onSegment e.1 e.2 p) = b at hb ⊢
    cases l <;> cases b <;> simp_all

/-- with the ray-crossing test placed before the boundary scan the ring locator never answers BOUNDARY -/
theorem swapped_never_boundary (p : Pt) (ring : List Pt) (hc : Closed ring) :
    locateInPolygonRingSwapped p ring ≠ .boundary := by
  rw [swapped_eq p ring hc]; split <;> simp

/-! ### lines -/

theorem lineClosed_iff (pts : List Pt) : lineClosed pts = true ↔ pts ≠ [] ∧ pts.head? = pts.getLast? := by
  unfold lineClosed
  cases pts with
  | nil => simp
  | cons a r =>
    have : ∃ z, (a :: r).getLast? = some z := ⟨(a :: r).getLast (by simp), List.getLast?_eq_some_getLast (by simp)⟩
    obtain ⟨z, hz⟩ := this
    simp [hz]

/-- **`PointLocator::locate(p, LineString)`**: BOUNDARY exactly at the first / last vertex of a chain that is not closed;
otherwise INTERIOR exactly on the segments of the chain (the envelope reject changes nothing) -/
theorem locateLine_eq (p : Pt) (pts : List Pt) :
    locateLine p pts =
      if lineClosed pts = false ∧ (pts.head? = some p ∨ pts.getLast? = some p) then .boundary
      else if (edges pts).any (fun e => onSegment e.1 e.2 p) then .interior else .exterior := by
  unfold locateLine
  rw [isOnLine_eq_any]
  cases he : envContains pts p
  · obtain ⟨h1, h2⟩ := outside_env_off p pts he
    have hh : pts.head? ≠ some p := fun h => h2 p (List.mem_of_mem_head? h) rfl
    have hl : pts.getLast? ≠ some p := fun h => h2 p (List.mem_of_getLast? h) rfl
    simp [h1, hh, hl]
  · cases lineClosed pts <;> simp

end GeosModel.PointLocator

namespace GeosModel.PointLocator
open GeosModel.Kernel

/-! ### collections: the walk is the Mod-2 rule over the atomic elements -/

mutual
theorem leafLocs_empty (p : Pt) : ∀ g : Geo, isEmpty g = true → leafLocs p g = []
  | .point c, h => by simp only [isEmpty] at h; simp [leafLocs, h]
  | .line pts, h => by simp only [isEmpty] at h; simp [leafLocs, h]
  | .poly rings, h => by simp [leafLocs, h]
  | .coll es, h => by simp only [isEmpty] at h; simp only [leafLocs]; exact leafLocsList_empty p es h
theorem leafLocsList_empty (p : Pt) : ∀ gs : List Geo, allEmpty gs = true → leafLocsList p gs = []
  | [], _ => by simp [leafLocsList]
  | g :: gs, h => by
    simp only [allEmpty, Bool.and_eq_true] at h
    simp [leafLocsList, leafLocs_empty p g h.1, leafLocsList_empty p gs h.2]
end

mutual
theorem computeLocation_eq (p : Pt) : ∀ (g : Geo) (st : Info),
    computeLocation p g st = (leafLocs p g).foldl updateLocationInfo st
  | .point c, st => by simp only [computeLocation, leafLocs]; split <;> simp
  | .line pts, st => by simp only [computeLocation, leafLocs]; split <;> simp
  | .poly rings, st => by simp only [computeLocation, leafLocs]; split <;> simp
  | .coll es, st => by
    simp only [computeLocation, leafLocs]
    by_cases h : allEmpty es = true
    · simp [h, leafLocsList_empty p es h]
    · simp only [h, Bool.false_eq_true, if_false]; exact computeList_eq p es st
theorem computeList_eq (p : Pt) : ∀ (gs : List Geo) (st : Info),
    computeList p gs st = (leafLocsList p gs).foldl updateLocationInfo st
  | [], st => by simp [computeList, leafLocsList]
  | g :: gs, st => by
    simp only [computeList, leafLocsList, List.foldl_append]
    rw [computeLocation_eq p g st, computeList_eq p gs]
end

theorem fold_update (ls : List Loc) : ∀ st : Info,
    ls.foldl updateLocationInfo st =
      ⟨st.isIn || ls.any (fun l => decide (l = .interior)), st.numBoundaries + ls.count .boundary⟩ := by
  induction ls with
  | nil => intro st; simp
  | cons l ls ih =>
    intro st
    rw [List.foldl_cons, ih]
    cases l <;> simp [updateLocationInfo]; omega

/-- **collections**: `PointLocator::locate` on a MULTI* / GEOMETRYCOLLECTION is the Mod-2 rule over the locations of
its non-empty atomic elements (nested collections flattened): BOUNDARY iff an odd number of elements have the point
on their boundary, otherwise INTERIOR iff some element has it on its boundary or in its interior -/
theorem locate_coll (p : Pt) (es : List Geo) :
    locate p (.coll es) =
      let ls := leafLocsList p es
      if ls.count .boundary % 2 = 1 then .boundary
      else if 0 < ls.count .boundary ∨ .interior ∈ ls then .interior else .exterior := by
  unfold locate
  by_cases h : isEmpty (.coll es) = true
  · have h' : allEmpty es = true := by simpa [isEmpty] using h
    simp [h, leafLocsList_empty p es h']
  · simp only [h, Bool.false_eq_true, if_false]
    rw [computeLocation_eq, fold_update]
    simp [leafLocs, Info.init]

end GeosModel.PointLocator
