import GeosModel.Model.Kernel.CCW
import GeosModel.Proofs.Kernel.Basic
/-!
# `Orientation::isCCW` (ported) on triangles  (the partial result `C07.isCCW_exact_partial`)

For every ring with three distinct non-collinear vertices `[a, b, c, a]` the extremal-vertex method
returns the sign of the signed area.  Some vertex is a highest one whose predecessor lies strictly below it
(`upScan_top_a/b/c`: the rising-segment scan stops there); the next vertex is either lower, and the decision is
the orientation of that rotation of `(a, b, c)`, or level with it, and the decision is the direction of
the flat top edge (`isCCW_top`, `flat_top_det`).
-/
namespace GeosModel.CCW
open GeosModel.Kernel

macro "yfact" x:term "," y:term : tactic =>
  `(tactic| (first | (have : $x < $y := by omega) | (have : ¬ ($x < $y) := by omega)
             first | (have : $x ≤ $y := by omega) | (have : ¬ ($x ≤ $y) := by omega)))
macro "yeq" x:term "," y:term : tactic =>
  `(tactic| (first | (have : $x = $y := by omega) | (have : ¬ ($x = $y) := by omega)
             first | (have : ($y = $x) = True := by simp; omega) | (have : ¬ ($y = $x) := by omega)))

theorem upStep_rise {ring : List Pt} {s : Up} {i : Nat} (h1 : s.prevY < (at' ring i).y)
    (h2 : s.upHi.y ≤ (at' ring i).y) :
    upStep ring s i = ⟨i, at' ring i, some (at' ring (i - 1)), (at' ring i).y⟩ := by
  simp only [upStep, gt_iff_lt, ge_iff_le, h1, h2, and_self, if_true]

theorem upStep_flat {ring : List Pt} {s : Up} {i : Nat} (h : ¬ (s.prevY < (at' ring i).y ∧ s.upHi.y ≤ (at' ring i).y)) :
    upStep ring s i = { s with prevY := (at' ring i).y } := by
  simp only [upStep, gt_iff_lt, ge_iff_le, h, if_false]

theorem upStep_upHi_le {ring : List Pt} {s : Up} {i : Nat} {m : Int} (hs : s.upHi.y ≤ m) (hi : (at' ring i).y ≤ m) :
    (upStep ring s i).upHi.y ≤ m := by
  unfold upStep; dsimp only; split <;> assumption

theorem upScan_three (ring : List Pt) : upScan ring 3 =
    upStep ring (upStep ring (upStep ring ⟨0, at' ring 0, none, (at' ring 0).y⟩ 1) 2) 3 := rfl

/-- the rising-segment scan of a triangle ring ends at a highest vertex whose predecessor lies strictly lower:
at `a` (reached as index 3), at `c`, or at `b` -/
theorem upScan_top_a {a b c : Pt} (h : c.y < a.y) (h' : b.y ≤ a.y) :
    upScan [a, b, c, a] 3 = ⟨3, a, some c, a.y⟩ := by
  rw [upScan_three]
  exact upStep_rise (i := 3) h (upStep_upHi_le (upStep_upHi_le (le_refl _) h') h.le)

theorem upScan_top_c {a b c : Pt} (h : b.y < c.y) (h' : a.y ≤ c.y) :
    upScan [a, b, c, a] 3 = ⟨2, c, some b, a.y⟩ := by
  have e : upStep [a, b, c, a] (upStep [a, b, c, a] ⟨0, a, none, a.y⟩ 1) 2 = ⟨2, c, some b, c.y⟩ :=
    upStep_rise (i := 2) h (upStep_upHi_le (m := c.y) h' h.le)
  rw [upScan_three]
  show upStep _ (upStep _ (upStep _ ⟨0, a, none, a.y⟩ 1) 2) 3 = _
  rw [e, upStep_flat]
  exacts [rfl, fun hh => absurd hh.1 (not_lt.2 h')]

theorem upScan_top_b {a b c : Pt} (h : a.y < b.y) (h' : c.y ≤ b.y) :
    upScan [a, b, c, a] 3 = ⟨1, b, some a, a.y⟩ := by
  have e : upStep [a, b, c, a] ⟨0, a, none, a.y⟩ 1 = ⟨1, b, some a, b.y⟩ := upStep_rise (i := 1) h h.le
  rw [upScan_three]
  show upStep _ (upStep _ (upStep _ ⟨0, a, none, a.y⟩ 1) 2) 3 = _
  rw [e, upStep_flat (i := 2), upStep_flat]
  exacts [rfl, fun hh => absurd hh.2 (not_le.2 h), fun hh => absurd hh.1 (not_lt.2 h')]

theorem downScan_stop {ring : List Pt} {n iUp fuel i k : Nat} {y : Int} (hk : (i + 1) % n = k)
    (h : ¬ (k ≠ iUp ∧ (at' ring k).y = y)) : downScan ring n iUp y (fuel + 1) i = k := by
  subst hk; exact if_neg h

theorem downScan_go {ring : List Pt} {n iUp fuel i k : Nat} {y : Int} (hk : (i + 1) % n = k)
    (h : k ≠ iUp ∧ (at' ring k).y = y) : downScan ring n iUp y (fuel + 1) i = downScan ring n iUp y fuel k := by
  subst hk; exact if_pos h

/-- a flat top edge `p q` above `r`: the orientation is the direction of the edge -/
theorem flat_top_det {p q r : Pt} (hy : p.y = q.y) (hr : r.y < p.y) : q.x - p.x < 0 ↔ 0 < det p q r := by
  have e : det p q r = (p.y - r.y) * (p.x - q.x) := by unfold det; rw [← hy]; ring
  rw [e, mul_pos_iff_of_pos_left (by omega)]; omega

/-- the decision at a top vertex `t` of the triangle ring, reached by the rising scan from `pr`: `nx` (index `k`) is the
vertex after `t`, and after `nx` the walk is back at `pr` (index `l`).  Either `nx` is lower (pointed cap) or level
with `t` (flat top `t nx` above `pr`). -/
theorem isCCW_top {a b c pr t nx : Pt} {i k l : Nat} {py : Int}
    (hu : upScan [a, b, c, a] 3 = ⟨i, t, some pr, py⟩) (hi0 : i ≠ 0)
    (hk : (i + 1) % 3 = k) (hki : k ≠ i) (hnx : at' [a, b, c, a] k = nx)
    (hkt : t = at' [a, b, c, a] (if k > 0 then k - 1 else 2))
    (hl : (k + 1) % 3 = l) (hpr : at' [a, b, c, a] l = pr) (hlk : at' [a, b, c, a] (if l > 0 then l - 1 else 2) = nx)
    (h : pr.y < t.y) (h' : nx.y ≤ t.y) (h1 : pr ≠ t) (h2 : nx ≠ t) (h3 : pr ≠ nx) :
    isCCW [a, b, c, a] = decide (0 < det pr t nx) := by
  rcases h'.lt_or_eq with hb | hb
  · -- pointed cap: the vertex before `downLow = nx` is `upHi = t` itself
    have hj : downScan [a, b, c, a] 3 i t.y 4 i = k := downScan_stop hk fun hh => hb.ne (hnx ▸ hh.2)
    simp only [isCCW, Nat.lt_irrefl, List.length_cons, List.length_nil, Nat.reduceAdd, Nat.reduceSub, hu, hi0, hj, hnx, ← hkt, h1,
      h2, h3, or_self, if_false, if_true, Option.getD_some]
    rw [Bool.eq_iff_iff, beq_iff_eq, decide_eq_true_iff, orient_eq_one]
  · -- flat top `t nx`: the decision is the direction of the top edge
    have hj : downScan [a, b, c, a] 3 i t.y 4 i = l :=
      (downScan_go hk ⟨hki, hnx ▸ hb⟩).trans (downScan_stop hl fun hh => h.ne (hpr ▸ hh.2))
    simp only [isCCW, Nat.lt_irrefl, List.length_cons, List.length_nil, Nat.reduceAdd, Nat.reduceSub, hu, hi0, hj, hlk, h2.symm,
      if_false, Option.getD_some]
    rw [← det_cycle pr t nx]
    exact decide_eq_decide.2 (flat_top_det hb.symm h)

theorem isCCW_triangle_det (a b c : Pt) (hd : det a b c ≠ 0) :
    isCCW [a, b, c, a] = decide (0 < det a b c) := by
  have hab : a ≠ b := by rintro rfl; simp at hd
  have hbc : b ≠ c := by rintro rfl; simp at hd
  have hac : a ≠ c := by rintro rfl; simp at hd
  have : (c.y < a.y ∧ b.y ≤ a.y) ∨ (b.y < c.y ∧ a.y ≤ c.y) ∨ (a.y < b.y ∧ c.y ≤ b.y) ∨ (a.y = b.y ∧ b.y = c.y) := by omega
  rcases this with ⟨h, h'⟩ | ⟨h, h'⟩ | ⟨h, h'⟩ | ⟨h, h'⟩
  · rw [← det_cycle']
    exact isCCW_top (upScan_top_a h h') (by decide) rfl (by decide) rfl rfl rfl rfl rfl h h' hac.symm hab.symm hbc.symm
  · rw [← det_cycle]
    exact isCCW_top (upScan_top_c h h') (by decide) rfl (by decide) rfl rfl rfl rfl rfl h h' hbc hac hab.symm
  · exact isCCW_top (upScan_top_b h h') (by decide) rfl (by decide) rfl rfl rfl rfl rfl h h' hab hbc.symm hac
  · exact absurd (by unfold det; rw [h, h']; ring) hd

/-- **isCCW on triangles**: counter-clockwise iff the signed area is positive, for every triangle ring of
non-zero area -/
theorem isCCW_triangle (a b c : Pt) (h : area2 [a, b, c, a] ≠ 0) :
    isCCW [a, b, c, a] = ccwSpec [a, b, c, a] := by
  unfold ccwSpec
  rw [area2_triangle] at h ⊢
  exact isCCW_triangle_det a b c h

end GeosModel.CCW
