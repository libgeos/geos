import GeosModel.Proofs.Kernel.FilterGrid
/-!
# The double-double fallback is exact on the whole 2^25 grid

Every coordinate difference `d` the path forms satisfies `|d| ≤ 2^26`.  For `|d| ≤ 2^26 - 1` the Veltkamp
product `SPLIT · d` (`SPLIT = 2^27 + 1`) is at most `(2^27+1)(2^26-1) < 2^53` and exact; for `d = ±2^26` it is
`(2^27+1)·2^26`, which rounds to itself with the exponent shifted by one, and the two subtractions that
follow bring the exponent back.  Either way the split returns the operand itself and a zero tail
(`veltkamp_hi`), hence every operation of `DD::selfAdd` / `DD::selfMultiply` acts on exactly representable
integers: the high words carry the exact values, all low words are zero, and `orientationIndexDD` returns
the sign of `Kernel.det`.
-/
namespace GeosModel.Filter
open GeosModel.Kernel

theorem neg_zero' : Dy.neg Dy.zero = Dy.zero := by decide

theorem SPLIT_eq : SPLIT = Dy.mk' 134217729 0 := by decide

/-- `roundNE_mk'` with the bound as two linear inequalities -/
theorem roundNE_mk'_of_bounds (n k : Int) (h : -9007199254740992 ≤ n ∧ n ≤ 9007199254740992) :
    roundNE (Dy.mk' n k) = Dy.mk' n k := roundNE_mk' n k (by omega)

/-- `selfAdd` on integers with a common exponent and zero low words is exact -/
theorem selfAdd_exact (a b k : Int) (ha : a.natAbs ≤ 2 ^ 52) (hb : b.natAbs ≤ 2 ^ 52) :
    DD.selfAdd roundNE ⟨Dy.mk' a k, Dy.zero⟩ (Dy.mk' b k) Dy.zero = ⟨Dy.mk' (a + b) k, Dy.zero⟩ := by
  have ha' : -4503599627370496 ≤ a ∧ a ≤ 4503599627370496 := by omega
  have hb' : -4503599627370496 ≤ b ∧ b ≤ 4503599627370496 := by omega
  clear ha hb
  rw [← mk'_zero k]
  unfold DD.selfAdd
  -- every intermediate is one of `a + b`, `a`, `b`, `0` once the integer expressions are kept normalised
  simp (disch := omega) only [fadd, fsub, mk'_add, mk'_sub, roundNE_mk'_of_bounds, Int.add_sub_cancel,
    add_sub_cancel_left, Int.sub_self, Int.add_zero]

theorem fmul_zero_left (x : Dy) : fmul roundNE Dy.zero x = Dy.zero := by
  rw [fmul, Dy.mul, show Dy.zero.m = 0 from rfl, Int.zero_mul, mk'_zero, roundNE_zero]
theorem fmul_zero_right (x : Dy) : fmul roundNE x Dy.zero = Dy.zero := by
  rw [fmul, Dy.mul, show Dy.zero.m = 0 from rfl, Int.mul_zero, mk'_zero, roundNE_zero]
theorem fadd_zero_zero : fadd roundNE Dy.zero Dy.zero = Dy.zero := by decide
theorem fadd_zero_right (n e : Int) (h : n.natAbs ≤ 2 ^ 53) :
    fadd roundNE (Dy.mk' n e) Dy.zero = Dy.mk' n e := by
  rw [← mk'_zero e, fadd, mk'_add, Int.add_zero, roundNE_mk' _ _ h]
theorem fsub_self (n e : Int) : fsub roundNE (Dy.mk' n e) (Dy.mk' n e) = Dy.zero := by
  rw [fsub, mk'_sub, Int.sub_self, mk'_zero, roundNE_zero]

/-- `-1 * x` in `DD::selfSubtract` is exact on representable operands -/
theorem fmul_negOne (n e : Int) (h : n.natAbs ≤ 2 ^ 53) : fmul roundNE negOne (Dy.mk' n e) = Dy.mk' (-n) e := by
  have h1 : negOne = Dy.mk' (-1) 0 := by decide
  rw [fmul, h1, mk'_mul, roundNE_mk' _ _ (by omega)]
  congr 1 <;> omega

/-- subtraction when the left operand's exponent is one higher -/
theorem sub_shift1 (q n k : Int) (hq : q ≠ 0) (hn : n ≠ 0) :
    Dy.sub (Dy.mk' q (k + 1)) (Dy.mk' n k) = Dy.mk' (2 * q - n) k := by
  rw [mk'_of_ne hq, mk'_of_ne hn]
  unfold Dy.sub Dy.add Dy.neg
  simp only [hq, neg_eq_zero, hn, if_false, min_eq_right (Int.le_add_one (le_refl k)), add_sub_cancel_left, sub_self,
    Int.toNat_one, Int.toNat_zero, pow_one, pow_zero, mul_one]
  congr 1
  omega

theorem roundNat_ext : roundNat 9007199321849856 = (4503599660924928, 1) := by decide

/-- `SPLIT · (±2^26)` is representable, with the exponent shifted by one -/
theorem fmul_split_ext (s k : Int) (hs : s = 1 ∨ s = -1) :
    fmul roundNE SPLIT (Dy.mk' (s * 67108864) k) = Dy.mk' (s * 4503599660924928) (k + 1) := by
  rw [fmul, SPLIT_eq, mk'_mul, Int.zero_add]
  rcases hs with rfl | rfl <;>
  · rw [mk'_of_ne (by decide)]
    unfold roundNE
    simp only
    rw [show (134217729 * _ : Int).natAbs = 9007199321849856 by decide, roundNat_ext]
    simp

/-- **Veltkamp split of a grid difference**: `C = SPLIT·a`, `hx = C - (C - a)` returns `a` itself, for every
`|a| ≤ 2^26` -/
theorem veltkamp_hi (a k : Int) (ha : a.natAbs ≤ 2 ^ 26) :
    fsub roundNE (fmul roundNE SPLIT (Dy.mk' a k))
      (fsub roundNE (fmul roundNE SPLIT (Dy.mk' a k)) (Dy.mk' a k)) = Dy.mk' a k := by
  have e26 : (2 : Nat) ^ 26 = 67108864 := by decide
  rw [e26] at ha
  by_cases hext : a.natAbs = 67108864
  · -- `a = ±2^26`: the product has 54 bits and is rounded; the two subtractions undo the exponent shift
    have hs : a = 1 * 67108864 ∨ a = -1 * 67108864 := by omega
    rcases hs with rfl | rfl <;>
    · rw [fmul_split_ext _ k (by decide)]
      simp only [fsub]
      rw [sub_shift1 _ _ _ (by decide) (by decide), roundNE_mk' _ _ (by decide),
        sub_shift1 _ _ _ (by decide) (by decide), roundNE_mk' _ _ (by decide)]
      congr 1
  · have ha' : -67108863 ≤ a ∧ a ≤ 67108863 := by omega
    clear ha hext
    have hC : fmul roundNE SPLIT (Dy.mk' a k) = Dy.mk' (134217729 * a) k := by
      rw [fmul, SPLIT_eq, mk'_mul, Int.zero_add, roundNE_mk'_of_bounds _ _ (by omega)]
    have hx1 : fsub roundNE (Dy.mk' (134217729 * a) k) (Dy.mk' a k) = Dy.mk' (134217728 * a) k := by
      rw [fsub, mk'_sub, roundNE_mk'_of_bounds _ _ (by omega)]; congr 1; omega
    have hx2 : fsub roundNE (Dy.mk' (134217729 * a) k) (Dy.mk' (134217728 * a) k) = Dy.mk' a k := by
      rw [fsub, mk'_sub, roundNE_mk'_of_bounds _ _ (by omega)]; congr 1; omega
    rw [hC, hx1, hx2]

/-- `selfMultiply` on grid differences (`|a|, |b| ≤ 2^26`) with zero low words is exact -/
theorem selfMultiply_exact (a b k j : Int) (ha : a.natAbs ≤ 2 ^ 26) (hb : b.natAbs ≤ 2 ^ 26) :
    DD.selfMultiply roundNE ⟨Dy.mk' a k, Dy.zero⟩ (Dy.mk' b j) Dy.zero = ⟨Dy.mk' (a * b) (k + j), Dy.zero⟩ := by
  have hab : (a * b).natAbs ≤ 2 ^ 53 := Nat.le_trans (natAbs_mul_le_52 ha hb) (by decide)
  have hP : fmul roundNE (Dy.mk' a k) (Dy.mk' b j) = Dy.mk' (a * b) (k + j) := by
    rw [fmul, mk'_mul, roundNE_mk' _ _ hab]
  unfold DD.selfMultiply
  simp only [veltkamp_hi a k ha, veltkamp_hi b j hb, fsub_self, hP, fmul_zero_left, fmul_zero_right, fadd_zero_zero,
    fadd_zero_right _ _ hab]

/-! ### double-doubles with an integer high word and a zero low word -/

theorem DD.sub_exact (a b k : Int) (ha : a.natAbs ≤ 2 ^ 52) (hb : b.natAbs ≤ 2 ^ 52) :
    DD.sub roundNE ⟨Dy.mk' a k, Dy.zero⟩ ⟨Dy.mk' b k, Dy.zero⟩ = ⟨Dy.mk' (a - b) k, Dy.zero⟩ := by
  unfold DD.sub
  rw [fmul_negOne b k (Nat.le_trans hb (by decide)), fmul_zero_right, Int.sub_eq_add_neg]
  exact selfAdd_exact a (-b) k ha (by rwa [Int.natAbs_neg])

/-- the difference of two grid coordinates, as `orientationIndexDD` forms it -/
theorem DD.grid_diff (k : Int) {x y : Int} (hx : x.natAbs ≤ gridBound) (hy : y.natAbs ≤ gridBound) :
    DD.add roundNE (DD.ofD (ofGrid k x)) (DD.ofD (Dy.neg (ofGrid k y))) = ⟨Dy.mk' (x - y) k, Dy.zero⟩ := by
  rw [ofGrid, ofGrid, mk'_neg, Int.sub_eq_add_neg]
  exact selfAdd_exact x (-y) k (Nat.le_trans hx (by decide)) (by rw [Int.natAbs_neg]; exact Nat.le_trans hy (by decide))

theorem orientationDD_exact (n k : Int) : orientationDD ⟨Dy.mk' n k, Dy.zero⟩ = n.sign := by
  unfold orientationDD
  simp only [Dy.isNeg, Dy.isPos, Dy.isZero, mk'_m, Dy.zero]
  rcases Int.lt_trichotomy n 0 with h | h | h
  · simp [h, Int.sign_eq_neg_one_of_neg h]
  · simp [h]
  · have : ¬ (n < 0) := by omega
    simp [h, this, Int.sign_eq_one_of_pos h]

/-- on the whole `2^25` grid, for every unit `2^k`, the double-double evaluation returns the
exact orientation -/
theorem dd_exact_grid25 (k : Int) {a b c : Pt}
    (ha : OnGrid gridBound a) (hb : OnGrid gridBound b) (hc : OnGrid gridBound c) :
    orientationIndexDD roundNE (ofGrid k a.x) (ofGrid k a.y) (ofGrid k b.x) (ofGrid k b.y) (ofGrid k c.x) (ofGrid k c.y)
      = orient a b c := by
  have h1 := grid_sub_le hb.1 ha.1
  have h2 := grid_sub_le hc.2 hb.2
  have h3 := grid_sub_le hb.2 ha.2
  have h4 := grid_sub_le hc.1 hb.1
  simp only [orientationIndexDD, DD.grid_diff k hb.1 ha.1, DD.grid_diff k hb.2 ha.2, DD.grid_diff k hc.1 hb.1,
    DD.grid_diff k hc.2 hb.2, DD.mul, selfMultiply_exact _ _ k k h1 h2, selfMultiply_exact _ _ k k h3 h4,
    DD.sub_exact _ _ (k + k) (natAbs_mul_le_52 h1 h2) (natAbs_mul_le_52 h3 h4), orientationDD_exact]
  unfold orient det
  congr 1
  ring

end GeosModel.Filter
