import GeosModel.Model.Kernel.Filter
import GeosModel.Proofs.Kernel.Basic
/-!
# The orientation filter on the grid: every intermediate is exactly representable

`Dy.mk' n k` (the double `n·2^k`) is closed under the exact operations with the obvious integer
arithmetic on `n`, and `roundNE` is the identity on it as long as `|n| ≤ 2^53`.  Hence on grid points with
coordinates of at most `2^25` units the filter's `detleft`, `detright`, `det`, `detsum` are the exact
integers, and a non-FAILURE answer is the sign of `Kernel.det`.

The last section is not about the grid: for arbitrary doubles and any odd rounding function, swapping the first two
points negates the filter's answer (`filter_antisym`; `Dy.add_comm`, `Dy.sub_swap`, `decideIdx`).
-/
namespace GeosModel.Filter
open GeosModel.Kernel

/-! ### algebra of `mk'` -/

@[simp] theorem mk'_m (n k : Int) : (Dy.mk' n k).m = n := by
  unfold Dy.mk'; split <;> simp_all [Dy.zero]

@[simp] theorem mk'_zero (k : Int) : Dy.mk' 0 k = Dy.zero := by simp [Dy.mk']

theorem mk'_of_ne {n : Int} (h : n ≠ 0) (k : Int) : Dy.mk' n k = ⟨n, k⟩ := by simp [Dy.mk', h]

theorem mk'_neg (n k : Int) : Dy.neg (Dy.mk' n k) = Dy.mk' (-n) k := by
  by_cases h : n = 0
  · subst h; simp [Dy.neg, Dy.zero]
  · simp [Dy.mk', h, Dy.neg]

theorem mk'_abs (n k : Int) : Dy.abs (Dy.mk' n k) = Dy.mk' (n.natAbs : Int) k := by
  by_cases h : n = 0
  · subst h; simp [Dy.abs, Dy.zero]
  · simp [Dy.mk', h, Dy.abs]

theorem mk'_idem (b k : Int) : Dy.mk' (Dy.mk' b k).m (Dy.mk' b k).e = Dy.mk' b k := by
  by_cases hb : b = 0
  · subst hb; simp [Dy.zero]
  · simp [mk'_of_ne hb]

theorem mk'_add (a b k : Int) : Dy.add (Dy.mk' a k) (Dy.mk' b k) = Dy.mk' (a + b) k := by
  by_cases ha : a = 0
  · subst ha
    have := mk'_idem b k
    simpa [Dy.add, Dy.zero] using this
  · by_cases hb : b = 0
    · subst hb; simp [Dy.add, ha, Dy.zero]
    · simp [Dy.add, mk'_of_ne ha, mk'_of_ne hb, ha, hb]

theorem mk'_sub (a b k : Int) : Dy.sub (Dy.mk' a k) (Dy.mk' b k) = Dy.mk' (a - b) k := by
  unfold Dy.sub; rw [mk'_neg, mk'_add]; congr 1

theorem mk'_mul (a b k j : Int) : Dy.mul (Dy.mk' a k) (Dy.mk' b j) = Dy.mk' (a * b) (k + j) := by
  by_cases ha : a = 0
  · subst ha; simp [Dy.mul, Dy.zero]
  · by_cases hb : b = 0
    · subst hb; simp [Dy.mul, Dy.zero]
    · simp [Dy.mul, mk'_of_ne ha, mk'_of_ne hb]

theorem roundNat_small {n : Nat} (h : n ≤ 2 ^ 53) : roundNat n = (n, 0) := by
  unfold roundNat; rw [if_pos h]

/-- `roundNE` in sign–magnitude form -/
theorem roundNE_eq (x : Dy) :
    roundNE x = Dy.mk' (x.m.sign * ((roundNat x.m.natAbs).1 : Int)) (x.e + ((roundNat x.m.natAbs).2 : Int)) := by
  unfold roundNE
  rcases Int.lt_trichotomy x.m 0 with h | h | h
  · simp [h, Int.sign_eq_neg_one_of_neg h]
  · simp [h, roundNat]
  · have : ¬ (x.m < 0) := by omega
    simp [this, Int.sign_eq_one_of_pos h]

/-- **representability**: an integer of magnitude at most `2^53` times a power of two is a binary64 value
(exponent range permitting): rounding leaves it unchanged -/
theorem roundNE_mk' (n k : Int) (h : n.natAbs ≤ 2 ^ 53) : roundNE (Dy.mk' n k) = Dy.mk' n k := by
  by_cases h0 : n = 0
  · subst h0; simp [roundNE, roundNat, Dy.zero]
  · rw [mk'_of_ne h0, roundNE_eq]
    simp only [roundNat_small h, Int.natCast_zero, Int.add_zero, Int.sign_mul_natAbs]
    exact mk'_of_ne h0 k

theorem roundNE_zero : roundNE Dy.zero = Dy.zero := by
  simp [roundNE, roundNat, Dy.zero]

/-- rounding is odd: `roundNE (-x) = -(roundNE x)` -/
theorem roundNE_neg (x : Dy) : roundNE (Dy.neg x) = Dy.neg (roundNE x) := by
  rw [roundNE_eq, roundNE_eq, mk'_neg]
  simp only [Dy.neg, Int.natAbs_neg, Int.sign_neg, Int.neg_mul]

/-! ### bounds on the grid -/

theorem natAbs_mul_le_52 {a b : Int} (ha : a.natAbs ≤ 2 ^ 26) (hb : b.natAbs ≤ 2 ^ 26) : (a * b).natAbs ≤ 2 ^ 52 :=
  Int.natAbs_mul a b ▸ Nat.le_trans (Nat.mul_le_mul ha hb) (by decide)

theorem grid_sub_le {x y : Int} (hx : x.natAbs ≤ gridBound) (hy : y.natAbs ≤ gridBound) : (x - y).natAbs ≤ 2 ^ 26 :=
  Nat.le_trans (Int.natAbs_sub_le x y) (Nat.le_trans (Nat.add_le_add hx hy) (by decide))

/-- **grid_ops_exact**: for coordinates of at most `2^25` units, differences are at most `2^26`,
products at most `2^52`, and the two-term sums at most `2^53` -/
theorem grid_ops_exact {a b c : Pt} (ha : OnGrid gridBound a) (hb : OnGrid gridBound b) (hc : OnGrid gridBound c) :
    (a.x - c.x).natAbs ≤ 2 ^ 26 ∧ (b.y - c.y).natAbs ≤ 2 ^ 26 ∧ (a.y - c.y).natAbs ≤ 2 ^ 26 ∧ (b.x - c.x).natAbs ≤ 2 ^ 26 ∧
    ((a.x - c.x) * (b.y - c.y)).natAbs ≤ 2 ^ 52 ∧ ((a.y - c.y) * (b.x - c.x)).natAbs ≤ 2 ^ 52 ∧
    ((a.x - c.x) * (b.y - c.y) - (a.y - c.y) * (b.x - c.x)).natAbs ≤ 2 ^ 53 ∧
    ((a.x - c.x) * (b.y - c.y) + (a.y - c.y) * (b.x - c.x)).natAbs ≤ 2 ^ 53 := by
  have h1 := grid_sub_le ha.1 hc.1
  have h2 := grid_sub_le hb.2 hc.2
  have h3 := grid_sub_le ha.2 hc.2
  have h4 := grid_sub_le hb.1 hc.1
  have h5 := natAbs_mul_le_52 h1 h2
  have h6 := natAbs_mul_le_52 h3 h4
  have h56 : ((a.x - c.x) * (b.y - c.y)).natAbs + ((a.y - c.y) * (b.x - c.x)).natAbs ≤ 2 ^ 53 :=
    Nat.le_trans (Nat.add_le_add h5 h6) (by decide)
  exact ⟨h1, h2, h3, h4, h5, h6, Nat.le_trans (Int.natAbs_sub_le _ _) h56, Nat.le_trans (Int.natAbs_add_le _ _) h56⟩

/-! ### the filter on the grid -/

theorem signIdx_eq_sign (d : Dy) : signIdx d = d.m.sign := by
  unfold signIdx
  rcases Int.lt_trichotomy d.m 0 with h | h | h
  · have : ¬ (0 < d.m) := by omega
    simp [h, this, Int.sign_eq_neg_one_of_neg h]
  · simp [h]
  · have : ¬ (d.m < 0) := by omega
    simp [h, this, Int.sign_eq_one_of_pos h]

/-- the filter's determinant expression is `Kernel.det` -/
theorem filter_det_eq (a b c : Pt) :
    (a.x - c.x) * (b.y - c.y) - (a.y - c.y) * (b.x - c.x) = det a b c := by
  unfold det; ring

/-- on the grid the trace of the machine filter consists of the exact integers -/
theorem filterTrace_grid (coef : Dy) (k : Int) {a b c : Pt}
    (ha : OnGrid gridBound a) (hb : OnGrid gridBound b) (hc : OnGrid gridBound c) :
    let t := filterTrace roundNE coef (ofGrid k a.x) (ofGrid k a.y) (ofGrid k b.x) (ofGrid k b.y) (ofGrid k c.x) (ofGrid k c.y)
    t.detleft = Dy.mk' ((a.x - c.x) * (b.y - c.y)) (k + k) ∧
    t.detright = Dy.mk' ((a.y - c.y) * (b.x - c.x)) (k + k) ∧
    t.det = Dy.mk' (det a b c) (k + k) ∧
    t.detsum = Dy.mk' ((a.x - c.x) * (b.y - c.y) + (a.y - c.y) * (b.x - c.x)) (k + k) := by
  obtain ⟨h1, h2, h3, h4, h5, h6, h7, h8⟩ := grid_ops_exact ha hb hc
  have e26 : (2 : Nat) ^ 26 ≤ 2 ^ 53 := by decide
  have e52 : (2 : Nat) ^ 52 ≤ 2 ^ 53 := by decide
  simp only [filterTrace, fsub, fmul, fadd, ofGrid, mk'_sub, mk'_mul, mk'_add,
    roundNE_mk' _ _ (Nat.le_trans h1 e26), roundNE_mk' _ _ (Nat.le_trans h2 e26),
    roundNE_mk' _ _ (Nat.le_trans h3 e26), roundNE_mk' _ _ (Nat.le_trans h4 e26),
    roundNE_mk' _ _ (Nat.le_trans h5 e52), roundNE_mk' _ _ (Nat.le_trans h6 e52),
    roundNE_mk' _ _ h7, roundNE_mk' _ _ h8, true_and, and_true]
  rw [filter_det_eq]

/-- the machine filter on the grid is its exact-`Int` shadow -/
theorem filterGrid_eq_shadow (coef : Dy) (k : Int) {a b c : Pt}
    (ha : OnGrid gridBound a) (hb : OnGrid gridBound b) (hc : OnGrid gridBound c) :
    filterGrid roundNE coef k a b c = filterShadow roundNE coef k a b c := by
  obtain ⟨e1, e2, e3, e4⟩ := filterTrace_grid coef k ha hb hc
  unfold filterGrid orientationIndexFilterC filterShadow
  simp only at e1 e2 e3 e4 ⊢
  have herr : (filterTrace roundNE coef (ofGrid k a.x) (ofGrid k a.y) (ofGrid k b.x) (ofGrid k b.y) (ofGrid k c.x) (ofGrid k c.y)).error
      = roundNE (Dy.mul (Dy.abs (Dy.mk' ((a.x - c.x) * (b.y - c.y) + (a.y - c.y) * (b.x - c.x)) (k + k))) coef) := by
    rw [← e4]; rfl
  rw [herr, e3, signIdx_eq_sign, mk'_m, filter_det_eq]

/-- the shadow answers FAILURE or the sign of the exact determinant — whatever the error coefficient
and whatever the rounding of the error bound -/
theorem filterShadow_sound (rnd : Dy → Dy) (coef : Dy) (k : Int) (a b c : Pt) :
    filterShadow rnd coef k a b c = FAILURE ∨ filterShadow rnd coef k a b c = (det a b c).sign := by
  unfold filterShadow
  simp only [filter_det_eq]
  split
  · exact Or.inr rfl
  · exact Or.inl rfl

/-! ### antisymmetry of the filter under swapping the first two points -/

theorem Dy.mul_comm (a b : Dy) : Dy.mul a b = Dy.mul b a := by
  unfold Dy.mul; rw [Int.mul_comm, Int.add_comm]

theorem Dy.add_comm (a b : Dy) : Dy.add a b = Dy.add b a := by
  unfold Dy.add
  by_cases ha : a.m = 0 <;> by_cases hb : b.m = 0
  · simp [ha, hb]
  · simp [ha, hb, Dy.mk']
  · simp [ha, hb, Dy.mk']
  · simp only [ha, hb, if_false]
    rw [Int.min_comm, Int.add_comm]

theorem Dy.abs_neg (a : Dy) : Dy.abs (Dy.neg a) = Dy.abs a := by
  simp [Dy.abs, Dy.neg]

/-- `b - a = -(a - b)`, structurally -/
theorem Dy.sub_swap (a b : Dy) : Dy.sub b a = Dy.neg (Dy.sub a b) := by
  unfold Dy.sub Dy.add
  by_cases ha : a.m = 0 <;> by_cases hb : b.m = 0
  · simp [ha, hb, Dy.neg, Dy.zero]
  · simp [ha, hb, Dy.neg, Dy.mk']
  · simp [ha, hb, Dy.neg, Dy.mk']
  · have ha' : (Dy.neg a).m ≠ 0 := by simp [Dy.neg, ha]
    have hb' : (Dy.neg b).m ≠ 0 := by simp [Dy.neg, hb]
    simp only [ha, hb, ha', hb', if_false, mk'_neg]
    simp only [Dy.neg]
    rw [Int.min_comm]
    congr 1
    ring

theorem signIdx_neg (d : Dy) : signIdx (Dy.neg d) = - signIdx d := by
  rw [signIdx_eq_sign, signIdx_eq_sign]; simp [Dy.neg]

/-- negation of an orientation answer; FAILURE stays FAILURE -/
def negIdx (i : Int) : Int := if i = FAILURE then FAILURE else -i

theorem signIdx_ne_failure (d : Dy) : signIdx d ≠ FAILURE := by
  unfold signIdx FAILURE; split <;> split <;> omega

/-- the decision made from `detleft`, `detright` -/
def decideIdx (rnd : Dy → Dy) (coef dl dr : Dy) : Int :=
  if Dy.ge (Dy.abs (rnd (Dy.sub dl dr))) (rnd (Dy.mul (Dy.abs (rnd (Dy.add dl dr))) coef)) then
    signIdx (rnd (Dy.sub dl dr)) else FAILURE

theorem filterC_eq_decideIdx (rnd : Dy → Dy) (coef ax ay bx by' cx cy : Dy) :
    orientationIndexFilterC rnd coef ax ay bx by' cx cy =
      decideIdx rnd coef (rnd (Dy.mul (rnd (Dy.sub ax cx)) (rnd (Dy.sub by' cy))))
        (rnd (Dy.mul (rnd (Dy.sub ay cy)) (rnd (Dy.sub bx cx)))) := rfl

theorem decideIdx_swap (rnd : Dy → Dy) (hodd : ∀ x, rnd (Dy.neg x) = Dy.neg (rnd x)) (coef dl dr : Dy) :
    decideIdx rnd coef dr dl = negIdx (decideIdx rnd coef dl dr) := by
  unfold decideIdx
  rw [Dy.sub_swap dl dr, hodd, Dy.abs_neg, Dy.add_comm dr dl]
  split
  · rw [signIdx_neg]
    unfold negIdx
    rw [if_neg (signIdx_ne_failure _)]
  · simp [negIdx]

/-- **antisymmetry of the filter, arbitrary doubles**: for any rounding function that is odd
(`rnd (-x) = -(rnd x)`, true of round-to-nearest-even: `roundNE_neg`), swapping the first two points
negates the filter's answer, and it fails for one order iff it fails for the other. -/
theorem filter_antisym (rnd : Dy → Dy) (hodd : ∀ x, rnd (Dy.neg x) = Dy.neg (rnd x))
    (coef ax ay bx by' cx cy : Dy) :
    orientationIndexFilterC rnd coef bx by' ax ay cx cy
      = negIdx (orientationIndexFilterC rnd coef ax ay bx by' cx cy) := by
  rw [filterC_eq_decideIdx, filterC_eq_decideIdx,
    Dy.mul_comm (rnd (Dy.sub bx cx)) (rnd (Dy.sub ay cy)), Dy.mul_comm (rnd (Dy.sub by' cy)) (rnd (Dy.sub ax cx))]
  exact decideIdx_swap rnd hodd coef _ _

end GeosModel.Filter
