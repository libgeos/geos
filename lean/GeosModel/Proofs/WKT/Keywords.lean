import GeosModel.Model.WKT.Cxx
/-! The thirteen type keywords and the dimension words of the WKT reader: what `matchType` and `emptyOrOpener`
(Model/WKT/Read.lean) do on them. -/
namespace GeosModel.WKT
open GeosModel

theorem typeNames_mem (i : Nat) {n : String} (h : typeNames[i]? = some n) : n ∈ typeNames := List.mem_of_getElem? h

/-- no spelling of one keyword is a spelling of another: a table of 13 × 4 entries -/
theorem matchType_tags : ∀ n ∈ typeNames, ∀ sf ∈ tagSuffixes, matchType (n ++ sf.1) = some (n, sf.2) := by
  decide +kernel

theorem typeNames_end : ∀ n ∈ typeNames, endsWithC n 'Z' = false ∧ endsWithC n 'M' = false := by decide +kernel

theorem typeName_spec : ∀ n ∈ typeNames, n ≠ "EMPTY" ∧ matchType n = some (n, {}) := fun n hn =>
  ⟨fun h => absurd (h ▸ hn) (by decide +kernel), by simpa using matchType_tags n hn ("", {}) (.head _)⟩

/-- the end of `emptyOrOpener`: `EMPTY` or `(` must follow -/
def eooFin (fl : Flags) : List Tok → P ((Bool × Flags) × List Tok)
  | .word "EMPTY" :: r => .ok ((true, fl), r)
  | .lp :: r => .ok ((false, fl), r)
  | _ => .error .parse

/-- `emptyOrOpener` by its first token; after `Z` the test for `M` is subsumed by `eooFin`, which rejects `M` too -/
theorem emptyOrOpener_ZM (fl : Flags) (r : List Tok) : emptyOrOpener fl (.word "ZM" :: r) =
    if !fl.ca then .error .parse else eooFin { z := true, m := true, ca := false } r := rfl
theorem emptyOrOpener_Z (fl : Flags) (r : List Tok) : emptyOrOpener fl (.word "Z" :: r) =
    if !fl.ca then .error .parse else eooFin { z := true, m := fl.m, ca := false } r := by
  have h : eooFin { z := true, m := fl.m, ca := false } r = match r with
      | .word "M" :: _ => .error .parse
      | _ => eooFin { z := true, m := fl.m, ca := false } r := by
    split <;> rfl
  rw [h]; rfl
theorem emptyOrOpener_M (fl : Flags) (r : List Tok) : emptyOrOpener fl (.word "M" :: r) =
    if !fl.ca then .error .parse else eooFin { z := fl.z, m := true, ca := false } r := rfl
theorem emptyOrOpener_other (fl : Flags) (t : Tok) (r : List Tok) (h1 : t ≠ .word "ZM") (h2 : t ≠ .word "Z")
    (h3 : t ≠ .word "M") : emptyOrOpener fl (t :: r) = eooFin fl (t :: r) := by
  unfold emptyOrOpener
  -- the three branches for a dimension word would make `t` that word
  split
  · rename_i h; exact absurd (List.cons.inj h).1 h1
  · rename_i h; exact absurd (List.cons.inj h).1 h2
  · rename_i h; exact absurd (List.cons.inj h).1 h3
  · rfl

end GeosModel.WKT
