import GeosModel.Model.WKT.Spec
import GeosModel.Proofs.WKT.Keywords
/-! Token-level round trip of the WKT writer/reader models (ISO tags), for the geometry classes without
curved components.
Also defines the hypotheses of that theorem: `WFs` / `WFsL` (with `isPt`, `isLn`, `isPg`) and the fuel `gFuel` / `gsFuel` / `seqsFuel`. -/
namespace GeosModel.WKT
open GeosModel

/-- the reader's flags agree with the ordinates the writer used; undeclared (`ca`) only for plain XY -/
structure FOK (o : Ords) (fl : Flags) : Prop where
  z : fl.z = o.z
  m : fl.m = o.m
  ca : fl.ca = true → o.z = false ∧ o.m = false

theorem FOK_fixed {o : Ords} {fl : Flags} (h : FOK o fl) : FOK o { fl with ca := false } :=
  ⟨h.z, h.m, by intro hc; cases hc⟩

theorem getCoord_ok (o : Ords) (fl : Flags) (c : Coord) (rest : List Tok) (hf : FOK o fl)
    (hr : isNumNext rest = false) :
    getCoord fl (coordToks o c ++ rest) = .ok ((projCoord o id c, { fl with ca := false }), rest) := by
  obtain ⟨fz, fm, fca⟩ := fl
  obtain ⟨oz, om⟩ := o
  obtain ⟨rfl, rfl, h⟩ := hf
  cases fca
  · cases fz <;> cases fm <;> rfl
  · -- still open for changes: plain XY, and no number follows
    obtain ⟨rfl, rfl⟩ := h rfl
    simp [getCoord, coordToks, getNum, projCoord, bind, Except.bind, pure, Except.pure, hr]

/-- coordinates after the first one, each preceded by a comma -/
def tailToks (o : Ords) : List Coord → List Tok
  | [] => []
  | c :: cs => .comma :: coordToks o c ++ tailToks o cs

theorem coordsToks_cons (o : Ords) (c : Coord) (cs : List Coord) :
    coordsToks o (c :: cs) = coordToks o c ++ tailToks o cs := by
  induction cs generalizing c with
  | nil => simp [coordsToks, tailToks]
  | cons d ds ih => simp [coordsToks, tailToks, ih]

theorem isNumNext_tail (o : Ords) (cs : List Coord) (rest : List Tok) :
    isNumNext (tailToks o cs ++ .rp :: rest) = false := by
  cases cs <;> rfl

theorem moreCoords_ok (o : Ords) : ∀ (cs : List Coord) (f : Nat) (fl : Flags) (rest : List Tok),
    FOK o fl → cs.length + 1 ≤ f →
    moreCoords f fl (tailToks o cs ++ .rp :: rest) = .ok (cs.map (projCoord o id), rest)
  | [], f + 1, fl, rest, _, _ => rfl
  | c :: cs, f + 1, fl, rest, hfl, hf => by
    simp only [moreCoords, tailToks, List.cons_append, closerOrComma, bind, Except.bind, if_true, List.append_assoc]
    rw [getCoord_ok o fl c _ hfl (isNumNext_tail o cs rest)]
    simp only
    rw [moreCoords_ok o cs f _ rest (FOK_fixed hfl) (by simp at hf; omega)]
    rfl

/-- what the reader's flags look like after the sequence -/
def flagsAfter (fl : Flags) (s : CSeq) : Flags := if s.pts.isEmpty then fl else { fl with ca := false }

theorem FOK_after {o : Ords} {fl : Flags} (s : CSeq) (h : FOK o fl) : FOK o (flagsAfter fl s) := by
  unfold flagsAfter; split
  · exact h
  · exact FOK_fixed h

/-- after the tokens `pre` (a dimension tag, or nothing) a reader holding flags `fl` accepts `(` and `EMPTY`, and then holds `fl1` -/
structure Opens (fl : Flags) (pre : List Tok) (fl1 : Flags) : Prop where
  lp : ∀ r, emptyOrOpener fl (pre ++ .lp :: r) = .ok ((false, fl1), r)
  empty : ∀ r, emptyOrOpener fl (pre ++ .word "EMPTY" :: r) = .ok ((true, fl1), r)

theorem opens_plain (fl : Flags) : Opens fl [] fl := ⟨fun _ => rfl, fun _ => rfl⟩

/-- flags after the dimension tag of a geometry with output ordinates `o` -/
def tagFlags (o : Ords) : Flags := { z := o.z, m := o.m, ca := !(o.z || o.m) }

theorem FOK_tag (o : Ords) : FOK o (tagFlags o) :=
  ⟨rfl, rfl, by cases o with | mk z m => cases z <;> cases m <;> simp [tagFlags]⟩

theorem opens_tag (cfg : Cfg) (hiso : cfg.old3D = false) (o : Ords) : Opens {} (ordText cfg o) (tagFlags o) := by
  obtain ⟨oz, om⟩ := o
  constructor <;> intro r <;> cases oz <;> cases om <;> simp [ordText, hiso, emptyOrOpener, tagFlags]

theorem getCoordinates_of (o : Ords) (s : CSeq) (f : Nat) {fl fl1 : Flags} {pre : List Tok} (rest : List Tok)
    (hop : Opens fl pre fl1) (hfl : FOK o fl1) (hf : s.pts.length + 1 ≤ f) :
    getCoordinates f fl (pre ++ seqText o s ++ rest) = .ok ((projSeq o id s, flagsAfter fl1 s), rest) := by
  unfold seqText flagsAfter getCoordinates
  cases hs : s.pts with
  | nil =>
    simp only [List.isEmpty_nil, if_true, List.append_assoc, List.singleton_append]
    rw [hop.empty]
    simp [bind, Except.bind, pure, Except.pure, projSeq, hs, hfl.z, hfl.m]
  | cons c cs =>
    simp only [List.isEmpty_cons, Bool.false_eq_true, if_false, List.cons_append, List.append_assoc]
    rw [hop.lp, coordsToks_cons]
    simp only [bind, Except.bind, Bool.false_eq_true, if_false, List.append_assoc]
    rw [getCoord_ok o fl1 c _ hfl (by simp [isNumNext_tail])]
    simp only
    rw [List.nil_append, moreCoords_ok o cs f _ rest (FOK_fixed hfl) (by rw [hs] at hf; simp at hf; omega)]
    simp [pure, Except.pure, projSeq, hs, hfl.z, hfl.m]

theorem getCoordinates_plain (o : Ords) (s : CSeq) (f : Nat) (fl : Flags) (rest : List Tok)
    (hfl : FOK o fl) (hf : s.pts.length + 1 ≤ f) :
    getCoordinates f fl (seqText o s ++ rest) = .ok ((projSeq o id s, flagsAfter fl s), rest) :=
  getCoordinates_of o s f rest (opens_plain fl) hfl hf

/-! ### a tagged geometry: keyword, dimension tag, body -/

/-- `readTagged` on a type keyword: once the specific reader has returned `g` with flags that agree with the ordinates `o`
the caller allows, `g` is the result -/
theorem readTagged_of {n : String} (hn : n ∈ typeNames) {o : Ords} {f : Nat} {orig : Flags} {ek : EmptyKind}
    {ts rest : List Tok} {g : G} (ho : orig.ca = true ∨ (orig.z = o.z ∧ orig.m = o.m))
    (hb : ∃ nf, FOK o nf ∧ readBody f n {} ts = .ok ((g, nf), rest)) :
    readTagged (f + 1) orig ek (.word n :: ts) = .ok (g, rest) := by
  obtain ⟨h1, h2⟩ := typeName_spec n hn
  obtain ⟨nf, hnf, hb⟩ := hb
  -- the "Cannot mix dimensionality" test passes
  have hmix : (!orig.ca && !(nf.sameDims orig)) = false := by
    rcases ho with h | ⟨a, b⟩
    · simp [h]
    · simp [Flags.sameDims, hnf.z, hnf.m, a, b]
  simp only [readTagged, if_neg h1, h2, hb, bind, Except.bind, hmix]
  rfl

theorem projSeq_len (o : Ords) (s : CSeq) : (projSeq o id s).pts.length = s.pts.length := by
  simp [projSeq]

theorem ringOK_proj (o : Ords) (s : CSeq) : ringOK (projSeq o id s) = ringOK s := by
  unfold ringOK closedSeq projSeq
  cases hs : s.pts with
  | nil => simp
  | cons c cs =>
    simp only [List.map_cons, List.isEmpty_cons, List.head?_cons, List.length_cons, List.length_map, Bool.false_or]
    have : ((projCoord o id c :: List.map (projCoord o id) cs).getLast?) = ((c :: cs).getLast?).map (projCoord o id) := by
      rw [← List.map_cons, List.getLast?_map]
    rw [this]
    cases hl : (c :: cs).getLast? with
    | none => simp
    | some l => simp [eq2D, projCoord]

theorem commaSep_cons₂ (x y : List Tok) (ys : List (List Tok)) (t : List Tok) :
    commaSep (x :: y :: ys) ++ t = x ++ .comma :: (commaSep (y :: ys) ++ t) := by
  simp [commaSep]

/-- One turn of an element loop `rd` (`readRings`, `readPoints`, `readLines`, `readPolygons` all have this shape) on the text of
an element `a` accepted by `ok`, given fuel `fuel a`: the element is read as `prj a`, then `,` and the loop again, or `)`. -/
def LoopStep {α β : Type} (rd : Nat → Flags → List Tok → P ((List β × Flags) × List Tok)) (I : Flags → Prop) (ok : α → Prop)
    (txt : α → List Tok) (prj : α → β) (fuel : α → Nat) : Prop :=
  ∀ a f fl tl, I fl → ok a → fuel a ≤ f → ∃ fl', I fl' ∧ rd (f + 1) fl (txt a ++ tl) = do
    let (more, ts) ← closerOrComma tl
    if more then
      let ((gs, fl), ts) ← rd f fl' ts
      pure ((prj a :: gs, fl), ts)
    else pure (([prj a], fl'), ts)

/-- such a loop reads a comma-separated list up to its `)`; `F` is the fuel a list needs -/
theorem sepLoop_ok {α β : Type} {rd : Nat → Flags → List Tok → P ((List β × Flags) × List Tok)} {I : Flags → Prop}
    {ok : α → Prop} {txt : α → List Tok} {prj : α → β} {fuel : α → Nat} (hstep : LoopStep rd I ok txt prj fuel)
    (F : List α → Nat) (hF : ∀ a as, fuel a + 1 + F as ≤ F (a :: as)) :
    ∀ (as : List α) (a0 : α) (f : Nat) (fl : Flags) (rest : List Tok), I fl → (∀ a ∈ a0 :: as, ok a) →
      F (a0 :: as) ≤ f →
      ∃ fl', I fl' ∧ rd f fl (commaSep ((a0 :: as).map txt) ++ .rp :: rest) = .ok (((a0 :: as).map prj, fl'), rest)
  | [], a0, f, fl, rest, hI, hok, hf => by
    have := hF a0 []
    obtain ⟨f, rfl⟩ : ∃ k, f = k + 1 := ⟨f - 1, by omega⟩
    obtain ⟨fl', hI', h⟩ := hstep a0 f fl (.rp :: rest) hI (hok a0 (.head _)) (by omega)
    exact ⟨fl', hI', by rw [List.map_cons, List.map_nil, commaSep, h]; rfl⟩
  | a1 :: as, a0, f, fl, rest, hI, hok, hf => by
    have := hF a0 (a1 :: as)
    obtain ⟨f, rfl⟩ : ∃ k, f = k + 1 := ⟨f - 1, by omega⟩
    obtain ⟨fl1, hI1, h⟩ := hstep a0 f fl (.comma :: (commaSep ((a1 :: as).map txt) ++ .rp :: rest)) hI
      (hok a0 (.head _)) (by omega)
    obtain ⟨fl', hI', ih⟩ := sepLoop_ok hstep F hF as a1 f fl1 rest hI1
      (fun a ha => hok a (.tail _ ha)) (by omega)
    refine ⟨fl', hI', ?_⟩
    rw [List.map_cons, List.map_cons, commaSep_cons₂, ← List.map_cons, h]
    simp only [closerOrComma, bind, Except.bind, if_true, ih]
    rfl

/-- fuel for a list of sequences -/
def seqsFuel : List CSeq → Nat
  | [] => 0
  | s :: ss => s.pts.length + 2 + seqsFuel ss

theorem readRings_step (o : Ords) :
    LoopStep readRings (FOK o) (ringOK · = true) (seqText o) (projSeq o id) (·.pts.length + 1) := by
  intro s f fl tl hfl hs hf
  refine ⟨_, FOK_after s hfl, ?_⟩
  rw [readRings, getCoordinates_plain o s f fl tl hfl hf]
  simp only [bind, Except.bind, ringOK_proj, hs, Bool.not_true, Bool.false_eq_true, if_false]

/-- a polygon body (`EMPTY` or `( rings )`) behind an opener -/
theorem readPolygon_of (o : Ords) (sh : CSeq) (hs : List CSeq) (f : Nat) {fl fl1 : Flags} {pre : List Tok}
    (rest : List Tok) (hop : Opens fl pre fl1) (hfl : FOK o fl1) (hwf : ∀ s ∈ sh :: hs, ringOK s = true)
    (hf : seqsFuel (sh :: hs) + 1 ≤ f) :
    ∃ fl', FOK o fl' ∧
      readPolygon f fl (pre ++ polygonText o sh hs ++ rest) = .ok ((projPolygon o id sh hs, fl'), rest) := by
  obtain ⟨f, rfl⟩ : ∃ g, f = g + 1 := ⟨f - 1, by omega⟩
  unfold polygonText projPolygon
  by_cases he : sh.pts.isEmpty = true
  · refine ⟨fl1, hfl, ?_⟩
    simp only [he, if_true, readPolygon, List.append_assoc, List.singleton_append, bind, Except.bind]
    rw [hop.empty]
    simp [pure, Except.pure, hfl.z, hfl.m]
  · obtain ⟨fl', hfl', hr⟩ :=
      sepLoop_ok (readRings_step o) seqsFuel (fun _ _ => Nat.le_refl _) hs sh f fl1 rest hfl hwf (by omega)
    refine ⟨fl', hfl', ?_⟩
    simp only [he, Bool.false_eq_true, if_false, readPolygon, List.append_assoc, List.cons_append, bind, Except.bind]
    rw [hop.lp, List.nil_append]
    simp only [Bool.false_eq_true, if_false]
    rw [hr]
    have hne : (projSeq o id sh).pts.isEmpty = false := by
      simpa [projSeq] using he
    simp [hne, pure, Except.pure]

/-! ### well-formedness (what the geometry factory enforces) for the classes without curved components -/

def isPt : G → Bool
  | .point s => decide (s.pts.length ≤ 1)
  | _ => false
def isLn : G → Bool
  | .lineString s => decide (s.pts.length ≠ 1)
  | _ => false
def isPg : G → Bool
  | .polygon sh hs => ringOK sh && hs.all ringOK
  | _ => false

mutual
  def WFs : G → Bool
    | .point s => decide (s.pts.length ≤ 1)
    | .lineString s => decide (s.pts.length ≠ 1)
    | .linearRing s => ringOK s
    | .circularString s => decide (s.pts.length ≠ 2)
    | .polygon sh hs => ringOK sh && hs.all ringOK
    | .multiPoint gs => gs.all isPt
    | .multiLineString gs => gs.all isLn
    | .multiPolygon gs => gs.all isPg
    | .collection gs => WFsL gs
    | .compoundCurve _ | .curvePolygon _ | .multiCurve _ | .multiSurface _ => false
  def WFsL : List G → Bool
    | [] => true
    | g :: gs => WFs g && WFsL gs
end

mutual
  /-- fuel that certainly suffices to read the geometry back -/
  def gFuel : G → Nat
    | .point s | .lineString s | .linearRing s | .circularString s => s.pts.length + 3
    | .polygon sh hs => seqsFuel (sh :: hs) + 3
    | .compoundCurve gs | .curvePolygon gs | .multiPoint gs | .multiLineString gs | .multiPolygon gs
    | .multiCurve gs | .multiSurface gs | .collection gs => gsFuel gs + 3
  def gsFuel : List G → Nat
    | [] => 0
    | g :: gs => gFuel g + 1 + gsFuel gs
end

theorem ringsWF_of (sh : CSeq) (hs : List CSeq) (h : (ringOK sh && hs.all ringOK) = true) :
    ∀ s ∈ sh :: hs, ringOK s = true := by
  simpa using h

theorem pointsText_eq_map (o : Ords) (gs : List G) : pointsText o gs = gs.map (pointElemText o) := by
  induction gs <;> simp [pointsText, *]
theorem curvesText_eq_map (cfg : Cfg) (o : Ords) (gs : List G) : curvesText cfg o gs = gs.map (curveText cfg o) := by
  induction gs <;> simp [curvesText, *]
theorem surfacesText_eq_map (cfg : Cfg) (o : Ords) (gs : List G) :
    surfacesText cfg o gs = gs.map (surfaceElemText cfg o) := by
  induction gs <;> simp [surfacesText, *]
theorem projPoints_eq_map (o : Ords) (f : UInt64 → UInt64) (gs : List G) : projPoints o f gs = gs.map (projPoint o f) := by
  induction gs <;> simp [projPoints, *]
theorem projCurves_eq_map (o : Ords) (f : UInt64 → UInt64) (gs : List G) : projCurves o f gs = gs.map (projCurve o f) := by
  induction gs <;> simp [projCurves, *]
theorem projSurfaces_eq_map (o : Ords) (f : UInt64 → UInt64) (gs : List G) :
    projSurfaces o f gs = gs.map (projSurface o f) := by
  induction gs <;> simp [projSurfaces, *]

/-- an element of a MULTIPOINT is written and read back like a bare sequence -/
theorem pointElem_eq (o : Ords) (s : CSeq) (h : s.pts.length ≤ 1) :
    pointElemText o (.point s) = seqText o s ∧ projPoint o id (.point s) = .point (projSeq o id s) := by
  obtain ⟨z, m, pts⟩ := s
  unfold pointElemText seqText projPoint projSeq
  match pts, h with
  | [], _ => simp
  | [c], _ => simp [coordsToks]

theorem pointElemText_head (o : Ords) (g : G) (h : isPt g = true) (t : List Tok) :
    ∃ r, pointElemText o g ++ t = .lp :: r ∨ pointElemText o g ++ t = .word "EMPTY" :: r := by
  cases g <;> simp only [isPt, Bool.false_eq_true] at h
  rename_i s
  cases hs : s.pts <;> simp [pointElemText, hs]

theorem commaSep_head (x : List Tok) (xs : List (List Tok)) (t : List Tok) : ∃ t', commaSep (x :: xs) ++ t = x ++ t' := by
  cases xs
  · exact ⟨t, rfl⟩
  · exact ⟨_, commaSep_cons₂ ..⟩

theorem readPoints_step (o : Ords) : LoopStep readPoints (FOK o) (isPt · = true) (pointElemText o) (projPoint o id) gFuel := by
  intro g f fl tl hfl hg hf
  cases g <;> simp only [isPt, Bool.false_eq_true, decide_eq_true_eq] at hg
  rename_i s
  refine ⟨_, FOK_after s hfl, ?_⟩
  rw [(pointElem_eq o s hg).1, (pointElem_eq o s hg).2, readPoints,
    getCoordinates_plain o s f fl tl hfl (by simp only [gFuel] at hf; omega)]
  simp only [bind, Except.bind, mkPoint, projSeq_len, hg, if_true]

theorem readLines_step (cfg : Cfg) (o : Ords) :
    LoopStep readLines (FOK o) (isLn · = true) (curveText cfg o) (projCurve o id) gFuel := by
  intro g f fl tl hfl hg hf
  cases g <;> simp only [isLn, Bool.false_eq_true, decide_eq_true_eq] at hg
  rename_i s
  refine ⟨_, FOK_after s hfl, ?_⟩
  simp only [curveText, simpleCurveText, projCurve, projSimple, readLines]
  rw [getCoordinates_plain o s f fl tl hfl (by simp only [gFuel] at hf; omega)]
  simp only [bind, Except.bind, mkLine, projSeq_len, hg, if_false]

theorem readPolygons_step (cfg : Cfg) (o : Ords) :
    LoopStep readPolygons (FOK o) (isPg · = true) (surfaceElemText cfg o) (projSurface o id) gFuel := by
  intro g f fl tl hfl hg hf
  cases g <;> simp only [isPg, Bool.false_eq_true] at hg
  rename_i sh hs
  obtain ⟨fl', hfl', hr⟩ := readPolygon_of o sh hs f tl (opens_plain fl) hfl (ringsWF_of sh hs hg)
    (by simp only [gFuel] at hf; omega)
  refine ⟨fl', hfl', ?_⟩
  simp only [surfaceElemText, projSurface, readPolygons]
  rw [← List.nil_append (polygonText o sh hs), hr]
  rfl

/-- the opener in front of a parenthesised list, or of `EMPTY` for the empty list -/
theorem opener_listText {fl fl1 : Flags} {pre : List Tok} (hop : Opens fl pre fl1) (elems : List (List Tok))
    (rest : List Tok) :
    emptyOrOpener fl (pre ++ listText elems ++ rest) =
      .ok ((elems.isEmpty, fl1), if elems.isEmpty then rest else commaSep elems ++ .rp :: rest) := by
  unfold listText
  cases elems with
  | nil => simp only [List.isEmpty_nil, if_true, List.append_assoc, List.singleton_append, hop.empty]
  | cons x xs =>
    simp only [List.isEmpty_cons, Bool.false_eq_true, if_false, List.append_assoc, List.cons_append, List.nil_append,
      hop.lp]

/-- the body of a MULTILINESTRING or MULTIPOLYGON: `EMPTY`, or the element loop `rd` between parentheses -/
theorem openLoop_ok {α β : Type} (C : List β → G) (rd : Flags → List Tok → P ((List β × Flags) × List Tok)) {o : Ords}
    {fl fl1 : Flags} {pre : List Tok} (hop : Opens fl pre fl1) (hfl : FOK o fl1) (txt : α → List Tok) (prj : α → β)
    (as : List α) (rest : List Tok)
    (hrd : as ≠ [] → ∃ fl', FOK o fl' ∧ rd fl1 (commaSep (as.map txt) ++ .rp :: rest) = .ok ((as.map prj, fl'), rest)) :
    ∃ fl', FOK o fl' ∧ (do
      let ((emp, fl), ts) ← emptyOrOpener fl (pre ++ listText (as.map txt) ++ rest)
      if emp then pure ((C [], fl), ts)
      else
        let ((gs, fl), ts) ← rd fl ts
        pure ((C gs, fl), ts)) = .ok ((C (as.map prj), fl'), rest) := by
  rw [opener_listText hop]
  cases as with
  | nil => exact ⟨fl1, hfl, rfl⟩
  | cons a as =>
    obtain ⟨fl', hfl', hr⟩ := hrd (List.cons_ne_nil _ _)
    refine ⟨fl', hfl', ?_⟩
    simp only [List.map_cons, List.isEmpty_cons, bind, Except.bind, Bool.false_eq_true, if_false]
    rw [← List.map_cons, hr]
    rfl

/-- a tagged single-sequence geometry: a keyword `n` whose body is a coordinate sequence followed by the constructor check `mk` -/
theorem read_seq (cfg : Cfg) (hiso : cfg.old3D = false) {n : String} (hn : n ∈ typeNames) (mk : CSeq → Except Err G)
    (hbody : ∀ f ts, readBody (f + 1) n {} ts = do
      let ((s, fl), ts) ← getCoordinates f {} ts
      let g ← mk s
      pure ((g, fl), ts))
    (o : Ords) (s : CSeq) {g : G} (hmk : mk (projSeq o id s) = .ok g) (f : Nat) (orig : Flags) (ek : EmptyKind)
    (rest : List Tok) (hf : s.pts.length + 3 ≤ f) (ho : orig.ca = true ∨ (orig.z = o.z ∧ orig.m = o.m)) :
    readTagged f orig ek (.word n :: (ordText cfg o ++ seqText o s ++ rest)) = .ok (g, rest) := by
  obtain ⟨f, rfl⟩ : ∃ k, f = k + 2 := ⟨f - 2, by omega⟩
  exact readTagged_of hn ho ⟨_, FOK_after s (FOK_tag o), by
    rw [hbody, getCoordinates_of o s f rest (opens_tag cfg hiso o) (FOK_tag o) (by omega)]
    simp only [bind, Except.bind, hmk]
    rfl⟩

mutual
  theorem read_tagged_ok (cfg : Cfg) (hiso : cfg.old3D = false) :
      (g : G) → WFs g = true → dimOK cfg g = true →
      ∀ (f : Nat) (orig : Flags) (ek : EmptyKind) (rest : List Tok), gFuel g ≤ f →
        (orig.ca = true ∨ (orig.z = (outOrds cfg g).z ∧ orig.m = (outOrds cfg g).m)) →
        readTagged f orig ek (tagged cfg g ++ rest) = .ok (project cfg id g, rest)
    | .point s, hwf, _, f, orig, ek, rest, hf, ho => by
      simp only [WFs, decide_eq_true_eq] at hwf
      simp only [gFuel] at hf
      simp only [tagged, project, List.cons_append]
      exact read_seq cfg hiso (typeNames_mem 0 rfl) mkPoint
        (fun _ _ => by simp only [readBody, String.reduceEq, if_true, if_false]) _ s
        (by simp only [mkPoint, projSeq_len, hwf, if_true]) f orig ek rest hf ho
    | .lineString s, hwf, _, f, orig, ek, rest, hf, ho => by
      simp only [WFs, decide_eq_true_eq] at hwf
      simp only [gFuel] at hf
      simp only [tagged, project, List.cons_append]
      exact read_seq cfg hiso (typeNames_mem 1 rfl) mkLine
        (fun _ _ => by simp only [readBody, String.reduceEq, if_true, if_false]) _ s
        (by simp only [mkLine, projSeq_len, hwf, if_false]) f orig ek rest hf ho
    | .linearRing s, hwf, _, f, orig, ek, rest, hf, ho => by
      simp only [WFs] at hwf
      simp only [gFuel] at hf
      simp only [tagged, project, List.cons_append]
      exact read_seq cfg hiso (typeNames_mem 2 rfl) mkRing
        (fun _ _ => by simp only [readBody, String.reduceEq, if_true, if_false]) _ s
        (by simp only [mkRing, ringOK_proj, hwf, if_true]) f orig ek rest hf ho
    | .circularString s, hwf, _, f, orig, ek, rest, hf, ho => by
      simp only [WFs, decide_eq_true_eq] at hwf
      simp only [gFuel] at hf
      simp only [tagged, project, List.cons_append]
      exact read_seq cfg hiso (typeNames_mem 3 rfl) mkCirc
        (fun _ _ => by simp only [readBody, String.reduceEq, if_true, if_false]) _ s
        (by simp only [mkCirc, projSeq_len, hwf, if_false]) f orig ek rest hf ho
    | .polygon sh hs, hwf, _, f, orig, ek, rest, hf, ho => by
      simp only [WFs] at hwf
      simp only [gFuel] at hf
      obtain ⟨f, rfl⟩ : ∃ k, f = k + 2 := ⟨f - 2, by omega⟩
      obtain ⟨fl', hfl', hr⟩ := readPolygon_of (outOrds cfg (.polygon sh hs)) sh hs f rest (opens_tag cfg hiso _)
        (FOK_tag _) (ringsWF_of sh hs hwf) (by omega)
      simp only [tagged, project, List.cons_append]
      exact readTagged_of (typeNames_mem 5 rfl) ho ⟨fl', hfl', by simp only [readBody, String.reduceEq, if_true, if_false]; exact hr⟩
    | .multiPoint gs, hwf, _, f, orig, ek, rest, hf, ho => by
      simp only [WFs, List.all_eq_true] at hwf
      simp only [gFuel] at hf
      obtain ⟨f, rfl⟩ : ∃ k, f = k + 3 := ⟨f - 3, by omega⟩
      simp only [tagged, project, List.cons_append, pointsText_eq_map, projPoints_eq_map]
      generalize outOrds cfg (.multiPoint gs) = o at ho ⊢
      refine readTagged_of (typeNames_mem 7 rfl) ho ?_
      simp only [readBody, String.reduceEq, if_true, if_false, readMultiPoint, opener_listText (opens_tag cfg hiso o), bind,
        Except.bind]
      cases gs with
      | nil => exact ⟨_, FOK_tag o, rfl⟩
      | cons g0 gs =>
        obtain ⟨fl', hfl', hr⟩ := sepLoop_ok (readPoints_step o) gsFuel (fun _ _ => Nat.le_refl _) gs g0 f (tagFlags o) rest (FOK_tag o) hwf
          (by omega)
        refine ⟨fl', hfl', ?_⟩
        -- the first token of the first element, `(` or `EMPTY`, selects the syntax with one sequence per point
        obtain ⟨t, ht⟩ := commaSep_head (pointElemText o g0) (gs.map (pointElemText o)) (.rp :: rest)
        simp only [List.map_cons, List.isEmpty_cons, Bool.false_eq_true, if_false, ht] at hr ⊢
        rcases pointElemText_head o g0 (hwf g0 (.head _)) t with ⟨r, h | h⟩ <;> rw [h] at hr ⊢ <;> simp only [hr] <;> rfl
    | .multiLineString gs, hwf, _, f, orig, ek, rest, hf, ho => by
      simp only [WFs, List.all_eq_true] at hwf
      simp only [gFuel] at hf
      obtain ⟨f, rfl⟩ : ∃ k, f = k + 2 := ⟨f - 2, by omega⟩
      simp only [tagged, project, List.cons_append, curvesText_eq_map, projCurves_eq_map]
      generalize outOrds cfg (.multiLineString gs) = o at ho ⊢
      refine readTagged_of (typeNames_mem 8 rfl) ho ?_
      simp only [readBody, String.reduceEq, if_true, if_false]
      exact openLoop_ok .multiLineString (readLines f) (opens_tag cfg hiso o) (FOK_tag o) _ _ gs rest fun hne => by
        obtain ⟨g0, gs, rfl⟩ := List.exists_cons_of_ne_nil hne
        exact sepLoop_ok (readLines_step cfg o) gsFuel (fun _ _ => Nat.le_refl _) gs g0 f _ rest (FOK_tag o) hwf
          (by simp only [gsFuel] at hf ⊢; omega)
    | .multiPolygon gs, hwf, _, f, orig, ek, rest, hf, ho => by
      simp only [WFs, List.all_eq_true] at hwf
      simp only [gFuel] at hf
      obtain ⟨f, rfl⟩ : ∃ k, f = k + 2 := ⟨f - 2, by omega⟩
      simp only [tagged, project, List.cons_append, surfacesText_eq_map, projSurfaces_eq_map]
      generalize outOrds cfg (.multiPolygon gs) = o at ho ⊢
      refine readTagged_of (typeNames_mem 10 rfl) ho ?_
      simp only [readBody, String.reduceEq, if_true, if_false]
      exact openLoop_ok .multiPolygon (readPolygons f) (opens_tag cfg hiso o) (FOK_tag o) _ _ gs rest fun hne => by
        obtain ⟨g0, gs, rfl⟩ := List.exists_cons_of_ne_nil hne
        exact sepLoop_ok (readPolygons_step cfg o) gsFuel (fun _ _ => Nat.le_refl _) gs g0 f _ rest (FOK_tag o) hwf
          (by simp only [gsFuel] at hf ⊢; omega)
    | .collection gs, hwf, hdim, f, orig, ek, rest, hf, ho => by
      simp only [WFs] at hwf
      simp only [gFuel] at hf
      obtain ⟨f, rfl⟩ : ∃ k, f = k + 2 := ⟨f - 2, by omega⟩
      simp only [dimOK, Bool.and_eq_true, Bool.or_eq_true] at hdim
      simp only [tagged, project, List.cons_append]
      generalize outOrds cfg (.collection gs) = o at ho hdim ⊢
      refine readTagged_of (typeNames_mem 12 rfl) ho ⟨_, FOK_tag o, ?_⟩
      simp only [readBody, String.reduceEq, if_true, if_false, opener_listText (opens_tag cfg hiso o), bind, Except.bind]
      match gs, hwf, hdim, hf with
      | [], _, _, _ => rfl
      | g0 :: gs, hwf, hdim, hf =>
        have hc : (tagFlags o).ca = true ∨ sameOrds cfg ⟨(tagFlags o).z, (tagFlags o).m⟩ (g0 :: gs) = true :=
          hdim.2.imp (fun h => by simpa [tagFlags] using h) id
        simp only [taggedList, List.isEmpty_cons, Bool.false_eq_true, if_false]
        rw [← taggedList, read_geoms_ok cfg hiso (g0 :: gs) (List.cons_ne_nil _ _) hwf hdim.1 f (tagFlags o) rest (by omega) hc]
        rfl
    | .compoundCurve _, hwf, _, _, _, _, _, _, _ | .curvePolygon _, hwf, _, _, _, _, _, _, _
    | .multiCurve _, hwf, _, _, _, _, _, _, _ | .multiSurface _, hwf, _, _, _, _, _, _, _ => by simp [WFs] at hwf

  theorem read_geoms_ok (cfg : Cfg) (hiso : cfg.old3D = false) :
      (l : List G) → l ≠ [] → WFsL l = true → dimOKs cfg l = true →
      ∀ (f : Nat) (fl : Flags) (rest : List Tok), gsFuel l ≤ f →
        (fl.ca = true ∨ sameOrds cfg ⟨fl.z, fl.m⟩ l = true) →
        readGeoms f fl (commaSep (taggedList cfg l) ++ .rp :: rest) = .ok (projectList cfg id l, rest)
    | [], hne, _, _, _, _, _, _, _ => absurd rfl hne
    | g :: gs, _, hwf, hdim, f, fl, rest, hf, hc => by
      simp only [WFsL, Bool.and_eq_true] at hwf
      simp only [dimOKs, Bool.and_eq_true] at hdim
      simp only [gsFuel] at hf
      obtain ⟨f, rfl⟩ : ∃ k, f = k + 1 := ⟨f - 1, by omega⟩
      have hg : fl.ca = true ∨ (fl.z = (outOrds cfg g).z ∧ fl.m = (outOrds cfg g).m) :=
        hc.imp id fun h => by
          simp only [sameOrds, Bool.and_eq_true, decide_eq_true_eq] at h
          rw [h.1]; exact ⟨rfl, rfl⟩
      match gs, hwf, hdim, hf, hc with
      | [], hwf, hdim, hf, _ =>
        simp only [taggedList, commaSep, readGeoms, bind, Except.bind]
        rw [read_tagged_ok cfg hiso g hwf.1 hdim.1 f fl .none (.rp :: rest) (by omega) hg]
        rfl
      | g1 :: gs, hwf, hdim, hf, hc =>
        have hc' : fl.ca = true ∨ sameOrds cfg ⟨fl.z, fl.m⟩ (g1 :: gs) = true :=
          hc.imp id fun h => by
            simp only [sameOrds, Bool.and_eq_true] at h ⊢
            exact h.2
        rw [taggedList, taggedList, commaSep_cons₂, ← taggedList, readGeoms]
        simp only [bind, Except.bind]
        rw [read_tagged_ok cfg hiso g hwf.1 hdim.1 f fl .none _ (by omega) hg]
        simp only [closerOrComma, if_true]
        rw [read_geoms_ok cfg hiso (g1 :: gs) (List.cons_ne_nil _ _) hwf.2 hdim.2 f fl rest (by omega) hc']
        rfl
end

/-- token-level round trip with explicit fuel -/
theorem roundtrip_fuel (cfg : Cfg) (hiso : cfg.old3D = false) (g : G) (hwf : WFs g = true)
    (hdim : dimOK cfg g = true) (f : Nat) (hf : gFuel g ≤ f) :
    readTagged f {} .none (writeToks cfg g) = .ok (project cfg id g, []) := by
  have := read_tagged_ok cfg hiso g hwf hdim f {} .none [] hf (Or.inl rfl)
  rwa [List.append_nil] at this

theorem roundtrip_readToks (cfg : Cfg) (hiso : cfg.old3D = false) (g : G) (hwf : WFs g = true)
    (hdim : dimOK cfg g = true) (hf : gFuel g ≤ 3 * (writeToks cfg g).length + 4) :
    readToks (writeToks cfg g) = .ok (project cfg id g) := by
  unfold readToks
  rw [roundtrip_fuel cfg hiso g hwf hdim _ hf]

end GeosModel.WKT
