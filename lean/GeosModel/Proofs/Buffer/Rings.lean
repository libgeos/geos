import GeosModel.Model.Buffer.Rings
/-! Lemmas about `Model/Buffer/Rings.lean`: the ring walks and the loop that builds rings from them, link tables as
successor functions, the split of maximal rings, and the scan for the smallest containing shell (core Lean only). -/
namespace GeosModel.Buffer.Rings
open GeosModel.Kernel

/-- consecutive elements are linked by `next` -/
def Linked (next : DE → Option DE) : List DE → Prop
  | a :: b :: r => next a = some b ∧ Linked next (b :: r)
  | _ => True

/-- a closed walk: starts at `first`, consecutive elements linked, the successor of the last element is `start` -/
def ClosedFrom (next : DE → Option DE) (start first : DE) (r : List DE) : Prop :=
  r.head? = some first ∧ Linked next r ∧ ∃ l, r.getLast? = some l ∧ next l = some start

theorem walkFrom_closed {next : DE → Option DE} {s : DE} :
    ∀ (fuel : Nat) (cur : DE) (r : List DE), walkFrom next s fuel cur = some r → ClosedFrom next s cur r := by
  intro fuel
  induction fuel with
  | zero => intro cur r h; simp [walkFrom] at h
  | succ fuel ih =>
    intro cur r h
    simp only [walkFrom] at h
    split at h
    · simp at h
    · rename_i n hn
      split at h
      · rename_i hs
        have : r = [cur] := by simpa using h.symm
        subst this
        have hs' : n = s := by simpa using hs
        exact ⟨rfl, trivial, cur, rfl, by rw [hn, hs']⟩
      · cases hw : walkFrom next s fuel n with
        | none => simp [hw] at h
        | some t =>
          have hr : r = cur :: t := by simpa [hw] using h.symm
          subst hr
          obtain ⟨hh, hl, l, hlast, hnl⟩ := ih n t hw
          cases t with
          | nil => simp at hh
          | cons a t' =>
            have ha : a = n := by simpa using hh
            subst ha
            refine ⟨rfl, ⟨hn, hl⟩, l, ?_, hnl⟩
            simpa [List.getLast?_cons_cons] using hlast

/-- a walk starts with the edge it was started at and does not come back to the start edge before it closes -/
theorem walkFrom_tail {next : DE → Option DE} {s : DE} :
    ∀ (fuel : Nat) (cur : DE) (r : List DE), walkFrom next s fuel cur = some r → ∃ t, r = cur :: t ∧ s ∉ t := by
  intro fuel
  induction fuel with
  | zero => intro cur r h; simp [walkFrom] at h
  | succ fuel ih =>
    intro cur r h
    simp only [walkFrom] at h
    split at h
    · simp at h
    · rename_i n hn
      split at h
      · exact ⟨[], by simpa using h.symm, by simp⟩
      · rename_i hs
        cases hw : walkFrom next s fuel n with
        | none => simp [hw] at h
        | some t0 =>
          have hr : r = cur :: t0 := by simpa [hw] using h.symm
          obtain ⟨t1, ht1, hs1⟩ := ih n t0 hw
          refine ⟨t0, hr, ?_⟩
          subst ht1
          intro hmem
          rcases List.mem_cons.mp hmem with h1 | h1
          · exact hs (by simp [h1])
          · exact hs1 h1

/-- induction along the loop of `buildRings`: a candidate already assigned is skipped, any other one starts a walk whose edges
are assigned from then on -/
theorem buildRings_induct {next : DE → Option DE} {fuel : Nat} {P : List DE → List DE → List (List DE) → Prop}
    (nil : ∀ asg, P [] asg [])
    (skip : ∀ c rest asg rs, c ∈ asg → P rest asg rs → P (c :: rest) asg rs)
    (walk : ∀ c rest asg r rs, c ∉ asg → walkFrom next c fuel c = some r → P rest (asg ++ r) rs → P (c :: rest) asg (r :: rs)) :
    ∀ (cands asg : List DE) (rs : List (List DE)), buildRings next fuel cands asg = some rs → P cands asg rs := by
  intro cands
  induction cands with
  | nil => intro asg rs h; simp [buildRings] at h; subst h; exact nil asg
  | cons c rest ih =>
    intro asg rs h
    simp only [buildRings] at h
    split at h
    · rename_i hc
      exact skip c rest asg rs (by simpa using hc) (ih asg rs h)
    · rename_i hc
      split at h
      · simp at h
      · rename_i r hw
        obtain ⟨rs', hrs', hEq⟩ := Option.map_eq_some_iff.mp h
        subst hEq
        exact walk c rest asg r rs' (by simpa using hc) hw (ih (asg ++ r) rs' hrs')

/-- every candidate ends up in a ring (or was already assigned): the `if (ring == nullptr) new Ring(de)` loop loses no edge -/
theorem buildRings_covers {next : DE → Option DE} {fuel : Nat} :
    ∀ (cands asg : List DE) (rs : List (List DE)), buildRings next fuel cands asg = some rs →
      ∀ d ∈ cands, d ∈ asg ∨ ∃ r ∈ rs, d ∈ r := by
  refine buildRings_induct (fun _ d hd => by simp at hd)
    (fun c rest asg rs hc ih => List.forall_mem_cons.2 ⟨.inl hc, ih⟩) ?_
  intro c rest asg r rs _ hw ih
  simp only [List.mem_cons, forall_eq_or_imp, exists_eq_or_imp, List.mem_append] at ih ⊢
  obtain ⟨t, rfl, _⟩ := walkFrom_tail _ _ _ hw
  exact ⟨.inr (.inl List.mem_cons_self), fun d hd => or_assoc.1 (ih d hd)⟩

/-- every ring that is built is the walk from one of the candidates back to itself -/
theorem buildRings_walks {next : DE → Option DE} {fuel : Nat} :
    ∀ (cands asg : List DE) (rs : List (List DE)), buildRings next fuel cands asg = some rs →
      ∀ r ∈ rs, ∃ d ∈ cands, walkFrom next d fuel d = some r := by
  have up : ∀ {c : DE} {rest : List DE} {r : List DE},
      (∃ d ∈ rest, walkFrom next d fuel d = some r) → ∃ d ∈ c :: rest, walkFrom next d fuel d = some r :=
    fun h => h.imp fun d h => ⟨List.mem_cons_of_mem _ h.1, h.2⟩
  exact buildRings_induct (fun _ r hr => by simp at hr) (fun c rest asg rs _ ih r hr => up (ih r hr))
    (fun c rest asg r0 rs _ hw ih => List.forall_mem_cons.2 ⟨⟨c, List.mem_cons_self, hw⟩, fun r hr => up (ih r hr)⟩)

/-- every ring that is built is a closed walk of `next` from its first edge -/
theorem buildRings_closed {next : DE → Option DE} {fuel : Nat} (cands asg : List DE) (rs : List (List DE))
    (h : buildRings next fuel cands asg = some rs) : ∀ r ∈ rs, ∃ d ∈ cands, ClosedFrom next d d r := by
  intro r hr
  obtain ⟨d, hd, hw⟩ := buildRings_walks cands asg rs h r hr
  exact ⟨d, hd, walkFrom_closed _ _ _ hw⟩

/-! ### disjointness (needs: no edge is the successor of two edges) -/

/-- `next` is injective as a partial function -/
def Injective (next : DE → Option DE) : Prop := ∀ a b c, next a = some c → next b = some c → a = b

/-- `S` contains every predecessor of its elements -/
def PredClosed (next : DE → Option DE) (S : List DE) : Prop := ∀ y x, next y = some x → x ∈ S → y ∈ S

theorem linked_tail_has_pred {next : DE → Option DE} :
    ∀ (t : List DE) (a : DE), Linked next (a :: t) → ∀ x ∈ t, ∃ p ∈ a :: t, next p = some x := by
  intro t
  induction t with
  | nil => intro a _ x hx; simp at hx
  | cons b t ih =>
    intro a hl x hx
    obtain ⟨hab, hl'⟩ := hl
    rcases List.mem_cons.mp hx with rfl | hx'
    · exact ⟨a, List.mem_cons_self, hab⟩
    · obtain ⟨p, hp, hpx⟩ := ih b hl' x hx'
      exact ⟨p, List.mem_cons_of_mem _ hp, hpx⟩

/-- in a closed walk every edge has a predecessor on the walk; with an injective `next` it is the only one -/
theorem closed_predClosed {next : DE → Option DE} (hinj : Injective next) {d : DE} {r : List DE}
    (h : ClosedFrom next d d r) : PredClosed next r := by
  obtain ⟨hh, hl, l, hlast, hnl⟩ := h
  cases r with
  | nil => simp at hh
  | cons a t =>
    obtain rfl : a = d := by simpa using hh
    intro y x hyx hx
    obtain ⟨p, hp, hpx⟩ : ∃ p ∈ a :: t, next p = some x := by
      rcases List.mem_cons.mp hx with rfl | hx'
      · exact ⟨l, List.mem_of_getLast? hlast, hnl⟩
      · exact linked_tail_has_pred t a hl x hx'
    exact hinj y p x hyx hpx ▸ hp

/-- a closed walk that starts outside a predecessor-closed set stays outside it -/
theorem closed_avoids {next : DE → Option DE} {S : List DE} (hS : PredClosed next S) {d : DE} {r : List DE}
    (h : ClosedFrom next d d r) (hd : d ∉ S) : ∀ x ∈ r, x ∉ S := by
  obtain ⟨hh, hl, -⟩ := h
  cases r with
  | nil => intro x hx; simp at hx
  | cons a t =>
    obtain rfl : a = d := by simpa using hh
    clear hh
    induction t generalizing a with
    | nil => intro x hx; rw [List.mem_singleton.1 hx]; exact hd
    | cons b t ih =>
      intro x hx
      rcases List.mem_cons.mp hx with rfl | hx'
      · exact hd
      · exact ih b hl.2 (fun hb => hd (hS _ b hl.1 hb)) x hx'

/-- with an injective successor function the rings built are pairwise disjoint and avoid what was assigned before -/
theorem buildRings_disjoint {next : DE → Option DE} (hinj : Injective next) {fuel : Nat} :
    ∀ (cands asg : List DE) (rs : List (List DE)), buildRings next fuel cands asg = some rs → PredClosed next asg →
      (∀ r ∈ rs, ∀ x ∈ r, x ∉ asg) ∧ rs.Pairwise (fun r1 r2 => ∀ x ∈ r1, x ∉ r2) := by
  refine buildRings_induct (fun _ _ => by simp) (fun _ _ _ _ _ ih => ih) ?_
  intro c rest asg r rs hc hw ih hS
  have hcl := walkFrom_closed _ _ _ hw
  obtain ⟨h1, h2⟩ := ih fun y x hyx hx => (List.mem_append.mp hx).elim
    (fun h => List.mem_append_left _ (hS y x hyx h))
    (fun h => List.mem_append_right _ (closed_predClosed hinj hcl y x hyx h))
  refine ⟨?_, List.pairwise_cons.mpr ⟨fun r' hr' x hx hx' => h1 r' hr' x hx' (List.mem_append_right _ hx), h2⟩⟩
  intro r' hr' x hx
  rcases List.mem_cons.mp hr' with rfl | hr''
  · exact closed_avoids hS hcl hc x hx
  · exact fun hxa => h1 r' hr'' x hx (List.mem_append_left _ hxa)

/-! ### no edge twice on one ring -/

theorem linked_nodup {next : DE → Option DE} (hinj : Injective next) :
    ∀ (t : List DE) (a : DE), Linked next (a :: t) → a ∉ t → (a :: t).Nodup := by
  intro t
  induction t with
  | nil => intro a _ _; simp
  | cons b t ih =>
    intro a hl ha
    obtain ⟨hab, hl'⟩ := hl
    have hb : b ∉ t := by
      intro hbt
      obtain ⟨p, hp, hpb⟩ := linked_tail_has_pred t b hl' b hbt
      have : a = p := hinj a p b hab hpb
      subst this; exact ha hp
    exact List.nodup_cons.mpr ⟨ha, ih b hl' hb⟩

theorem buildRings_nodup {next : DE → Option DE} (hinj : Injective next) {fuel : Nat} (cands asg : List DE)
    (rs : List (List DE)) (h : buildRings next fuel cands asg = some rs) : ∀ r ∈ rs, r.Nodup := by
  intro r hr
  obtain ⟨d, _, hw⟩ := buildRings_walks cands asg rs h r hr
  obtain ⟨t, rfl, hs⟩ := walkFrom_tail fuel d r hw
  exact linked_nodup hinj t d (walkFrom_closed fuel d _ hw).2.1 hs

/-! ### link tables -/

theorem lookup_mem {m : List (DE × DE)} {a c : DE} (h : lookup m a = some c) : (a, c) ∈ m := by
  unfold lookup at h
  obtain ⟨x, hx, hxc⟩ := Option.map_eq_some_iff.mp h
  have hm := List.mem_of_find?_eq_some hx
  have hk := List.find?_some hx
  have h1 : x.1 = a := by simpa using hk
  have : x = (a, c) := by cases x; simp_all
  subst this; exact hm

theorem pair_unique {m : List (DE × DE)} (hn : (m.map (·.2)).Nodup) {a b c : DE} (ha : (a, c) ∈ m) (hb : (b, c) ∈ m) : a = b := by
  induction m with
  | nil => simp at ha
  | cons kv rest ih =>
    simp only [List.map_cons, List.nodup_cons] at hn
    obtain ⟨hv, hrest⟩ := hn
    rcases List.mem_cons.mp ha with h1 | h1 <;> rcases List.mem_cons.mp hb with h2 | h2
    · exact (Prod.mk.inj (h1.trans h2.symm)).1
    · exact absurd (List.mem_map.mpr ⟨(b, c), h2, by rw [← h1]⟩) hv
    · exact absurd (List.mem_map.mpr ⟨(a, c), h1, by rw [← h2]⟩) hv
    · exact ih hrest h1 h2

/-- a link table in which no edge is the successor of two edges gives an injective successor function -/
theorem lookup_injective {m : List (DE × DE)} (hn : (m.map (·.2)).Nodup) : Injective (lookup m) :=
  fun _ _ _ ha hb => pair_unique hn (lookup_mem ha) (lookup_mem hb)

/-- splitting maximal rings into minimal rings loses no edge -/
theorem splitAll_covers (g : Graph) :
    ∀ (ms out : List (List DE)), splitAll g ms = some out → ∀ R ∈ ms, ∀ d ∈ R, ∃ r ∈ out, d ∈ r := by
  intro ms
  induction ms with
  | nil => intro out _ R hR; simp at hR
  | cons M rest ih =>
    intro out h R hR d hd
    simp only [splitAll] at h
    split at h
    · split at h
      · rename_i mins out' hmin hrest
        have hEq : out = mins ++ out' := by simpa using h.symm
        subst hEq
        rcases List.mem_cons.mp hR with rfl | hR'
        · rcases buildRings_covers R [] mins hmin d hd with hm | ⟨r, hr, hdr⟩
          · simp at hm
          · exact ⟨r, List.mem_append_left _ hr, hdr⟩
        · obtain ⟨r, hr, hdr⟩ := ih out' hrest R hR' d hd
          exact ⟨r, List.mem_append_right _ hr, hdr⟩
      · simp at h
    · obtain ⟨out', hrest, hEq⟩ := Option.map_eq_some_iff.mp h
      subst hEq
      rcases List.mem_cons.mp hR with rfl | hR'
      · exact ⟨R, List.mem_cons_self, hd⟩
      · obtain ⟨r, hr, hdr⟩ := ih out' hrest R hR' d hd
        exact ⟨r, List.mem_cons_of_mem _ hr, hdr⟩

/-! ### hole placement: the smallest containing shell -/

theorem Env.contains_refl (a : Env) : a.contains a = true := by
  simp [Env.contains]

theorem Env.contains_trans {a b c : Env} (h1 : a.contains b = true) (h2 : b.contains c = true) : a.contains c = true := by
  simp [Env.contains] at *
  omega

/-- the shell found is the start value or a qualifying shell of the list -/
theorem pickMin_mem (g : Graph) (hp : List Pt) (he : Env) :
    ∀ (shells : List (List DE)) (st res : Option (List DE × Env)), pickMin g hp he shells st = res →
      res = st ∨ ∃ r, res = some r ∧ r.1 ∈ shells ∧ qualifies g hp he r.1 = some r.2 := by
  intro shells
  induction shells with
  | nil => intro st res h; left; simpa [pickMin] using h.symm
  | cons s rest ih =>
    intro st res h
    simp only [pickMin] at h
    split at h
    · rcases ih st res h with h1 | ⟨r, hr, hm, hq⟩
      · left; exact h1
      · right; exact ⟨r, hr, List.mem_cons_of_mem _ hm, hq⟩
    · rename_i se hq
      have key : ∀ st', pickMin g hp he rest st' = res → (st' = st ∨ st' = some (s, se)) →
          res = st ∨ ∃ r, res = some r ∧ r.1 ∈ s :: rest ∧ qualifies g hp he r.1 = some r.2 := by
        intro st' h' hst'
        rcases ih st' res h' with h1 | ⟨r, hr, hm, hq'⟩
        · rcases hst' with h2 | h2
          · left; rw [h1, h2]
          · right; exact ⟨(s, se), by rw [h1, h2], List.mem_cons_self, hq⟩
        · right; exact ⟨r, hr, List.mem_cons_of_mem _ hm, hq'⟩
      split at h
      · exact key _ h (Or.inr rfl)
      · split at h
        · exact key _ h (Or.inr rfl)
        · rename_i m me _
          exact key _ h (Or.inl rfl)

/-- when the envelopes of the qualifying shells are pairwise comparable (nested shells), the envelope of the shell found is contained
in the envelope of EVERY qualifying shell: the hole goes to the smallest container -/
theorem pickMin_min (g : Graph) (hp : List Pt) (he : Env) (W : Env → Prop)
    (hW : ∀ a b, W a → W b → a.contains b = true ∨ b.contains a = true) :
    ∀ (shells : List (List DE)) (st : Option (List DE × Env)) (res : List DE × Env),
      (∀ s ∈ shells, ∀ se, qualifies g hp he s = some se → W se) →
      (∀ m, st = some m → W m.2) →
      pickMin g hp he shells st = some res →
      W res.2 ∧ (∀ m, st = some m → m.2.contains res.2 = true) ∧
        (∀ s ∈ shells, ∀ se, qualifies g hp he s = some se → se.contains res.2 = true) := by
  intro shells
  induction shells with
  | nil =>
    intro st res _ hst h
    simp only [pickMin] at h
    refine ⟨hst res h, ?_, ?_⟩
    · intro m hm; rw [h] at hm; cases hm; exact Env.contains_refl _
    · intro s hs; simp at hs
  | cons s rest ih =>
    intro st res hall hst h
    have hrest : ∀ s' ∈ rest, ∀ se, qualifies g hp he s' = some se → W se :=
      fun s' hs' => hall s' (List.mem_cons_of_mem _ hs')
    simp only [pickMin] at h
    split at h
    · rename_i hq
      obtain ⟨h1, h2, h3⟩ := ih st res hrest hst h
      exact ⟨h1, h2, List.forall_mem_cons.2 ⟨fun se hse => (by rw [hq] at hse; cases hse), h3⟩⟩
    · rename_i se hq
      have hWse : W se := hall s List.mem_cons_self se hq
      -- what has to be shown of `s` itself: its envelope `se` contains the result
      have head : se.contains res.2 = true → ∀ se', qualifies g hp he s = some se' → se'.contains res.2 = true :=
        fun hc se' h' => by rw [hq] at h'; cases h'; exact hc
      split at h
      · obtain ⟨h1, h2, h3⟩ := ih (some (s, se)) res hrest (by intro m hm; cases hm; exact hWse) h
        exact ⟨h1, (by intro m hm; cases hm), List.forall_mem_cons.2 ⟨head (h2 (s, se) rfl), h3⟩⟩
      · rename_i m me
        have hWme : W me := hst (m, me) rfl
        split at h
        · rename_i hc
          obtain ⟨h1, h2, h3⟩ := ih (some (s, se)) res hrest (by intro m' hm'; cases hm'; exact hWse) h
          exact ⟨h1, (by intro m' hm'; cases hm'; exact Env.contains_trans hc (h2 (s, se) rfl)),
            List.forall_mem_cons.2 ⟨head (h2 (s, se) rfl), h3⟩⟩
        · rename_i hc
          obtain ⟨h1, h2, h3⟩ := ih (some (m, me)) res hrest (by intro m' hm'; cases hm'; exact hWme) h
          have hme := h2 (m, me) rfl
          exact ⟨h1, (by intro m' hm'; cases hm'; exact hme),
            List.forall_mem_cons.2 ⟨head (Env.contains_trans ((hW me se hWme hWse).resolve_left hc) hme), h3⟩⟩

/-- a qualifying shell makes the scan return something (a minimum, once there, is only ever replaced) -/
theorem pickMin_isSome (g : Graph) (hp : List Pt) (he : Env) (s : List DE) (hq : (qualifies g hp he s).isSome) :
    ∀ (l : List (List DE)) (st : Option (List DE × Env)), (st.isSome ∨ s ∈ l) → (pickMin g hp he l st).isSome := by
  intro l
  induction l with
  | nil => intro st hst; exact hst.resolve_right (by simp)
  | cons a rest ih =>
    intro st hst
    simp only [pickMin]
    split
    · rename_i hqa
      exact ih _ (hst.imp_right fun h1 => (List.mem_cons.mp h1).resolve_left fun e => by
        rw [e, hqa] at hq; cases hq)
    · split
      · exact ih _ (Or.inl rfl)
      · split <;> exact ih _ (Or.inl rfl)

end GeosModel.Buffer.Rings
