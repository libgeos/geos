import GeosModel.Model.Buffer.ParamsGen
import GeosModel.Proofs.Buffer.Fillet
import GeosModel.Proofs.Precision.GenRoundLemmas
import Mathlib.Tactic.FieldSimp
/-!
# Lemmas for the bridge theorems of Props/C06Gen.lean: the accumulating `for` loop of regenerated code (as a
`foldl` and as the flattened `map` `simp` makes of it), the fillet offsets in radians
-/
namespace GeosModel.Buffer
open GeosModel

/-- `for a in l do acc := acc ++ [g a]` (after `simp` has turned the `forIn` into a `foldl`) -/
theorem foldl_append_map {ι α : Type} (l : List ι) (init : List α) (g : ι → α) :
    l.foldl (fun acc a => acc ++ [g a]) init = init ++ l.map g := by
  induction l generalizing init with
  | nil => simp
  | cons x xs ih => simp [ih]

theorem flatten_map_singleton {ι α : Type} (l : List ι) (f : ι → α) : (l.map (fun x => [f x])).flatten = l.map f := by
  induction l with
  | nil => rfl
  | cons x xs ih => simp [ih]

theorem range'_zero_one (n : Nat) : List.range' 0 n 1 = List.range n := (List.range_eq_range' (n := n)).symm

/-- The model counts angles in units of the fillet quantum; the code in radians.  With a quantum `qm ≠ 0` and total angle
`T` (radians), the offsets of the model times the quantum are the multiples `i · (T / nSegs)` the code adds to the start
angle (`angleInc = totalAngle / nSegs`). -/
theorem map_filletOffsets {α : Type} (T qm : Rat) (hq : qm ≠ 0) (F : Rat → α) :
    (filletOffsets (T / qm)).map (fun o => F (o * qm)) =
      if nSegs (T / qm) < 1 then []
      else (List.range (nSegs (T / qm)).toNat).map (fun (i : Nat) => F ((i : Rat) * (T / ((nSegs (T / qm) : Int) : Rat)))) := by
  unfold filletOffsets
  split
  · rfl
  · rename_i hn
    rw [List.map_map]
    apply List.map_congr_left
    intro i _
    have hne : ((nSegs (T / qm) : Int) : Rat) ≠ 0 := by
      have h1 : (1 : Int) ≤ nSegs (T / qm) := by omega
      have := one_le_cast h1
      intro h0; rw [h0] at this; exact absurd this (by decide)
    simp only [Function.comp, stepQ]
    congr 1
    field_simp

end GeosModel.Buffer
