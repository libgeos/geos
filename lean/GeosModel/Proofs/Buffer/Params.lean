import GeosModel.Model.Buffer.Params
/-! Lemmas about the parameter model (`Model/Buffer/Params.lean`).  Core Lean only. -/
namespace GeosModel.Buffer.Core

theorem default_legal : Config.default.Legal := by decide

theorem apply_keeps (c c' : Config) (s : Setter) (hc : c.Legal) (hs : s.apply c = some c') : c'.Legal := by
  unfold Config.Legal at hc ⊢
  cases s with
  | quad q => cases hs; exact hc
  | mitre m => cases hs; exact hc
  | single v => cases hs; exact hc
  | cap v =>
    simp only [Setter.apply, setEndCapStyle, Option.ite_none_left_eq_some, Option.some.injEq] at hs
    obtain ⟨h, rfl⟩ := hs
    exact ⟨by show 1 ≤ v; omega, by show v ≤ 3; omega, hc.2.2.1, hc.2.2.2⟩
  | join v =>
    simp only [Setter.apply, setJoinStyle, Option.ite_none_left_eq_some, Option.some.injEq] at hs
    obtain ⟨h, rfl⟩ := hs
    exact ⟨hc.1, hc.2.1, by show 1 ≤ v; omega, by show v ≤ 3; omega⟩

theorem setters_keep_legal (l : List Setter) (c : Config) (hc : c.Legal) : (runSetters c l).1.Legal := by
  induction l generalizing c with
  | nil => simpa [runSetters] using hc
  | cons s r ih =>
    unfold runSetters
    cases hs : s.apply c with
    | none => simpa using ih c hc
    | some c' => simpa using ih c' (apply_keeps c c' s hc hs)

theorem reject_iff_withStyle (q cap join : Int) (m : UInt64) :
    (Entry.withStyle q cap join m).config = none ↔ (cap < 1 ∨ cap > 3 ∨ join < 1 ∨ join > 3) := by
  rw [← or_assoc]
  simp only [Entry.config]
  by_cases h1 : cap < 1 ∨ cap > 3 <;> by_cases h2 : join < 1 ∨ join > 3 <;> simp [h1, h2]

theorem reject_iff_offsetCurve (q join : Int) (m : UInt64) :
    (Entry.offsetCurve q join m).config = none ↔ (join < 1 ∨ join > 3) := by
  simp only [Entry.config]
  by_cases h2 : join < 1 ∨ join > 3 <;> simp [h2]

theorem reject_iff_singleSided (q join : Int) (m : UInt64) (l : Int) :
    (Entry.singleSidedBuffer q join m l).config = none ↔ (join < 1 ∨ join > 3) := by
  simp only [Entry.config]
  by_cases h2 : join < 1 ∨ join > 3 <;> simp [h2]

theorem effCap_ne_none (s : Int) (h1 : 1 ≤ s) (h3 : s ≤ 3) : effCap s ≠ .none := by
  have : s = 1 ∨ s = 2 ∨ s = 3 := by omega
  rcases this with h | h | h <;> subst h <;> decide

theorem effCap_none_iff (s : Int) (h : s ≤ 3) : effCap s = .none ↔ s < 1 := by
  unfold effCap
  by_cases h1 : s = 1
  · subst h1; decide
  · by_cases h2 : s = 2
    · subst h2; decide
    · by_cases h3 : s = 3
      · subst h3; decide
      · have e1 : (s == 1) = false := by simpa using h1
        have e2 : (s == 2) = false := by simpa using h2
        have e3 : (s == 3) = false := by simpa using h3
        simp only [e1, e2, e3, Bool.false_eq_true, if_false, true_iff]
        omega

theorem effJoin_round_iff (j : Int) : effJoin j = .round ↔ (j ≠ 2 ∧ j ≠ 3) := by
  unfold effJoin
  by_cases h2 : j = 2
  · subst h2; decide
  · by_cases h3 : j = 3
    · subst h3; decide
    · have e2 : (j == 2) = false := by simpa using h2
      have e3 : (j == 3) = false := by simpa using h3
      simp [e2, e3, h2, h3]

theorem effQuad_pos (c : Config) : 1 ≤ c.effQuad := by
  unfold Config.effQuad quadSegsEff; split <;> omega

/-- every accepted call runs with a legal configuration -/
theorem params_total (e : Entry) (c : Config) (hreach : ∀ cfg, e = .withParams cfg → cfg.Legal) (h : e.config = some c) :
    c.Legal := by
  cases e with
  | buffer q =>
    cases h
    show (1 : Int) ≤ 1 ∧ (1 : Int) ≤ 3 ∧ (1 : Int) ≤ 1 ∧ (1 : Int) ≤ 3
    omega
  | withParams cfg => cases h; exact hreach _ rfl
  | withStyle q cap join m =>
    simp only [Entry.config, Option.ite_none_left_eq_some, Option.some.injEq] at h
    obtain ⟨h1, h2, rfl⟩ := h
    show 1 ≤ cap ∧ cap ≤ 3 ∧ 1 ≤ join ∧ join ≤ 3
    omega
  | offsetCurve q join m =>
    simp only [Entry.config, Option.ite_none_left_eq_some, Option.some.injEq] at h
    obtain ⟨h2, rfl⟩ := h
    show (1 : Int) ≤ 1 ∧ (1 : Int) ≤ 3 ∧ 1 ≤ join ∧ join ≤ 3
    omega
  | singleSidedBuffer q join m l =>
    simp only [Entry.config, Option.ite_none_left_eq_some, Option.some.injEq] at h
    obtain ⟨h2, rfl⟩ := h
    show (1 : Int) ≤ 2 ∧ (2 : Int) ≤ 3 ∧ 1 ≤ join ∧ join ≤ 3
    omega

theorem offsetCurve_quad_ge8 (q join : Int) (m : UInt64) (c : Config) (h : (Entry.offsetCurve q join m).config = some c) :
    8 ≤ c.quadSegs ∧ c.endCap = 1 := by
  simp only [Entry.config, Option.ite_none_left_eq_some, Option.some.injEq] at h
  obtain ⟨_, rfl⟩ := h
  exact ⟨by show 8 ≤ (if q < 8 then 8 else q); split <;> omega, rfl⟩

theorem singleSided_cap_flat (q join : Int) (m : UInt64) (l : Int) (c : Config)
    (h : (Entry.singleSidedBuffer q join m l).config = some c) : effCap c.endCap = .flat ∧ c.quadSegs = q := by
  simp only [Entry.config, Option.ite_none_left_eq_some, Option.some.injEq] at h
  obtain ⟨_, rfl⟩ := h
  exact ⟨rfl, rfl⟩

end GeosModel.Buffer.Core
