import GeosModel.Model.Buffer.Fillet
/-! Lemmas about the fillet segment count (`Model/Buffer/Fillet.lean`).  Core Lean only. -/
namespace GeosModel.Buffer

theorem nSegs_eq_floor (t : Rat) (ht : 0 ≤ t) : nSegs t = (t + 1 / 2).floor := by
  unfold nSegs truncToInt
  have : (0 : Rat) ≤ t + 1 / 2 := by grind
  simp [this]

theorem nSegs_le (t : Rat) (ht : 0 ≤ t) : ((nSegs t : Int) : Rat) ≤ t + 1 / 2 := by
  rw [nSegs_eq_floor t ht]; exact Rat.floor_le _

theorem lt_nSegs_add_one (t : Rat) (ht : 0 ≤ t) : t + 1 / 2 < ((nSegs t : Int) : Rat) + 1 := by
  rw [nSegs_eq_floor t ht]
  have := Rat.lt_floor_add_one (t + 1 / 2)
  grind

theorem nSegs_nonneg (t : Rat) (ht : 0 ≤ t) : 0 ≤ nSegs t := by
  rw [nSegs_eq_floor t ht]
  apply Rat.le_floor_iff.mpr
  grind

theorem one_le_cast {n : Int} (h : 1 ≤ n) : (1 : Rat) ≤ (n : Rat) := by
  have : ((1 : Int) : Rat) ≤ (n : Rat) := Rat.intCast_le_intCast.mpr h
  simpa using this

theorem nSegs_mul_step (t : Rat) (hn : 1 ≤ nSegs t) : (nSegs t : Rat) * stepQ t = t := by
  have hn' := one_le_cast hn
  have hne : ((nSegs t : Int) : Rat) ≠ 0 := by grind
  unfold stepQ
  rw [Rat.mul_comm, Rat.div_mul_cancel hne]

/-- a value of `t` with exactly one segment -/
theorem nSegs_eq_one (t : Rat) (h1 : 1 / 2 ≤ t) (h2 : t < 3 / 2) : nSegs t = 1 := by
  have ht : (0 : Rat) ≤ t := by grind
  rw [nSegs_eq_floor t ht]
  have hle : (1 : Int) ≤ (t + 1 / 2).floor := Rat.le_floor_iff.mpr (by simp; grind)
  have hlt : (t + 1 / 2).floor < 2 := Rat.floor_lt_iff.mpr (by simp; grind)
  omega


namespace Core

theorem fillet_step_bound (t : Rat) (ht : 0 ≤ t) :
    (nSegs t < 1 ∧ t < 1 / 2 ∧ filletOffsets t = []) ∨
    (1 ≤ nSegs t ∧ (nSegs t : Rat) * stepQ t = t ∧ stepQ t < 3 / 2 ∧ 1 / 2 ≤ stepQ t ∧
      stepQ t * (2 * (nSegs t : Rat)) < 2 * (nSegs t : Rat) + 1) := by
  -- with `n = nSegs t = ⌊t + ½⌋`: all of it follows from `n ≤ t + ½ < n + 1` (`nSegs_le`, `lt_nSegs_add_one`) and, for
  -- `n ≥ 1`, `n · step = t` (`nSegs_mul_step`); the bounds on `step` are the bounds on `t` divided by `n`
  by_cases h : nSegs t < 1
  · left
    refine ⟨h, ?_, by simp [filletOffsets, h]⟩
    have h1 := lt_nSegs_add_one t ht
    have : ((nSegs t : Int) : Rat) ≤ 0 := by
      have : nSegs t ≤ 0 := by omega
      have : ((nSegs t : Int) : Rat) ≤ ((0 : Int) : Rat) := Rat.intCast_le_intCast.mpr this
      simpa using this
    grind
  · right
    have hn : 1 ≤ nSegs t := by omega
    have hn' := one_le_cast hn
    have h1 := lt_nSegs_add_one t ht
    have h2 := nSegs_le t ht
    have hpos : (0 : Rat) < (nSegs t : Rat) := by grind
    have hmul := nSegs_mul_step t hn
    refine ⟨hn, hmul, ?_, ?_, ?_⟩
    · have : (nSegs t : Rat) * stepQ t < (nSegs t : Rat) * (3 / 2) := by grind
      exact (Rat.mul_lt_mul_left hpos).mp this
    · have : (nSegs t : Rat) * (1 / 2) ≤ (nSegs t : Rat) * stepQ t := by grind
      exact Rat.le_of_mul_le_mul_left this hpos
    · -- `step · 2n = 2t < 2n + 1`
      grind

theorem fillet_step_sup (ε : Rat) (hε : 0 < ε) :
    ∃ t : Rat, 0 ≤ t ∧ nSegs t = 1 ∧ 3 / 2 - ε < stepQ t ∧ stepQ t < 3 / 2 := by
  -- any `t` in `[1/2, 3/2)` above `3/2 − ε` will do: it is its own step
  have key : ∀ t : Rat, 1 / 2 ≤ t → t < 3 / 2 → 3 / 2 - ε < t →
      ∃ t : Rat, 0 ≤ t ∧ nSegs t = 1 ∧ 3 / 2 - ε < stepQ t ∧ stepQ t < 3 / 2 := by
    intro t h1 h2 h3
    have hn := nSegs_eq_one t h1 h2
    have hs : stepQ t = t := by
      unfold stepQ; rw [hn]
      show t / ((1 : Int) : Rat) = t
      grind
    exact ⟨t, by grind, hn, by rw [hs]; exact h3, by rw [hs]; exact h2⟩
  by_cases h : ε ≤ 1
  · exact key (3 / 2 - ε / 2) (by grind) (by grind) (by grind)
  · exact key 1 (by grind) (by grind) (by grind)

theorem fillet_vertices (t : Rat) (hn : 1 ≤ nSegs t) :
    filletOffsets t ++ [t] = (List.range ((nSegs t).toNat + 1)).map fun (i : Nat) => (i : Rat) * stepQ t := by
  have hlt : ¬ nSegs t < 1 := by omega
  have hcast : (((nSegs t).toNat : Nat) : Rat) = ((nSegs t : Int) : Rat) := by
    have h0 : (((nSegs t).toNat : Nat) : Int) = nSegs t := Int.toNat_of_nonneg (by omega)
    calc (((nSegs t).toNat : Nat) : Rat) = ((((nSegs t).toNat : Nat) : Int) : Rat) := (Rat.intCast_natCast _).symm
      _ = ((nSegs t : Int) : Rat) := by rw [h0]
  simp only [filletOffsets, hlt, if_false, List.range_succ, List.map_append, List.map_cons, List.map_nil]
  rw [hcast, nSegs_mul_step t hn]

theorem angle_aux (a Q n : Rat) (hQ : 0 < Q) (hn : 0 < n) (h : a * Q < n * (3 / 2)) : a / n < 3 / 2 * (1 / Q) := by
  have hne : Q ≠ 0 := by grind
  rw [Rat.div_lt_iff hn]
  have e : (3 / 2 * (1 / Q) * n) * Q = n * (3 / 2) * ((1 / Q) * Q) := by grind
  have h2 : a * Q < (3 / 2 * (1 / Q) * n) * Q := by
    rw [e, Rat.div_mul_cancel hne, Rat.mul_one]; exact h
  exact (Rat.mul_lt_mul_right hQ).mp h2

theorem fillet_angle_bound (q : Int) (a : Rat) (ha : 0 ≤ a) (hn : 1 ≤ nSegsOf q a) :
    a / (nSegsOf q a : Rat) < 3 / 2 * quantumQ q := by
  have hq : (1 : Rat) ≤ (quadSegsEff q : Rat) := one_le_cast (by unfold quadSegsEff; split <;> omega)
  have hqpos : (0 : Rat) < (quadSegsEff q : Rat) := by grind
  have hquant : quantumQ q = 1 / (quadSegsEff q : Rat) := rfl
  have ht : a / quantumQ q = a * (quadSegsEff q : Rat) := by
    rw [hquant, Rat.div_def, Rat.div_def, Rat.one_mul, Rat.inv_inv]
  have ht0 : 0 ≤ a / quantumQ q := by rw [ht]; exact Rat.mul_nonneg ha (by grind)
  have hb := fillet_step_bound (a / quantumQ q) ht0
  unfold nSegsOf at hn ⊢
  rcases hb with ⟨hlt, _⟩ | ⟨_, hmul, hstep, _⟩
  · omega
  · have hn' := one_le_cast hn
    have hnpos : (0 : Rat) < (nSegs (a / quantumQ q) : Rat) := by grind
    have h1 : (nSegs (a / quantumQ q) : Rat) * stepQ (a / quantumQ q) < (nSegs (a / quantumQ q) : Rat) * (3 / 2) :=
      Rat.mul_lt_mul_of_pos_left hstep hnpos
    rw [hmul] at h1
    have h2 : a * (quadSegsEff q : Rat) < (nSegs (a / quantumQ q) : Rat) * (3 / 2) := by rw [← ht]; exact h1
    exact angle_aux a _ _ hqpos hnpos h2

theorem examples :
    (nSegs 8 = 8 ∧ filletInterior 8 = 7 ∧ stepQ 8 = 1) ∧
    (nSegs (149 / 100) = 1 ∧ filletInterior (149 / 100) = 0 ∧ stepQ (149 / 100) = 149 / 100) ∧
    (nSegs (49 / 100) = 0 ∧ filletOffsets (49 / 100) = []) := by decide +kernel

end Core

end GeosModel.Buffer
