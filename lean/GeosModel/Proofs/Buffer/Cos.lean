import GeosModel.Model.Buffer.Spec
import Mathlib.Analysis.SpecialFunctions.Trigonometric.Bounds
import Mathlib.Analysis.Real.Pi.Bounds
/-!
# The rational cosine bounds of `Model/Buffer/Spec.lean` are sound

`cosLB k y ≤ cos x` for every real `0 ≤ x ≤ y`, `cos x ≤ cosUB k y` for every real `y ≤ x ≤ π`; hence
`cosPiLo a ≤ cos(π a) ≤ cosPiHi a`, and a table entry `cosPiLo (c / min q 32)` is a lower bound of `cos(π c / q)`
(`cosPiLo_table`).  The statements about `cosDocLo`, `cosStepLo`, `cosDocHi` and the inner factor are in `Props/C06.lean`.  Uses Mathlib's `Real.cos`, `Real.one_sub_sq_div_two_le_cos`, `Real.cos_bound`,
`Real.pi_gt_d6`, `Real.pi_lt_d6`.
-/
namespace GeosModel.Buffer
open Real

theorem twoPow64_pos : (0 : Rat) < twoPow64 := by unfold twoPow64; norm_num

theorem rdown_le (c : Rat) : rdown c ≤ c := (div_le_iff₀ twoPow64_pos).2 (Rat.floor_le _)

theorem le_rup (c : Rat) : c ≤ rup c := (le_div_iff₀ twoPow64_pos).2 Rat.le_ceil

/-- the halving step of both bounds: `cos x = 2 cos²(x/2) − 1`, increasing in `cos(x/2) ≥ 0` -/
theorem cos_half_step (x : ℝ) : Real.cos x = 2 * Real.cos (x / 2) ^ 2 - 1 := by
  rw [← Real.cos_two_mul]; congr 1; ring

theorem double_mono {a b : ℝ} (h0 : 0 ≤ a) (h : a ≤ b) : 2 * a * a - 1 ≤ 2 * b ^ 2 - 1 := by
  linarith [mul_self_le_mul_self h0 h]

theorem cosLB_sound : ∀ (k : Nat) (y c : Rat), cosLB k y = some c →
    ∀ x : ℝ, 0 ≤ x → x ≤ (y : ℝ) → (c : ℝ) ≤ Real.cos x
  | 0, y, c, h, x, hx0, hxy => by
    rw [cosLB, Option.some.injEq] at h
    have h1 : (c : ℝ) ≤ ((1 - y * y / 2 : Rat) : ℝ) := h ▸ Rat.cast_le.2 (rdown_le _)
    push_cast at h1
    have hsq : x ^ 2 ≤ (y : ℝ) * y := by rw [sq]; exact mul_self_le_mul_self hx0 hxy
    exact h1.trans ((sub_le_sub_left (div_le_div_of_nonneg_right hsq two_pos.le) 1).trans Real.one_sub_sq_div_two_le_cos)
  | k + 1, y, c, h, x, hx0, hxy => by
    rw [cosLB] at h
    split at h
    · rename_i c' hc'
      split at h
      · rename_i hpos
        rw [Option.some.injEq] at h
        have hhalf : x / 2 ≤ ((y / 2 : Rat) : ℝ) := by
          rw [Rat.cast_div, Rat.cast_ofNat]; exact div_le_div_of_nonneg_right hxy two_pos.le
        have ih := cosLB_sound k (y / 2) c' hc' (x / 2) (by positivity) hhalf
        have h1 : (c : ℝ) ≤ ((2 * c' * c' - 1 : Rat) : ℝ) := h ▸ Rat.cast_le.2 (rdown_le _)
        push_cast at h1
        rw [cos_half_step]
        exact le_trans h1 (double_mono (by exact_mod_cast hpos) ih)
      · exact absurd h (by simp)
    · exact absurd h (by simp)

theorem cos_upper_base (y : ℝ) (h0 : 0 ≤ y) (h1 : y ≤ 1) : Real.cos y ≤ 1 - y ^ 2 / 2 + y ^ 4 * 5 / 96 := by
  have hb := Real.cos_bound (x := y) (by rwa [abs_of_nonneg h0])
  rw [abs_of_nonneg h0] at hb
  linarith [(abs_le.mp hb).2]

theorem cosUB_sound : ∀ (k : Nat) (y c : Rat), cosUB k y = some c → 0 ≤ y →
    ∀ x : ℝ, (y : ℝ) ≤ x → x ≤ π → Real.cos x ≤ (c : ℝ)
  | 0, y, c, h, hy, x, hyx, hxpi => by
    rw [cosUB] at h
    split at h
    · rename_i hy1
      rw [Option.some.injEq] at h
      have hy0 : (0 : ℝ) ≤ (y : ℝ) := by exact_mod_cast hy
      have h3 : ((1 - y * y / 2 + y * y * y * y * 5 / 96 : Rat) : ℝ) ≤ (c : ℝ) := h ▸ Rat.cast_le.2 (le_rup _)
      push_cast at h3
      exact (Real.cos_le_cos_of_nonneg_of_le_pi hy0 hxpi hyx).trans
        ((cos_upper_base (y : ℝ) hy0 (by exact_mod_cast hy1)).trans ((le_of_eq (by ring)).trans h3))
    · exact absurd h (by simp)
  | k + 1, y, c, h, hy, x, hyx, hxpi => by
    rw [cosUB] at h
    split at h
    · rename_i c' hc'
      rw [Option.some.injEq] at h
      have hx0 : (0 : ℝ) ≤ x := le_trans (by exact_mod_cast hy) hyx
      have hhalf : ((y / 2 : Rat) : ℝ) ≤ x / 2 := by
        rw [Rat.cast_div, Rat.cast_ofNat]; exact div_le_div_of_nonneg_right hyx two_pos.le
      have ih := cosUB_sound k (y / 2) c' hc' (by positivity) (x / 2) hhalf ((half_le_self hx0).trans hxpi)
      have hc0 : 0 ≤ Real.cos (x / 2) :=
        Real.cos_nonneg_of_neg_pi_div_two_le_of_le ((neg_nonpos.2 (by positivity)).trans (by positivity))
          (div_le_div_of_nonneg_right hxpi two_pos.le)
      have h1 : ((2 * c' * c' - 1 : Rat) : ℝ) ≤ (c : ℝ) := h ▸ Rat.cast_le.2 (le_rup _)
      push_cast at h1
      rw [cos_half_step]
      linarith [double_mono hc0 ih]
    · exact absurd h (by simp)

theorem piHi_gt : π < ((piHi : Rat) : ℝ) := by
  have := Real.pi_lt_d6
  unfold piHi; push_cast; norm_num at this ⊢; linarith

theorem piLo_lt : ((piLo : Rat) : ℝ) < π := by
  have := Real.pi_gt_d6
  unfold piLo; push_cast; norm_num at this ⊢; linarith

theorem cosPiLo_sound (a : Rat) (h0 : 0 ≤ a) (h1 : a ≤ 1 / 2) : ((cosPiLo a : Rat) : ℝ) ≤ Real.cos (π * (a : ℝ)) := by
  have ha0 : (0 : ℝ) ≤ (a : ℝ) := by exact_mod_cast h0
  have ha1 : (a : ℝ) ≤ 1 / 2 := by simpa using (Rat.cast_le (K := ℝ)).2 h1
  have hpa : 0 ≤ π * (a : ℝ) := mul_nonneg Real.pi_pos.le ha0
  unfold cosPiLo
  cases hc : cosLB halvings (piHi * a) with
  | none =>
    rw [Option.getD_none, Rat.cast_zero]
    exact Real.cos_nonneg_of_neg_pi_div_two_le_of_le ((neg_nonpos.2 (by positivity)).trans hpa)
      ((mul_le_mul_of_nonneg_left ha1 Real.pi_pos.le).trans_eq (mul_one_div _ _))
  | some c =>
    refine cosLB_sound halvings (piHi * a) c hc _ hpa ?_
    push_cast
    exact mul_le_mul_of_nonneg_right piHi_gt.le ha0

theorem cosPiHi_sound (a : Rat) (h0 : 0 ≤ a) (h1 : a ≤ 1) : Real.cos (π * (a : ℝ)) ≤ ((cosPiHi a : Rat) : ℝ) := by
  have ha0 : (0 : ℝ) ≤ (a : ℝ) := by exact_mod_cast h0
  have ha1 : (a : ℝ) ≤ 1 := by exact_mod_cast h1
  unfold cosPiHi
  cases hc : cosUB halvings (piLo * a) with
  | none => rw [Option.getD_none, Rat.cast_one]; exact Real.cos_le_one _
  | some c =>
    refine cosUB_sound halvings (piLo * a) c hc (mul_nonneg (by unfold piLo; norm_num) h0) _ ?_
      (mul_le_of_le_one_right Real.pi_pos.le ha1)
    push_cast
    exact mul_le_mul_of_nonneg_right piLo_lt.le ha0

theorem tableQ_bounds (q : Int) : 1 ≤ tableQ q ∧ tableQ q ≤ 32 := by
  unfold tableQ; split <;> [omega; (split <;> omega)]

theorem tableQ_le (q : Int) (hq : 1 ≤ q) : tableQ q ≤ q := by
  unfold tableQ; split <;> [omega; (split <;> omega)]

/-- a table entry `cosPiLo (c / min q 32)` is a lower bound of `cos(π c / q)` -/
theorem cosPiLo_table (q : Int) (hq : 1 ≤ q) (c : Rat) (hc0 : 0 < c) (hc1 : c ≤ 1 / 2) :
    ((cosPiLo (c / (tableQ q : Rat)) : Rat) : ℝ) ≤ Real.cos (π * (c : ℝ) / (q : ℝ)) := by
  have ht1 : (1 : Rat) ≤ (tableQ q : Rat) := by exact_mod_cast (tableQ_bounds q).1
  have ht1' : (1 : ℝ) ≤ (tableQ q : ℝ) := by exact_mod_cast ht1
  have hle : (tableQ q : ℝ) ≤ (q : ℝ) := by exact_mod_cast tableQ_le q hq
  have hc : ((c : Rat) : ℝ) ≤ 1 := by exact_mod_cast hc1.trans (by norm_num)
  have hpc : 0 < π * (c : ℝ) := mul_pos Real.pi_pos (by exact_mod_cast hc0)
  have h := cosPiLo_sound (c / tableQ q) (div_nonneg hc0.le (by linarith)) ((div_le_self hc0.le ht1).trans hc1)
  rw [Rat.cast_div, Rat.cast_intCast, ← mul_div_assoc] at h
  -- the table index is not larger than `q`, so its angle is not smaller and its cosine not larger
  refine h.trans (Real.cos_le_cos_of_nonneg_of_le_pi (by positivity) ?_
    (div_le_div_of_nonneg_left hpc.le (by linarith) hle))
  calc π * c / (tableQ q : ℝ) ≤ π * c := div_le_self hpc.le ht1'
    _ ≤ π := mul_le_of_le_one_right Real.pi_pos.le hc

end GeosModel.Buffer
