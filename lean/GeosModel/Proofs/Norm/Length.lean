import GeosModel.Proofs.Norm.Area
/-!
The multiset of squared segment lengths of a geometry's linework (hence its length, and any other symmetric function
of the segment lengths) is invariant under `reverse` and — under the idempotence hypothesis, for rings and closed
lines closed in the coordinates `f` reads — under `normalize`.
-/
namespace GeosModel.Norm
open GeosModel.Kernel

theorem sqDist_comm (a b : Pt) : sqDist a b = sqDist b a := by
  unfold sqDist
  rw [← Int.neg_sub b.x a.x, ← Int.neg_sub b.y a.y, Int.neg_mul_neg, Int.neg_mul_neg]

/-- squared lengths of the segments of a point list -/
def segSqPts (l : List Pt) : List Int := (edges l).map fun e => sqDist e.1 e.2

theorem sqDist_swap : ((fun e : Pt × Pt => sqDist e.1 e.2) ∘ Prod.swap) = fun e : Pt × Pt => sqDist e.1 e.2 :=
  funext fun e => sqDist_comm e.2 e.1

/-- squared segment lengths of a coordinate sequence as `f` reads it -/
def segSq (f : Coord → Pt) (pts : List Coord) : List Int := segSqPts (pts.map f)

theorem SameEdges.segSq {f : Coord → Pt} {l' l : List Coord} (h : SameEdges f l' l) : (segSq f l').Perm (segSq f l) := by
  unfold Norm.segSq segSqPts
  rcases h with h | h
  · exact h.map _
  · refine (h.map _).trans ?_; rw [List.map_map, sqDist_swap]

theorem segSq_reverse (f : Coord → Pt) (l : List Coord) : (segSq f l.reverse).Perm (segSq f l) :=
  (SameEdges.reverse f l).segSq

def catBy {α : Type} (f : α → List Int) : List α → List Int
  | [] => []
  | a :: r => f a ++ catBy f r

theorem catBy_perm {α : Type} {f : α → List Int} {l₁ l₂ : List α} (h : l₁.Perm l₂) : (catBy f l₁).Perm (catBy f l₂) := by
  induction h with
  | nil => exact List.Perm.refl _
  | cons a _ ih => exact List.Perm.append_left _ ih
  | swap a b l =>
    simp only [catBy]
    rw [← List.append_assoc, ← List.append_assoc]
    exact List.Perm.append_right _ List.perm_append_comm
  | trans _ _ ih1 ih2 => exact ih1.trans ih2

theorem catBy_map {α β : Type} (f : β → List Int) (g : α → β) : ∀ l, catBy f (l.map g) = catBy (fun a => f (g a)) l
  | [] => rfl
  | a :: r => congrArg (f (g a) ++ ·) (catBy_map f g r)

theorem catBy_congr_mem {α : Type} {f g : α → List Int} : ∀ (l : List α), (∀ a ∈ l, (f a).Perm (g a)) → (catBy f l).Perm (catBy g l)
  | [], _ => List.Perm.refl _
  | a :: r, h => List.Perm.append (h a (by simp)) (catBy_congr_mem r (fun x hx => h x (by simp [hx])))

mutual
  /-- squared lengths of all segments `Geometry::getLength()` sums over (lines and polygon rings) -/
  def segSqs (f : Coord → Pt) : G → List Int
    | .lineString s => segSq f s.pts
    | .linearRing s => segSq f s.pts
    | .polygon sh hs => segSq f sh.pts ++ catBy (fun h : CSeq => segSq f h.pts) hs
    | .multiLineString gs => segSqsL f gs
    | .multiPolygon gs => segSqsL f gs
    | .multiCurve gs => segSqsL f gs
    | .multiSurface gs => segSqsL f gs
    | .collection gs => segSqsL f gs
    | .multiPoint _ => []
    | .point _ => []
    | .circularString _ => []
    | .compoundCurve _ => []
    | .curvePolygon _ => []
  def segSqsL (f : Coord → Pt) : List G → List Int
    | [] => []
    | g :: gs => segSqs f g ++ segSqsL f gs
end

theorem segSqsL_eq (f : Coord → Pt) : ∀ gs, segSqsL f gs = catBy (segSqs f) gs
  | [] => rfl
  | g :: gs => congrArg (segSqs f g ++ ·) (segSqsL_eq f gs)

theorem segSqs_multi (f : Coord → Pt) (k : Multi) (gs : List G) :
    segSqs f (k.mk gs) = if k = .point then [] else catBy (segSqs f) gs := by
  rw [← segSqsL_eq]; cases k <;> rfl

theorem segSqs_reverse_aux (f : Coord → Pt) (g : G) : (segSqs f (reverse g)).Perm (segSqs f g) := by
  induction g using G.induct with
  | point s | circularString s => exact List.Perm.refl _
  | compoundCurve gs | curvePolygon gs => exact List.Perm.refl _
  | lineString s | linearRing s => exact segSq_reverse f _
  | polygon sh hs =>
    simp only [reverse, segSqs, revSeq, catBy_map]
    exact List.Perm.append (segSq_reverse f _) (catBy_congr_mem hs (fun a _ => segSq_reverse f _))
  | multi k gs ih =>
    rw [reverse_multi, segSqs_multi, segSqs_multi]
    split
    · exact List.Perm.refl _
    · rw [catBy_map]; exact catBy_congr_mem gs ih

theorem segSqsL_reverse (f : Coord → Pt) : ∀ (gs : List G),
      (catBy (fun a => segSqs f (reverse a)) gs).Perm (catBy (segSqs f) gs) :=
  fun gs => catBy_congr_mem gs fun g _ => segSqs_reverse_aux f g

mutual
  /-- polygon rings, and the lines that are closed for `normalize`, are closed in the coordinates `f` reads -/
  def closedOK (f : Coord → Pt) (c : Cfg) : G → Prop
    | .polygon sh hs => closedUnder f sh.pts ∧ ∀ h ∈ hs, closedUnder f h.pts
    | .lineString s => isClosedPts c s.pts = true → closedUnder f s.pts
    | .linearRing s => isClosedPts c s.pts = true → closedUnder f s.pts
    | .multiLineString gs => closedOKL f c gs
    | .multiPolygon gs => closedOKL f c gs
    | .multiCurve gs => closedOKL f c gs
    | .multiSurface gs => closedOKL f c gs
    | .collection gs => closedOKL f c gs
    | .multiPoint _ => True
    | .point _ => True
    | .circularString _ => True
    | .compoundCurve _ => True
    | .curvePolygon _ => True
  def closedOKL (f : Coord → Pt) (c : Cfg) : List G → Prop
    | [] => True
    | g :: gs => closedOK f c g ∧ closedOKL f c gs
end

theorem closedOKL_iff {f : Coord → Pt} {c : Cfg} : ∀ (gs : List G), closedOKL f c gs ↔ ∀ g ∈ gs, closedOK f c g
  | [] => ⟨fun _ _ h => (nomatch h), fun _ => trivial⟩
  | g :: gs => by rw [closedOKL, closedOKL_iff gs, List.forall_mem_cons]

theorem closedOK_multi {f : Coord → Pt} {c : Cfg} {k : Multi} {gs : List G} :
    closedOK f c (k.mk gs) ↔ (k ≠ .point → ∀ g ∈ gs, closedOK f c g) := by
  cases k <;> simp [Multi.mk, closedOK, closedOKL_iff]

theorem segSqs_normalize_aux (f : Coord → Pt) (c : Cfg) (g : G) (hc : closedOK f c g) (h : idemOK c g = true) :
    (segSqs f (normalize c g)).Perm (segSqs f g) := by
  induction g using G.induct with
  | point s | circularString s => exact List.Perm.refl _
  | compoundCurve gs | curvePolygon gs => exact List.Perm.refl _
  | lineString s | linearRing s =>
    simp only [idemOK] at h; simp only [closedOK] at hc
    exact (sameEdges_normLinePts hc h).segSq
  | polygon sh hs =>
    simp only [idemOK, Bool.and_eq_true, List.all_eq_true] at h
    simp only [closedOK] at hc
    simp only [normalize, segSqs, normRing]
    refine List.Perm.append (sameEdges_normRingPts hc.1 h.1).segSq ?_
    refine (catBy_perm (sortDesc_perm _ _)).trans ?_
    rw [catBy_map]
    exact catBy_congr_mem hs (fun a ha => (sameEdges_normRingPts (hc.2 a ha) (h.2 a ha)).segSq)
  | multi k gs ih =>
    rw [normalize_multi, segSqs_multi, segSqs_multi]
    split
    · exact List.Perm.refl _
    · rename_i hk
      refine (catBy_perm (sortDesc_perm _ _)).trans ?_
      rw [catBy_map]
      exact catBy_congr_mem gs fun g hg => ih g hg (closedOK_multi.1 hc hk g hg) (idemOK_multi.1 h g hg)

theorem segSqsL_normalize (f : Coord → Pt) (c : Cfg) : ∀ (gs : List G), closedOKL f c gs → idemOKL c gs = true →
      (catBy (fun a => segSqs f (normalize c a)) gs).Perm (catBy (segSqs f) gs) :=
  fun gs hc h => catBy_congr_mem gs fun g hg =>
    segSqs_normalize_aux f c g ((closedOKL_iff gs).1 hc g hg) ((idemOKL_iff gs).1 h g hg)

end GeosModel.Norm
