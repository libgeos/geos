import GeosModel.Proofs.Norm.Tree
/-!
`reverse ∘ reverse = id`, reflexivity of the equality predicates, and invariance of vertex count, element count and
dimension under `reverse` and `normalize`.
-/
namespace GeosModel.Norm

/-! ### what `reverse` does to lists and to the sibling-list classes; `reverse ∘ reverse` -/

theorem revSeq_revSeq (s : CSeq) : revSeq (revSeq s) = s := by
  cases s; simp [revSeq]

theorem reverseL_eq_map : ∀ gs, reverseL gs = gs.map reverse
  | [] => rfl
  | g :: gs => congrArg (reverse g :: ·) (reverseL_eq_map gs)

theorem reverseRevL_eq : ∀ (gs acc : List G), reverseRevL gs acc = (gs.map reverse).reverse ++ acc
  | [], acc => rfl
  | g :: gs, acc => by rw [reverseRevL, reverseRevL_eq gs, List.map_cons, List.reverse_cons, List.append_assoc]; rfl

/-- `MultiPoint::reverseImpl` copies; the other sibling-list classes reverse their members -/
theorem reverse_multi (k : Multi) (gs : List G) :
    reverse (k.mk gs) = k.mk (if k = .point then gs else gs.map reverse) := by
  rw [← reverseL_eq_map]; cases k <;> rfl

theorem reverse_reverse_aux (g : G) : reverse (reverse g) = g := by
  induction g using G.induct with
  | point s => rfl
  | lineString s | linearRing s | circularString s => simp only [reverse, revSeq_revSeq]
  | polygon sh hs =>
    simp only [reverse, revSeq_revSeq, List.map_map]
    congr 1
    exact map_id_of_fixed hs (fun a _ => revSeq_revSeq a)
  | compoundCurve gs ih =>
    simp only [reverse, reverseRevL_eq, List.append_nil, List.map_reverse, List.reverse_reverse, List.map_map]
    congr 1
    exact map_id_of_fixed gs ih
  | curvePolygon gs ih =>
    simp only [reverse, reverseL_eq_map, List.map_map]
    congr 1
    exact map_id_of_fixed gs ih
  | multi k gs ih =>
    rw [reverse_multi, reverse_multi]
    split
    · rfl
    · rw [List.map_map]; exact congrArg k.mk (map_id_of_fixed gs ih)

theorem reverseL_reverseL : ∀ (gs : List G), reverseL (reverseL gs) = gs := by
  intro gs
  rw [reverseL_eq_map, reverseL_eq_map, List.map_map]
  exact map_id_of_fixed gs fun g _ => reverse_reverse_aux g

/-! ### equality predicates are reflexive -/

theorem eqSeqsWith_refl {f : CSeq → CSeq → Bool} (hf : ∀ s, f s s = true) : ∀ l, eqSeqsWith f l l = true
  | [] => rfl
  | s :: r => by simp [eqSeqsWith, hf s, eqSeqsWith_refl hf r]

theorem eqWithL_of_mem {f : CSeq → CSeq → Bool} : ∀ (gs : List G), (∀ g ∈ gs, eqWith f g g = true) → eqWithL f gs gs = true
  | [], _ => rfl
  | g :: gs, h => by
    rw [eqWithL, h g List.mem_cons_self, eqWithL_of_mem gs fun x hx => h x (List.mem_cons_of_mem g hx)]; rfl

theorem eqWith_multi (f : CSeq → CSeq → Bool) (k : Multi) (gs hs : List G) :
    eqWith f (k.mk gs) (k.mk hs) = eqWithL f gs hs := by cases k <;> rfl

theorem eqWith_refl {f : CSeq → CSeq → Bool} (hf : ∀ s, f s s = true) (g : G) : eqWith f g g = true := by
  induction g using G.induct with
  | point s | lineString s | linearRing s | circularString s => exact hf s
  | polygon sh hs => rw [eqWith, hf, eqSeqsWith_refl hf]; rfl
  | compoundCurve gs ih | curvePolygon gs ih => exact eqWithL_of_mem gs ih
  | multi k gs ih => rw [eqWith_multi]; exact eqWithL_of_mem gs ih

theorem eqWithL_refl {f : CSeq → CSeq → Bool} (hf : ∀ s, f s s = true) : ∀ (gs : List G), eqWithL f gs gs = true :=
  fun gs => eqWithL_of_mem gs fun g _ => eqWith_refl hf g

theorem eqSeqExact_refl (c : Cfg) (s : CSeq) : eqSeqExact c s s = true := by simp [eqSeqExact]

theorem eqOrdId_refl (d : IdCfg) (a : UInt64) : eqOrdId d a a = true := by
  unfold eqOrdId; cases d.isNaN a <;> simp

theorem eqPtsId_refl (d : IdCfg) : ∀ l, eqPtsId d l l = true
  | [] => rfl
  | a :: r => by simp [eqPtsId, eqCoordId, eqOrdId_refl, eqPtsId_refl d r]

theorem eqSeqId_refl (d : IdCfg) (s : CSeq) : eqSeqId d s s = true := by simp [eqSeqId, eqPtsId_refl]

/-! ### sums and maxima over sibling lists -/

def sumNat {α : Type} (f : α → Nat) : List α → Nat
  | [] => 0
  | a :: r => f a + sumNat f r

theorem sumNat_perm {α : Type} {f : α → Nat} {l₁ l₂ : List α} (h : l₁.Perm l₂) : sumNat f l₁ = sumNat f l₂ := by
  induction h with
  | nil => rfl
  | cons a _ ih => rw [sumNat, sumNat, ih]
  | swap a b l => exact Nat.add_left_comm _ _ _
  | trans _ _ ih1 ih2 => exact ih1.trans ih2

theorem sumNat_map {α β : Type} (f : β → Nat) (g : α → β) : ∀ l, sumNat f (l.map g) = sumNat (fun a => f (g a)) l
  | [] => rfl
  | a :: r => congrArg (f (g a) + ·) (sumNat_map f g r)

theorem sumNat_congr {α : Type} {f g : α → Nat} : ∀ (l : List α), (∀ a ∈ l, f a = g a) → sumNat f l = sumNat g l
  | [], _ => rfl
  | a :: r, h => by simp only [sumNat]; rw [h a (by simp), sumNat_congr r (fun x hx => h x (by simp [hx]))]

theorem sumNat_append {α : Type} (f : α → Nat) : ∀ (l₁ l₂ : List α), sumNat f (l₁ ++ l₂) = sumNat f l₁ + sumNat f l₂
  | [], l₂ => by simp [sumNat]
  | a :: r, l₂ => by simp only [List.cons_append, sumNat, sumNat_append f r l₂]; omega

def maxNat {α : Type} (f : α → Nat) : List α → Nat
  | [] => 0
  | a :: r => max (f a) (maxNat f r)

theorem maxNat_perm {α : Type} {f : α → Nat} {l₁ l₂ : List α} (h : l₁.Perm l₂) : maxNat f l₁ = maxNat f l₂ := by
  induction h with
  | nil => rfl
  | cons a _ ih => rw [maxNat, maxNat, ih]
  | swap a b l => exact Nat.max_left_comm _ _ _
  | trans _ _ ih1 ih2 => exact ih1.trans ih2

theorem maxNat_map {α β : Type} (f : β → Nat) (g : α → β) : ∀ l, maxNat f (l.map g) = maxNat (fun a => f (g a)) l
  | [] => rfl
  | a :: r => congrArg (max (f (g a))) (maxNat_map f g r)

theorem maxNat_congr {α : Type} {f g : α → Nat} : ∀ (l : List α), (∀ a ∈ l, f a = g a) → maxNat f l = maxNat g l
  | [], _ => rfl
  | a :: r, h => by simp only [maxNat]; rw [h a (by simp), maxNat_congr r (fun x hx => h x (by simp [hx]))]

theorem numPointsL_eq : ∀ gs, numPointsL gs = sumNat numPoints gs
  | [] => rfl
  | g :: gs => congrArg (numPoints g + ·) (numPointsL_eq gs)

theorem sumSeqLen_eq : ∀ hs, sumSeqLen hs = sumNat (fun s : CSeq => s.pts.length) hs
  | [] => rfl
  | s :: r => congrArg (s.pts.length + ·) (sumSeqLen_eq r)

theorem dimP1L_eq : ∀ gs, dimP1L gs = maxNat dimP1 gs
  | [] => rfl
  | g :: gs => congrArg (max (dimP1 g)) (dimP1L_eq gs)

/-! ### reverse keeps counts and dimension -/

theorem numPoints_multi (k : Multi) (gs : List G) : numPoints (k.mk gs) = sumNat numPoints gs := by
  rw [← numPointsL_eq]; cases k <;> rfl

theorem numPoints_reverse_aux (g : G) : numPoints (reverse g) = numPoints g := by
  induction g using G.induct with
  | point s => rfl
  | lineString s | linearRing s | circularString s => simp only [reverse, numPoints, revSeq, List.length_reverse]
  | polygon sh hs => simp only [reverse, numPoints, sumSeqLen_eq, sumNat_map, revSeq, List.length_reverse]
  | compoundCurve gs ih =>
    simp only [reverse, numPoints, reverseRevL_eq, List.append_nil, numPointsL_eq]
    rw [sumNat_perm (List.reverse_perm _), sumNat_map]
    exact sumNat_congr gs ih
  | curvePolygon gs ih =>
    simp only [reverse, numPoints, numPointsL_eq, reverseL_eq_map, sumNat_map]
    exact sumNat_congr gs ih
  | multi k gs ih =>
    rw [reverse_multi, numPoints_multi, numPoints_multi]
    split
    · rfl
    · rw [sumNat_map]; exact sumNat_congr gs ih

theorem numPointsL_reverse_sum : ∀ (gs : List G), sumNat (fun a => numPoints (reverse a)) gs = sumNat numPoints gs :=
  fun gs => sumNat_congr gs fun g _ => numPoints_reverse_aux g

theorem numGeoms_reverse_aux (g : G) : numGeoms (reverse g) = numGeoms g := by
  cases g <;> simp [reverse, numGeoms, reverseL_eq_map]

/-- only a GeometryCollection takes its dimension from its members -/
theorem dimP1_multi_of_ne {k : Multi} (hk : k ≠ .collection) (gs hs : List G) : dimP1 (k.mk gs) = dimP1 (k.mk hs) := by
  cases k with
  | collection => exact absurd rfl hk
  | point | lineString | polygon | curve | surface => rfl

theorem dimP1_reverse_aux (g : G) : dimP1 (reverse g) = dimP1 g := by
  induction g using G.induct with
  | point s | lineString s | linearRing s | circularString s => rfl
  | polygon sh hs => rfl
  | compoundCurve gs | curvePolygon gs => rfl
  | multi k gs ih =>
    by_cases hk : k = .collection
    · subst hk
      simp only [Multi.mk, reverse, dimP1, dimP1L_eq, reverseL_eq_map, maxNat_map]
      exact maxNat_congr gs ih
    · rw [reverse_multi]; exact dimP1_multi_of_ne hk _ _

theorem dimP1L_reverse_max : ∀ (gs : List G), maxNat (fun a => dimP1 (reverse a)) gs = maxNat dimP1 gs :=
  fun gs => maxNat_congr gs fun g _ => dimP1_reverse_aux g

/-! ### normalize keeps element count and dimension (always) -/

theorem numGeoms_normalize_aux (c : Cfg) (g : G) : numGeoms (normalize c g) = numGeoms g := by
  cases g <;> simp [normalize, numGeoms, sortDesc_length, normalizeL_eq_map]

theorem numHoles_normalize_aux (c : Cfg) (g : G) : numHoles (normalize c g) = numHoles g := by
  cases g <;> simp [normalize, numHoles, sortDesc_length]

theorem dimP1_normalize_aux (c : Cfg) (g : G) : dimP1 (normalize c g) = dimP1 g := by
  induction g using G.induct with
  | point s | lineString s | linearRing s | circularString s => rfl
  | polygon sh hs => rfl
  | compoundCurve gs | curvePolygon gs => rfl
  | multi k gs ih =>
    by_cases hk : k = .collection
    · subst hk
      simp only [Multi.mk, normalize, dimP1, dimP1L_eq]
      rw [maxNat_perm (sortDesc_perm _ _), normalizeL_eq_map, maxNat_map]
      exact maxNat_congr gs ih
    · rw [normalize_multi]; exact dimP1_multi_of_ne hk _ _

theorem dimP1L_normalize_max (c : Cfg) : ∀ (gs : List G), maxNat (fun a => dimP1 (normalize c a)) gs = maxNat dimP1 gs :=
  fun gs => maxNat_congr gs fun g _ => dimP1_normalize_aux c g

/-! ### normalize keeps the vertex count under the idempotence hypothesis -/

theorem orientRing_length (c : Cfg) (cw : Bool) (R : List Coord) : (orientRing c cw R).length = R.length := by
  unfold orientRing; split
  · exact List.length_reverse
  · rfl

theorem orientClosed_length (c : Cfg) (R : List Coord) : (orientClosed c R).length = R.length := by
  unfold orientClosed; split
  · exact List.length_reverse
  · rfl

theorem length_scrolled {α : Type} (pre post : List α) (m z : α) :
    (m :: (post ++ pre) ++ [m]).length = (pre ++ m :: post ++ [z]).length := by
  simp only [List.length_append, List.length_cons, List.length_nil]; omega

theorem normRingPts_length_of_ok {c : Cfg} {cw : Bool} {l : List Coord} (h : ringIdemOK c cw l = true) :
    (normRingPts c cw l).length = l.length := by
  rcases normRingPts_of_ok h with rfl | ⟨pre, m, post, z, rfl, hn⟩
  · rfl
  · rw [hn, orientRing_length, length_scrolled]

theorem normLinePts_length_of_ok {c : Cfg} {l : List Coord} (h : lineIdemOK c l = true) :
    (normLinePts c l).length = l.length := by
  rcases normLinePts_of_ok h with (hn | hn) | ⟨-, pre, m, post, z, rfl, hn⟩
  · rw [hn]
  · rw [hn, List.length_reverse]
  · rw [hn, orientClosed_length, length_scrolled]

theorem numPoints_normalize_aux (c : Cfg) (g : G) (h : idemOK c g = true) : numPoints (normalize c g) = numPoints g := by
  induction g using G.induct with
  | point s | circularString s => rfl
  | compoundCurve gs | curvePolygon gs => rfl
  | lineString s | linearRing s =>
    simp only [idemOK] at h
    simp only [normalize, numPoints, normLine]; exact normLinePts_length_of_ok h
  | polygon sh hs =>
    simp only [idemOK, Bool.and_eq_true, List.all_eq_true] at h
    simp only [normalize, numPoints, normRing, sumSeqLen_eq]
    rw [normRingPts_length_of_ok h.1, sumNat_perm (sortDesc_perm _ _), sumNat_map]
    congr 1
    exact sumNat_congr hs (fun a ha => normRingPts_length_of_ok (h.2 a ha))
  | multi k gs ih =>
    rw [normalize_multi, numPoints_multi, numPoints_multi, sumNat_perm (sortDesc_perm _ _), sumNat_map]
    exact sumNat_congr gs fun g hg => ih g hg (idemOK_multi.1 h g hg)

theorem numPointsL_normalize_sum (c : Cfg) : ∀ (gs : List G), idemOKL c gs = true →
      sumNat (fun a => numPoints (normalize c a)) gs = sumNat numPoints gs :=
  fun gs h => sumNat_congr gs fun g hg => numPoints_normalize_aux c g ((idemOKL_iff gs).1 h g hg)

end GeosModel.Norm
