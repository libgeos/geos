import GeosModel.Proofs.Norm.Sort
import GeosModel.Model.Norm.Classify
/-!
Ring-level facts: `scroll` goes to the first minimum; rotation / reversal of an open ring with a unique minimum
scroll to the same list (resp. its mirror image); `normRingPts` is idempotent and canonical under the stated
hypotheses (lines, open and closed, are in `Line.lean`).
-/
namespace GeosModel.Norm

/-- `l = pre ++ m :: post` where `m` is the first minimum: everything before is strictly greater, everything
after is not smaller -/
structure FirstMin (c : Cfg) (l pre : List Coord) (m : Coord) (post : List Coord) : Prop where
  eq : l = pre ++ m :: post
  pre_gt : ∀ x ∈ pre, cmpXY c m x < 0
  post_ge : ∀ x ∈ post, cmpXY c m x ≤ 0

/-- the minimum is attained exactly once -/
structure UniqueMin (c : Cfg) (l pre : List Coord) (m : Coord) (post : List Coord) : Prop where
  eq : l = pre ++ m :: post
  gt : ∀ x ∈ pre ++ post, cmpXY c m x < 0

theorem UniqueMin.firstMin {c : Cfg} {l pre m post} (h : UniqueMin c l pre m post) : FirstMin c l pre m post :=
  ⟨h.eq, fun x hx => h.gt x (by simp [hx]), fun x hx => Int.le_of_lt (h.gt x (by simp [hx]))⟩

def minStep (c : Cfg) (m q : Coord) : Coord := if cmpXY c m q > 0 then q else m

theorem minCoord_cons (c : Cfg) (p : Coord) (r : List Coord) : minCoord c (p :: r) = some (r.foldl (minStep c) p) := rfl

theorem foldl_minStep_mem (c : Cfg) : ∀ (r : List Coord) (p : Coord), r.foldl (minStep c) p ∈ p :: r
  | [], p => by simp
  | q :: r, p => by
    simp only [List.foldl]
    have := foldl_minStep_mem c r (minStep c p q)
    rcases List.mem_cons.mp this with h | h
    · rw [h]; unfold minStep; split <;> simp
    · simp [h]

theorem foldl_minStep_stay (c : Cfg) (m : Coord) : ∀ (r : List Coord), (∀ x ∈ r, cmpXY c m x ≤ 0) → r.foldl (minStep c) m = m
  | [], _ => rfl
  | q :: r, h => by
    simp only [List.foldl]
    have hq : ¬ cmpXY c m q > 0 := by have := h q (by simp); omega
    simp only [minStep, hq, if_false]
    exact foldl_minStep_stay c m r (fun x hx => h x (by simp [hx]))

theorem minCoord_firstMin {c : Cfg} {l pre m post} (h : FirstMin c l pre m post) : minCoord c l = some m := by
  rw [h.eq]
  cases pre with
  | nil =>
    simp only [List.nil_append, minCoord_cons]
    rw [foldl_minStep_stay c m post h.post_ge]
  | cons p pre' =>
    rw [List.cons_append, minCoord_cons, List.foldl_append, List.foldl_cons]
    have hmem := foldl_minStep_mem c pre' p
    have hgt : cmpXY c m (pre'.foldl (minStep c) p) < 0 := h.pre_gt _ hmem
    have : cmpXY c (pre'.foldl (minStep c) p) m > 0 := by
      have := (cmpXY_ok c).antisymm m (pre'.foldl (minStep c) p); omega
    have e : minStep c (pre'.foldl (minStep c) p) m = m := by simp only [minStep, this, if_true]
    rw [e, foldl_minStep_stay c m post h.post_ge]

theorem eqXY_self (c : Cfg) (a : Coord) : eqXY c a a = true := by simp [eqXY]

theorem eqXY_false_of_lt {c : Cfg} {a b : Coord} (h : cmpXY c a b < 0) : eqXY c a b = false := by
  cases hh : eqXY c a b with
  | false => rfl
  | true => have := cmpXY_eq_zero.mpr hh; omega

theorem indexOf_firstMin {c : Cfg} {m : Coord} : ∀ (pre post : List Coord), (∀ x ∈ pre, cmpXY c m x < 0) →
    indexOf c m (pre ++ m :: post) = pre.length
  | [], post, _ => by simp [indexOf, eqXY_self]
  | p :: pre, post, h => by
    have hp := eqXY_false_of_lt (h p (by simp))
    simp only [List.cons_append, indexOf, hp, List.length_cons]
    rw [indexOf_firstMin pre post (fun x hx => h x (by simp [hx]))]
    simp

theorem scroll_firstMin {c : Cfg} {l pre m post} (h : FirstMin c l pre m post) : scroll c l = m :: post ++ pre := by
  unfold scroll
  rw [minCoord_firstMin h]
  simp only
  rw [h.eq, indexOf_firstMin pre post h.pre_gt]
  cases pre with
  | nil => simp
  | cons p pre' =>
    have : ¬ ((p :: pre').length = 0 ∨ ((p :: pre') ++ m :: post).length ≤ (p :: pre').length) := by
      simp
    rw [if_neg this]
    rw [List.drop_left, List.take_left]

/-- rotation of an open ring -/
def rot (k : Nat) (o : List Coord) : List Coord := o.drop k ++ o.take k

/-- a rotation of `pre ++ m :: post` is again of that shape with the same cyclic remainder -/
theorem rot_decomp (k : Nat) (pre : List Coord) (m : Coord) (post : List Coord) :
    ∃ pre' post', rot k (pre ++ m :: post) = pre' ++ m :: post' ∧ post' ++ pre' = post ++ pre := by
  by_cases hk : k ≤ pre.length
  · refine ⟨pre.drop k, post ++ pre.take k, ?_, ?_⟩
    · unfold rot
      rw [List.drop_append_of_le_length hk, List.take_append_of_le_length hk]
      simp
    · simp [List.append_assoc, List.take_append_drop]
  · refine ⟨post.drop (k - pre.length - 1) ++ pre, post.take (k - pre.length - 1), ?_, ?_⟩
    · unfold rot
      have e : k = pre.length + ((k - pre.length - 1) + 1) := by omega
      generalize k - pre.length - 1 = j at e
      subst e
      rw [List.drop_append, List.take_append]
      have h1 : List.drop (pre.length + (j + 1)) pre = [] := List.drop_eq_nil_of_le (by omega)
      have h2 : List.take (pre.length + (j + 1)) pre = pre := List.take_of_length_le (by omega)
      simp [List.append_assoc, h1, h2]
    · simp [← List.append_assoc, List.take_append_drop]

theorem UniqueMin.gt' {c : Cfg} {o pre m post} (h : UniqueMin c o pre m post) : ∀ x ∈ post ++ pre, cmpXY c m x < 0 :=
  fun x hx => h.gt x (List.mem_append.2 (List.mem_append.1 hx).symm)

theorem scroll_rot {c : Cfg} {o pre m post} (h : UniqueMin c o pre m post) (k : Nat) :
    scroll c (rot k o) = m :: post ++ pre := by
  obtain ⟨pre', post', e, hcyc⟩ := rot_decomp k pre m post
  have hu : UniqueMin c (rot k o) pre' m post' :=
    ⟨by rw [h.eq, e], fun x hx => h.gt' x (hcyc ▸ List.mem_append.2 (List.mem_append.1 hx).symm)⟩
  rw [scroll_firstMin hu.firstMin]
  simp only [List.cons_append, hcyc]

theorem UniqueMin.reverse {c : Cfg} {o pre m post} (h : UniqueMin c o pre m post) :
    UniqueMin c o.reverse post.reverse m pre.reverse :=
  ⟨by rw [h.eq]; simp, fun x hx => h.gt x (by simp at hx ⊢; exact hx.symm)⟩

theorem scroll_rot_reverse {c : Cfg} {o pre m post} (h : UniqueMin c o pre m post) (k : Nat) :
    scroll c (rot k o.reverse) = m :: (post ++ pre).reverse := by
  rw [scroll_rot h.reverse k]; simp

theorem closeRing_true (c : Cfg) (a : Coord) (t : List Coord) : closeRing c true (a :: t) = a :: t ++ [a] := by
  simp [closeRing]

theorem closeRing_false_of_gt {c : Cfg} {m : Coord} {t : List Coord} (hne : t ≠ [])
    (h : ∀ x ∈ t, cmpXY c m x < 0) : closeRing c false (m :: t) = m :: t ++ [m] := by
  have hl : (m :: t).getLast (by simp) ∈ t := by
    rw [List.getLast_cons hne]; exact List.getLast_mem hne
  have := eqXY_false_of_lt (h _ hl)
  simp [closeRing, this]

/-! ### existence of the first minimum; `minCount = 1` gives a unique minimum -/

theorem exists_firstMin (c : Cfg) : ∀ (l : List Coord), l ≠ [] → ∃ pre m post, FirstMin c l pre m post
  | [], h => absurd rfl h
  | [x], _ => ⟨[], x, [], by simp, by simp, by simp⟩
  | x :: y :: t, _ => by
    obtain ⟨pre, m, post, h⟩ := exists_firstMin c (y :: t) (by simp)
    by_cases hx : cmpXY c x m ≤ 0
    · refine ⟨[], x, y :: t, by simp, by simp, ?_⟩
      intro z hz
      rw [h.eq] at hz
      rcases List.mem_append.mp hz with hz | hz
      · exact (cmpXY_ok c).le_trans hx (Int.le_of_lt (h.pre_gt z hz))
      · rcases List.mem_cons.mp hz with rfl | hz
        · exact hx
        · exact (cmpXY_ok c).le_trans hx (h.post_ge z hz)
    · refine ⟨x :: pre, m, post, by rw [h.eq]; simp, ?_, h.post_ge⟩
      intro z hz
      rcases List.mem_cons.mp hz with rfl | hz
      · have := (cmpXY_ok c).antisymm z m; omega
      · exact h.pre_gt z hz

theorem filter_length_zero_of_gt {c : Cfg} {m : Coord} (l : List Coord) (h : ∀ x ∈ l, cmpXY c m x < 0) :
    (l.filter fun x => eqXY c m x).length = 0 := by
  rw [List.length_eq_zero_iff, List.filter_eq_nil_iff]
  intro x hx; rw [eqXY_false_of_lt (h x hx)]; exact Bool.false_ne_true

theorem gt_of_filter_length_zero {c : Cfg} {m : Coord} (l : List Coord) (h : ∀ x ∈ l, cmpXY c m x ≤ 0)
    (hz : (l.filter fun x => eqXY c m x).length = 0) : ∀ x ∈ l, cmpXY c m x < 0 := by
  intro x hx
  have hne : cmpXY c m x ≠ 0 := fun h0 =>
    List.filter_eq_nil_iff.1 (List.length_eq_zero_iff.1 hz) x hx (cmpXY_eq_zero.mp h0)
  have := h x hx
  omega

theorem uniqueMin_of_minCount {c : Cfg} {o : List Coord} (h : minCount c o = 1) : ∃ pre m post, UniqueMin c o pre m post := by
  have hne : o ≠ [] := by intro e; subst e; simp [minCount, minCoord] at h
  obtain ⟨pre, m, post, hf⟩ := exists_firstMin c o hne
  refine ⟨pre, m, post, hf.eq, ?_⟩
  unfold minCount at h
  rw [minCoord_firstMin hf] at h
  simp only at h
  rw [hf.eq, List.filter_append, List.length_append] at h
  have h0 := filter_length_zero_of_gt pre hf.pre_gt
  simp only [List.filter, eqXY_self, List.length_cons] at h
  have hpost : (post.filter fun x => eqXY c m x).length = 0 := by omega
  have := gt_of_filter_length_zero post hf.post_ge hpost
  intro x hx
  rcases List.mem_append.mp hx with hx | hx
  · exact hf.pre_gt x hx
  · exact this x hx

/-! ### `Polygon::normalize(ring, clockwise)` -/

theorem normRingPts_concat (c : Cfg) (cw : Bool) (o : List Coord) (z : Coord) :
    normRingPts c cw (o ++ [z]) =
      (if c.isCCW (closeRing c false (scroll c o)) == cw then (closeRing c false (scroll c o)).reverse
       else closeRing c false (scroll c o)) := by
  cases h : o ++ [z] with
  | nil => simp at h
  | cons a t =>
    simp only [normRingPts]
    rw [← h, List.dropLast_concat]

/-- the outcome of `Polygon::normalize(ring, cw)` once the rotated open ring is known -/
def orientRing (c : Cfg) (cw : Bool) (R : List Coord) : List Coord := if c.isCCW R == cw then R.reverse else R

theorem normRingPts_of_scroll {c : Cfg} {cw : Bool} {o : List Coord} {m : Coord} {t : List Coord} (z : Coord)
    (hs : scroll c o = m :: t) (hne : t ≠ []) (hgt : ∀ x ∈ t, cmpXY c m x < 0) :
    normRingPts c cw (o ++ [z]) = orientRing c cw (m :: t ++ [m]) := by
  rw [normRingPts_concat, hs, closeRing_false_of_gt hne hgt]; rfl

theorem orientRing_stable {c : Cfg} {cw : Bool} {R : List Coord}
    (h : ¬ (c.isCCW R = cw ∧ c.isCCW R.reverse = cw)) :
    orientRing c cw (orientRing c cw R) = orientRing c cw R := by
  unfold orientRing
  by_cases h1 : c.isCCW R = cw
  · have h2 : ¬ c.isCCW R.reverse = cw := fun h2 => h ⟨h1, h2⟩
    simp [h1, h2]
  · simp [h1]

theorem orientRing_reverse {c : Cfg} {cw : Bool} {R : List Coord} (h : c.isCCW R.reverse = !c.isCCW R) :
    orientRing c cw R.reverse = orientRing c cw R := by
  unfold orientRing
  rw [h, List.reverse_reverse]
  cases hR : c.isCCW R <;> cases cw <;> simp

theorem normRingPts_unique {c : Cfg} {cw : Bool} {o pre m post} (z : Coord) (h : UniqueMin c o pre m post)
    (hne : pre ++ post ≠ []) : normRingPts c cw (o ++ [z]) = orientRing c cw (m :: (post ++ pre) ++ [m]) :=
  normRingPts_of_scroll z (scroll_firstMin h.firstMin) (append_comm_ne_nil hne) h.gt'

theorem orientRing_shape (c : Cfg) (cw : Bool) (m : Coord) (t : List Coord) :
    orientRing c cw (m :: t ++ [m]) = m :: t ++ [m] ∨ orientRing c cw (m :: t ++ [m]) = m :: t.reverse ++ [m] := by
  unfold orientRing; split
  · right; simp
  · left; rfl

theorem normRingPts_idem_pts {c : Cfg} {cw : Bool} {o pre m post} (z : Coord) (h : UniqueMin c o pre m post)
    (hne : pre ++ post ≠ [])
    (hor : ¬ (c.isCCW (m :: (post ++ pre) ++ [m]) = cw ∧ c.isCCW (m :: (post ++ pre) ++ [m]).reverse = cw)) :
    normRingPts c cw (normRingPts c cw (o ++ [z])) = normRingPts c cw (o ++ [z]) := by
  rw [normRingPts_unique z h hne]
  have hst := orientRing_stable hor
  -- the first result is `m :: t ++ [m]` with `t` = `post ++ pre` or its reverse, on which the second pass only orients
  obtain ⟨t, hn, hg, e⟩ : ∃ t, t ≠ [] ∧ (∀ x ∈ t, cmpXY c m x < 0) ∧
      orientRing c cw (m :: (post ++ pre) ++ [m]) = m :: t ++ [m] := by
    rcases orientRing_shape c cw m (post ++ pre) with e | e
    · exact ⟨_, append_comm_ne_nil hne, h.gt', e⟩
    · exact ⟨_, fun e' => append_comm_ne_nil hne (List.reverse_eq_nil_iff.mp e'),
        fun x hx => h.gt' x (List.mem_reverse.mp hx), e⟩
  rw [e] at hst ⊢
  have hu : UniqueMin c (m :: t) [] m t := ⟨rfl, hg⟩
  rw [show m :: t ++ [m] = (m :: t) ++ [m] from rfl, normRingPts_unique m hu hn, List.append_nil]
  exact hst

theorem normRingPts_variant {c : Cfg} {cw : Bool} {o o' pre m post} (z z' : Coord) (h : UniqueMin c o pre m post)
    (hne : pre ++ post ≠ [])
    (hdec : c.isCCW (m :: (post ++ pre) ++ [m]).reverse = !c.isCCW (m :: (post ++ pre) ++ [m]))
    (hv : ∃ k, o' = rot k o ∨ o' = rot k o.reverse) :
    normRingPts c cw (o' ++ [z']) = normRingPts c cw (o ++ [z]) := by
  rw [normRingPts_unique z h hne]
  obtain ⟨k, rfl | rfl⟩ := hv
  · exact normRingPts_of_scroll z' (scroll_rot h k) (append_comm_ne_nil hne) h.gt'
  · rw [normRingPts_of_scroll z' (scroll_rot_reverse h k)
      (fun e => append_comm_ne_nil hne (List.reverse_eq_nil_iff.mp e)) fun x hx => h.gt' x (List.mem_reverse.mp hx)]
    rw [show m :: (post ++ pre).reverse ++ [m] = (m :: (post ++ pre) ++ [m]).reverse by simp, orientRing_reverse hdec]

end GeosModel.Norm
