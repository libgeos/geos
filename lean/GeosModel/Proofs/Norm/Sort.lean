import GeosModel.Proofs.Norm.Order
/-! The few general facts about lists that `Proofs/Norm` needs, then the stable descending insertion sort for any
comparison satisfying `CmpOK`. -/
namespace GeosModel.Norm
variable {α : Type}

theorem map_id_of_fixed {f : α → α} (l : List α) (h : ∀ a ∈ l, f a = a) : l.map f = l :=
  (List.map_congr_left h).trans (List.map_id l)

theorem isEmpty_false_of_ne {l : List α} (h : l ≠ []) : l.isEmpty = false := by
  cases l with
  | nil => exact absurd rfl h
  | cons _ _ => rfl

theorem append_singleton_inj {o o' : List α} {z z' : α} (h : o ++ [z] = o' ++ [z']) : o = o' ∧ z = z' := by
  have := List.append_inj' h rfl
  exact ⟨this.1, by simpa using this.2⟩

theorem append_comm_ne_nil {p q : List α} (h : p ++ q ≠ []) : q ++ p ≠ [] := fun e =>
  h (by rw [List.append_eq_nil_iff] at e ⊢; exact e.symm)

/-- sorted in descending order -/
def SortedDesc (cmp : α → α → Int) (l : List α) : Prop := l.Pairwise (fun a b => cmp a b ≥ 0)

theorem insertDesc_perm (cmp : α → α → Int) (x : α) : ∀ l, (insertDesc cmp x l).Perm (x :: l)
  | [] => by simp [insertDesc]
  | y :: ys => by
    unfold insertDesc
    split
    · exact ((insertDesc_perm cmp x ys).cons y).trans (List.Perm.swap x y ys)
    · exact List.Perm.refl _

theorem sortDesc_perm (cmp : α → α → Int) : ∀ l, (sortDesc cmp l).Perm l
  | [] => by simp [sortDesc]
  | x :: xs => by
    unfold sortDesc
    exact (insertDesc_perm cmp x _).trans ((sortDesc_perm cmp xs).cons x)

theorem sortDesc_length (cmp : α → α → Int) (l : List α) : (sortDesc cmp l).length = l.length :=
  (sortDesc_perm cmp l).length_eq

theorem mem_sortDesc (cmp : α → α → Int) {l : List α} {a : α} : a ∈ sortDesc cmp l ↔ a ∈ l :=
  (sortDesc_perm cmp l).mem_iff

theorem insertDesc_sorted {cmp : α → α → Int} (ok : CmpOK cmp) (x : α) :
    ∀ l, SortedDesc cmp l → SortedDesc cmp (insertDesc cmp x l)
  | [], _ => List.pairwise_singleton _ x
  | y :: ys, h => by
    obtain ⟨h1, h2⟩ := List.pairwise_cons.1 h
    rw [insertDesc]; split
    · rename_i hgt
      refine List.pairwise_cons.2 ⟨fun z hz => ?_, insertDesc_sorted ok x ys h2⟩
      rcases List.mem_cons.mp ((insertDesc_perm cmp x ys).mem_iff.mp hz) with rfl | hz
      · exact Int.le_of_lt hgt
      · exact h1 z hz
    · rename_i hgt
      have hxy : cmp x y ≥ 0 := by have := ok.antisymm x y; omega
      exact List.pairwise_cons.2
        ⟨fun z hz => (List.mem_cons.mp hz).elim (· ▸ hxy) fun hz => ok.ge_trans hxy (h1 z hz), h⟩

theorem sortDesc_sorted {cmp : α → α → Int} (ok : CmpOK cmp) : ∀ l, SortedDesc cmp (sortDesc cmp l)
  | [] => by simp [sortDesc, SortedDesc]
  | x :: xs => by unfold sortDesc; exact insertDesc_sorted ok x _ (sortDesc_sorted ok xs)

/-- sorting a sorted list changes nothing (the sort is stable) -/
theorem sortDesc_of_sorted {cmp : α → α → Int} (ok : CmpOK cmp) : ∀ l, SortedDesc cmp l → sortDesc cmp l = l
  | [], _ => by simp [sortDesc]
  | x :: xs, h => by
    have hp := List.pairwise_cons.mp h
    unfold sortDesc
    rw [sortDesc_of_sorted ok xs hp.2]
    cases xs with
    | nil => simp [insertDesc]
    | cons y ys =>
      have hxy := hp.1 y (by simp)
      have : ¬ cmp y x > 0 := by have := ok.antisymm x y; omega
      simp [insertDesc, this]

theorem sortDesc_idem {cmp : α → α → Int} (ok : CmpOK cmp) (l : List α) :
    sortDesc cmp (sortDesc cmp l) = sortDesc cmp l :=
  sortDesc_of_sorted ok _ (sortDesc_sorted ok l)

theorem sortDesc_perm_eq {cmp : α → α → Int} (ok : CmpOK cmp) {l₁ l₂ : List α} (hp : l₁.Perm l₂)
    (hties : ∀ a b, a ∈ l₁ → b ∈ l₁ → cmp a b = 0 → a = b) : sortDesc cmp l₁ = sortDesc cmp l₂ := by
  apply List.Perm.eq_of_pairwise (le := fun a b => cmp a b ≥ 0)
  · intro a b ha hb h1 h2
    have ha' : a ∈ l₁ := (mem_sortDesc cmp).mp ha
    have hb' : b ∈ l₁ := hp.symm.mem_iff.mp ((mem_sortDesc cmp).mp hb)
    have := ok.antisymm a b
    exact hties a b ha' hb' (by omega)
  · exact sortDesc_sorted ok l₁
  · exact sortDesc_sorted ok l₂
  · exact (sortDesc_perm cmp l₁).trans (hp.trans (sortDesc_perm cmp l₂).symm)

end GeosModel.Norm
