import GeosModel.Proofs.Norm.Ring
/-! `SimpleCurve::normalize` on LineString / LinearRing coordinate lists. -/
namespace GeosModel.Norm

theorem open_shape {c : Cfg} : ∀ (l : List Coord), l ≠ [] → isClosedPts c l = false →
    ∃ a mid b, l = a :: mid ++ [b] ∧ eqXY c a b = false
  | [], h, _ => absurd rfl h
  | [a], _, hc => by simp [isClosedPts, eqXY_self] at hc
  | a :: x :: t, _, hc => by
    have hne : x :: t ≠ [] := by simp
    refine ⟨a, (x :: t).dropLast, (x :: t).getLast hne, ?_, ?_⟩
    · rw [List.cons_append, List.dropLast_concat_getLast]
    · simp only [isClosedPts] at hc
      rw [List.getLast_cons hne] at hc
      exact hc

theorem isClosedPts_open (c : Cfg) (a b : Coord) (mid : List Coord) :
    isClosedPts c (a :: mid ++ [b]) = eqXY c a b := by
  simp only [isClosedPts, List.cons_append]
  rw [List.getLast_cons (by simp), List.getLast_concat]

theorem eqXY_comm (c : Cfg) (a b : Coord) : eqXY c a b = eqXY c b a := by
  unfold eqXY; simp [eq_comm]

/-- `SimpleCurve::normalize` on an open line -/
theorem normLinePts_open (c : Cfg) (a b : Coord) (mid : List Coord) (h : eqXY c a b = false) :
    normLinePts c (a :: mid ++ [b]) = if cmpXY c a b > 0 then (a :: mid ++ [b]).reverse else a :: mid ++ [b] := by
  have hlen : (a :: mid ++ [b]).length / 2 = mid.length / 2 + 1 := by
    simp only [List.cons_append, List.length_cons, List.length_append, List.length_nil]; omega
  rw [normLinePts, isClosedPts_open, h, normOpenPts, hlen,
    show (a :: mid ++ [b]).reverse = b :: (mid.reverse ++ [a]) by simp]
  simp only [List.isEmpty_cons, List.cons_append, Bool.false_eq_true, if_false, List.zip_cons_cons,
    List.take_succ_cons, firstDiff, h]

theorem normLinePts_open_idem (c : Cfg) (a b : Coord) (mid : List Coord) (h : eqXY c a b = false) :
    normLinePts c (normLinePts c (a :: mid ++ [b])) = normLinePts c (a :: mid ++ [b]) := by
  rw [normLinePts_open c a b mid h]
  split
  · rename_i hgt
    have hrev : (a :: mid ++ [b]).reverse = b :: mid.reverse ++ [a] := by simp
    have h' : eqXY c b a = false := by rw [eqXY_comm]; exact h
    rw [hrev, normLinePts_open c b a mid.reverse h']
    have : ¬ cmpXY c b a > 0 := by have := (cmpXY_ok c).antisymm a b; omega
    rw [if_neg this]
  · rename_i hgt
    rw [normLinePts_open c a b mid h, if_neg hgt]

theorem normLinePts_open_reverse (c : Cfg) (a b : Coord) (mid : List Coord) (h : eqXY c a b = false) :
    normLinePts c (a :: mid ++ [b]).reverse = normLinePts c (a :: mid ++ [b]) := by
  have hrev : (a :: mid ++ [b]).reverse = b :: mid.reverse ++ [a] := by simp
  have h' : eqXY c b a = false := by rw [eqXY_comm]; exact h
  have hne : cmpXY c a b ≠ 0 := fun h0 => by rw [cmpXY_eq_zero.mp h0] at h; cases h
  have hanti := (cmpXY_ok c).antisymm a b
  rw [hrev, normLinePts_open c b a mid.reverse h', normLinePts_open c a b mid h, ← hrev]
  by_cases hgt : cmpXY c a b > 0
  · have : ¬ cmpXY c b a > 0 := by omega
    rw [if_pos hgt, if_neg this]
  · have : cmpXY c b a > 0 := by omega
    rw [if_neg hgt, if_pos this, List.reverse_reverse]

/-! ### closed lines (`normalizeClosed`) -/

/-- the rotated and re-closed line; the same list as `ringScrolled` of `Model/Norm/Classify.lean`, in whose terms the
Bool hypotheses are written -/
def closedScrolled (c : Cfg) (l : List Coord) : List Coord := closeRing c true (scroll c l.dropLast)

theorem ringScrolled_eq (c : Cfg) (l : List Coord) : ringScrolled c l = closedScrolled c l := rfl

/-- the final orientation step of `normalizeClosed` -/
def orientClosed (c : Cfg) (R : List Coord) : List Coord := if 4 ≤ R.length && c.isCCW R then R.reverse else R

theorem normClosedPts_eq (c : Cfg) (l : List Coord) : normClosedPts c l = orientClosed c (closedScrolled c l) := rfl

theorem closedScrolled_firstMin {c : Cfg} {o pre m post} (z : Coord) (h : FirstMin c o pre m post) :
    closedScrolled c (o ++ [z]) = m :: (post ++ pre) ++ [m] := by
  unfold closedScrolled
  rw [List.dropLast_concat, scroll_firstMin h, List.cons_append, closeRing_true]

theorem isClosedPts_mm (c : Cfg) (m : Coord) (t : List Coord) : isClosedPts c (m :: t ++ [m]) = true := by
  rw [isClosedPts_open, eqXY_self]

theorem normLinePts_closed {c : Cfg} {l : List Coord} (hne : l ≠ []) (hc : isClosedPts c l = true) :
    normLinePts c l = orientClosed c (closedScrolled c l) := by
  unfold normLinePts
  rw [isEmpty_false_of_ne hne, hc]; simp only [Bool.false_eq_true, if_false, if_true]; rfl

theorem closedScrolled_fixed {c : Cfg} {m : Coord} {t : List Coord} (h : ∀ x ∈ t, cmpXY c m x ≤ 0) :
    closedScrolled c (m :: t ++ [m]) = m :: t ++ [m] := by
  have hf : FirstMin c (m :: t) [] m t := ⟨by simp, by simp, h⟩
  have := closedScrolled_firstMin m hf
  simpa using this

/-- a line with at least two points, split at the first minimum of its points but the last, and what the rotation
step of `normalizeClosed` makes of it -/
theorem closed_shape (c : Cfg) {l : List Coord} (hne : l ≠ []) (hlen : 2 ≤ l.length) :
    ∃ pre m post z, FirstMin c (pre ++ m :: post) pre m post ∧ l = pre ++ m :: post ++ [z] ∧
      closedScrolled c l = m :: (post ++ pre) ++ [m] := by
  have hl : l = l.dropLast ++ [l.getLast hne] := (List.dropLast_concat_getLast hne).symm
  have hone : l.dropLast ≠ [] := by
    intro e
    have : l.length = 1 := by rw [hl, e]; rfl
    omega
  obtain ⟨pre, m, post, hf⟩ := exists_firstMin c l.dropLast hone
  exact ⟨pre, m, post, l.getLast hne, hf.eq ▸ hf, by rw [← hf.eq, ← hl], by rw [hl]; exact closedScrolled_firstMin _ hf⟩

theorem orientClosed_stable {c : Cfg} {R : List Coord}
    (h : ¬ (4 ≤ R.length ∧ c.isCCW R = true ∧ c.isCCW R.reverse = true)) :
    orientClosed c (orientClosed c R) = orientClosed c R := by
  unfold orientClosed
  by_cases h1 : (decide (4 ≤ R.length) && c.isCCW R) = true
  · have h2 : ¬ (decide (4 ≤ R.reverse.length) && c.isCCW R.reverse) = true := by
      simp only [Bool.and_eq_true, decide_eq_true_eq, List.length_reverse] at h1 ⊢
      exact fun h2 => h ⟨h1.1, h1.2, h2.2⟩
    rw [if_pos h1, if_neg h2]
  · rw [if_neg h1, if_neg h1]

theorem orientClosed_shape (c : Cfg) (m : Coord) (t : List Coord) :
    orientClosed c (m :: t ++ [m]) = m :: t ++ [m] ∨ orientClosed c (m :: t ++ [m]) = m :: t.reverse ++ [m] := by
  unfold orientClosed; split
  · right; simp
  · left; rfl

theorem normLinePts_closed_idem {c : Cfg} {l : List Coord} (hne : l ≠ []) (hc : isClosedPts c l = true)
    (hlen : 2 ≤ l.length)
    (hor : ¬ (4 ≤ (closedScrolled c l).length ∧ c.isCCW (closedScrolled c l) = true ∧
              c.isCCW (closedScrolled c l).reverse = true)) :
    normLinePts c (normLinePts c l) = normLinePts c l := by
  obtain ⟨pre, m, post, z, hf, rfl, hR⟩ := closed_shape c hne hlen
  have hge : ∀ x ∈ post ++ pre, cmpXY c m x ≤ 0 := fun x hx =>
    (List.mem_append.mp hx).elim (hf.post_ge x) fun hx => Int.le_of_lt (hf.pre_gt x hx)
  rw [normLinePts_closed hne hc]
  rw [hR] at hor ⊢
  have hst := orientClosed_stable hor
  -- the first result is `m :: t ++ [m]` with `t` = `post ++ pre` or its reverse, which the rotation step leaves in place
  obtain ⟨t, hg, e⟩ : ∃ t, (∀ x ∈ t, cmpXY c m x ≤ 0) ∧ orientClosed c (m :: (post ++ pre) ++ [m]) = m :: t ++ [m] := by
    rcases orientClosed_shape c m (post ++ pre) with e | e
    · exact ⟨_, hge, e⟩
    · exact ⟨_, fun x hx => hge x (List.mem_reverse.mp hx), e⟩
  rw [e] at hst ⊢
  rw [normLinePts_closed (by simp) (isClosedPts_mm c m t), closedScrolled_fixed hg]
  exact hst

theorem closedScrolled_unique_rot {c : Cfg} {o pre m post} (z : Coord) (h : UniqueMin c o pre m post) (k : Nat) :
    closedScrolled c (rot k o ++ [z]) = m :: (post ++ pre) ++ [m] := by
  unfold closedScrolled
  rw [List.dropLast_concat, scroll_rot h k, List.cons_append, closeRing_true]

theorem closedScrolled_unique_rot_reverse {c : Cfg} {o pre m post} (z : Coord) (h : UniqueMin c o pre m post) (k : Nat) :
    closedScrolled c (rot k o.reverse ++ [z]) = (m :: (post ++ pre) ++ [m]).reverse := by
  unfold closedScrolled
  rw [List.dropLast_concat, scroll_rot_reverse h k, closeRing_true]
  simp

theorem orientClosed_reverse {c : Cfg} {R : List Coord} (hlen : 4 ≤ R.length)
    (h : c.isCCW R.reverse = !c.isCCW R) : orientClosed c R.reverse = orientClosed c R := by
  unfold orientClosed
  rw [h, List.reverse_reverse, List.length_reverse]
  have : decide (4 ≤ R.length) = true := by simpa using hlen
  rw [this]
  cases c.isCCW R <;> simp

/-- rotation and reversal variants of a closed line with a unique minimum and a decisive orientation
normalise alike -/
theorem normLinePts_closed_variant {c : Cfg} {o o' pre m post} (z z' : Coord) (h : UniqueMin c o pre m post)
    (hcl : isClosedPts c (o ++ [z]) = true) (hcl' : isClosedPts c (o' ++ [z']) = true)
    (hlen : 4 ≤ (m :: (post ++ pre) ++ [m]).length)
    (hdec : c.isCCW (m :: (post ++ pre) ++ [m]).reverse = !c.isCCW (m :: (post ++ pre) ++ [m]))
    (hv : ∃ k, o' = rot k o ∨ o' = rot k o.reverse) :
    normLinePts c (o' ++ [z']) = normLinePts c (o ++ [z]) := by
  rw [normLinePts_closed (by simp) hcl, normLinePts_closed (by simp) hcl']
  have h0 := closedScrolled_unique_rot z h 0
  have hr0 : rot 0 o = o := by simp [rot]
  rw [hr0] at h0
  rw [h0]
  obtain ⟨k, hk | hk⟩ := hv
  · subst hk; rw [closedScrolled_unique_rot z' h k]
  · subst hk; rw [closedScrolled_unique_rot_reverse z' h k, orientClosed_reverse hlen hdec]

end GeosModel.Norm
