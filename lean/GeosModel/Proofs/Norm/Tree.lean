import GeosModel.Proofs.Norm.Line
/-!
Tree-level statements: the variant relation ("differ only by ring start, ring direction or element order"),
the hypotheses, idempotence and canonicity of `normalize` on `G`.  Statements about all of `G` are proved by
`G.induct`, which treats the six sibling-list classes as one case.
-/
namespace GeosModel.Norm

/-! ### from the Bool hypotheses to the structural ones -/

/-- what a non-empty ring satisfying the counting part of the hypotheses looks like -/
theorem ring_unpack {c : Cfg} {l : List Coord} (hne : l ≠ [])
    (hcnt : minCount c l.dropLast = 1) (hlen : 2 ≤ l.dropLast.length) :
    ∃ o z pre m post, l = o ++ [z] ∧ UniqueMin c o pre m post ∧ pre ++ post ≠ [] ∧
      ringScrolled c l = m :: (post ++ pre) ++ [m] := by
  have hl : l = l.dropLast ++ [l.getLast hne] := (List.dropLast_concat_getLast hne).symm
  obtain ⟨pre, m, post, hu⟩ := uniqueMin_of_minCount hcnt
  refine ⟨l.dropLast, l.getLast hne, pre, m, post, hl, hu, ?_, ?_⟩
  · intro e
    simp only [List.append_eq_nil_iff] at e
    have : l.dropLast.length = 1 := by rw [hu.eq, e.1, e.2]; rfl
    omega
  · rw [ringScrolled_eq, hl]; exact closedScrolled_firstMin _ hu.firstMin

/-- what `normRingPts` does to a ring satisfying the hypothesis: rotate to the unique minimum, re-close with it,
then orient -/
theorem normRingPts_of_ok {c : Cfg} {cw : Bool} {l : List Coord} (h : ringIdemOK c cw l = true) :
    l = [] ∨ ∃ pre m post z, l = pre ++ m :: post ++ [z] ∧
      normRingPts c cw l = orientRing c cw (m :: (post ++ pre) ++ [m]) := by
  by_cases hne : l = []
  · exact Or.inl hne
  · unfold ringIdemOK at h
    simp only [isEmpty_false_of_ne hne, Bool.false_or, Bool.and_eq_true, beq_iff_eq, decide_eq_true_eq] at h
    obtain ⟨o, z, pre, m, post, hl, hu, hne', -⟩ := ring_unpack hne h.1.1 h.1.2
    exact Or.inr ⟨pre, m, post, z, by rw [hl, hu.eq], hl ▸ normRingPts_unique z hu hne'⟩

theorem normRingPts_idem_of_ok {c : Cfg} {cw : Bool} {l : List Coord} (h : ringIdemOK c cw l = true) :
    normRingPts c cw (normRingPts c cw l) = normRingPts c cw l := by
  unfold ringIdemOK at h
  cases l with
  | nil => simp [normRingPts]
  | cons a t =>
    simp only [List.isEmpty_cons, Bool.false_or, Bool.and_eq_true, beq_iff_eq, decide_eq_true_eq,
      Bool.not_eq_true', Bool.and_eq_false_iff] at h
    obtain ⟨⟨hcnt, hlen⟩, hor⟩ := h
    obtain ⟨o, z, pre, m, post, hl, hu, hne, hR⟩ := ring_unpack (l := a :: t) (by simp) hcnt hlen
    rw [hl]
    apply normRingPts_idem_pts z hu hne
    rw [← hR]
    intro ⟨h1, h2⟩
    rcases hor with hor | hor
    · rw [h1] at hor; simp at hor
    · rw [h2] at hor; simp at hor

def OpenVar (o o' : List Coord) : Prop := ∃ k, o' = rot k o ∨ o' = rot k o.reverse

/-- two closed rings differ only by ring start and/or ring direction (the closing points are irrelevant:
normalisation drops them and re-closes with a copy of the new first point) -/
def RingPtsVar (l l' : List Coord) : Prop :=
  (l = [] ∧ l' = []) ∨ ∃ o z o' z', l = o ++ [z] ∧ l' = o' ++ [z'] ∧ OpenVar o o'

def RingVar (s t : CSeq) : Prop := s.hasZ = t.hasZ ∧ s.hasM = t.hasM ∧ RingPtsVar s.pts t.pts

theorem normRingPts_variant_of_ok {c : Cfg} {cw : Bool} {l l' : List Coord} (hv : RingPtsVar l l')
    (h : ringCanonOK c l = true) : normRingPts c cw l' = normRingPts c cw l := by
  rcases hv with ⟨h1, h2⟩ | ⟨o, z, o', z', hl, hl', hov⟩
  · rw [h1, h2]
  · unfold ringCanonOK at h
    have hne : l ≠ [] := by rw [hl]; simp
    have hemp : l.isEmpty = false := isEmpty_false_of_ne hne
    simp only [hemp, Bool.false_or, Bool.and_eq_true, beq_iff_eq, decide_eq_true_eq] at h
    obtain ⟨⟨hcnt, hlen⟩, hdec⟩ := h
    obtain ⟨o₁, z₁, pre, m, post, hl₁, hu, hne', hR⟩ := ring_unpack hne hcnt hlen
    have := append_singleton_inj (hl.symm.trans hl₁)
    obtain ⟨rfl, rfl⟩ := this
    rw [hl, hl']
    apply normRingPts_variant z z' hu hne' _ hov
    rw [← hR]; exact hdec

theorem normRing_variant_of_ok {c : Cfg} {cw : Bool} {s t : CSeq} (hv : RingVar s t)
    (h : ringCanonOK c s.pts = true) : normRing c cw t = normRing c cw s := by
  obtain ⟨hz, hm, hp⟩ := hv
  unfold normRing
  rw [normRingPts_variant_of_ok hp h]
  -- the records agree in their flags (`hz`, `hm`) and, after the rewrite, in their points
  cases s; cases t; dsimp only at hz hm; subst hz hm; rfl

theorem normLinePts_idem_of_ok {c : Cfg} {l : List Coord} (h : lineIdemOK c l = true) :
    normLinePts c (normLinePts c l) = normLinePts c l := by
  by_cases hne : l = []
  · subst hne; simp [normLinePts]
  · cases hc : isClosedPts c l with
    | false =>
      obtain ⟨a, mid, b, hl, hab⟩ := open_shape l hne hc
      rw [hl]; exact normLinePts_open_idem c a b mid hab
    | true =>
      unfold lineIdemOK at h
      have hemp : l.isEmpty = false := isEmpty_false_of_ne hne
      simp only [hemp, hc, Bool.false_or, Bool.not_true, Bool.and_eq_true, decide_eq_true_eq,
        Bool.not_eq_true', Bool.and_eq_false_iff, decide_eq_false_iff_not] at h
      obtain ⟨hlen, hor⟩ := h
      apply normLinePts_closed_idem hne hc hlen
      rw [← ringScrolled_eq]
      intro ⟨h1, h2, h3⟩
      rcases hor with (hor | hor) | hor
      · exact hor h1
      · rw [h2] at hor; cases hor
      · rw [h3] at hor; cases hor

/-- what `normLinePts` does to a line satisfying the hypothesis: an open line is kept or reversed, a closed one is
rotated to its first minimum, re-closed with it, then oriented -/
theorem normLinePts_of_ok {c : Cfg} {l : List Coord} (h : lineIdemOK c l = true) :
    (normLinePts c l = l ∨ normLinePts c l = l.reverse) ∨
    (isClosedPts c l = true ∧ ∃ pre m post z, l = pre ++ m :: post ++ [z] ∧
      normLinePts c l = orientClosed c (m :: (post ++ pre) ++ [m])) := by
  by_cases hne : l = []
  · subst hne; exact Or.inl (Or.inl rfl)
  · cases hc : isClosedPts c l with
    | false =>
      obtain ⟨a, mid, b, hl, hab⟩ := open_shape l hne hc
      rw [hl, normLinePts_open c a b mid hab]
      split
      · exact Or.inl (Or.inr rfl)
      · exact Or.inl (Or.inl rfl)
    | true =>
      unfold lineIdemOK at h
      simp only [isEmpty_false_of_ne hne, hc, Bool.false_or, Bool.not_true, Bool.and_eq_true, decide_eq_true_eq] at h
      obtain ⟨pre, m, post, z, -, hl, hR⟩ := closed_shape c hne h.1
      exact Or.inr ⟨rfl, pre, m, post, z, hl, by rw [normLinePts_closed hne hc, hR]⟩

/-- lines: identical, reversed (open lines), or — for closed lines — rotated and/or reversed -/
def LinePtsVar (c : Cfg) (l l' : List Coord) : Prop :=
  l' = l ∨ (isClosedPts c l = false ∧ l' = l.reverse) ∨
  (isClosedPts c l = true ∧ isClosedPts c l' = true ∧
    ∃ o z o' z', l = o ++ [z] ∧ l' = o' ++ [z'] ∧ OpenVar o o')

def LineVar (c : Cfg) (s t : CSeq) : Prop := s.hasZ = t.hasZ ∧ s.hasM = t.hasM ∧ LinePtsVar c s.pts t.pts

theorem normLinePts_variant_of_ok {c : Cfg} {l l' : List Coord} (hv : LinePtsVar c l l')
    (h : lineCanonOK c l = true) : normLinePts c l' = normLinePts c l := by
  rcases hv with rfl | ⟨hc, rfl⟩ | ⟨hc, hc', o, z, o', z', hl, hl', hov⟩
  · rfl
  · by_cases hne : l = []
    · subst hne; rfl
    · obtain ⟨a, mid, b, hl, hab⟩ := open_shape l hne hc
      rw [hl]; exact normLinePts_open_reverse c a b mid hab
  · unfold lineCanonOK at h
    have hne : l ≠ [] := by rw [hl]; simp
    have hemp : l.isEmpty = false := isEmpty_false_of_ne hne
    simp only [hemp, hc, Bool.false_or, Bool.not_true, Bool.and_eq_true, beq_iff_eq, decide_eq_true_eq] at h
    obtain ⟨⟨hcnt, hlen⟩, hdec⟩ := h
    have hl₁ : l = l.dropLast ++ [l.getLast hne] := (List.dropLast_concat_getLast hne).symm
    obtain ⟨pre, m, post, hu⟩ := uniqueMin_of_minCount hcnt
    have := append_singleton_inj (hl.symm.trans hl₁)
    obtain ⟨rfl, rfl⟩ := this
    have hR : ringScrolled c l = m :: (post ++ pre) ++ [m] := by
      rw [ringScrolled_eq, hl]; exact closedScrolled_firstMin _ hu.firstMin
    rw [hl'] at hc' ⊢
    rw [hl] at hc ⊢
    apply normLinePts_closed_variant _ z' hu hc hc' _ _ hov
    · rw [← hR]; exact hlen
    · rw [← hR]; exact hdec

theorem normLine_variant_of_ok {c : Cfg} {s t : CSeq} (hv : LineVar c s t)
    (h : lineCanonOK c s.pts = true) : normLine c t = normLine c s := by
  obtain ⟨hz, hm, hp⟩ := hv
  unfold normLine
  rw [normLinePts_variant_of_ok hp h]
  -- the records agree in their flags (`hz`, `hm`) and, after the rewrite, in their points
  cases s; cases t; dsimp only at hz hm; subst hz hm; rfl

/-- the six classes that are plain lists of geometries -/
inductive Multi where
  | point | lineString | polygon | curve | surface | collection
deriving DecidableEq

def Multi.mk : Multi → List G → G
  | .point => .multiPoint
  | .lineString => .multiLineString
  | .polygon => .multiPolygon
  | .curve => .multiCurve
  | .surface => .multiSurface
  | .collection => .collection

/-- Induction over the geometry tree.  The six sibling-list classes are one case (`Multi.mk k gs`), and what is assumed
of a list of children is that every member has the property. -/
theorem G.induct {motive : G → Prop}
    (point : ∀ s, motive (.point s)) (lineString : ∀ s, motive (.lineString s))
    (linearRing : ∀ s, motive (.linearRing s)) (circularString : ∀ s, motive (.circularString s))
    (polygon : ∀ sh hs, motive (.polygon sh hs))
    (compoundCurve : ∀ gs, (∀ g ∈ gs, motive g) → motive (.compoundCurve gs))
    (curvePolygon : ∀ gs, (∀ g ∈ gs, motive g) → motive (.curvePolygon gs))
    (multi : ∀ k gs, (∀ g ∈ gs, motive g) → motive (Multi.mk k gs)) (g : G) : motive g :=
  G.rec (motive_1 := motive) (motive_2 := fun gs => ∀ g ∈ gs, motive g)
    point lineString linearRing circularString polygon compoundCurve curvePolygon
    (multi .point) (multi .lineString) (multi .polygon) (multi .curve) (multi .surface) (multi .collection)
    (fun _ h => nomatch h) (fun _ _ ha has => List.forall_mem_cons.2 ⟨ha, has⟩) g

theorem normalizeL_eq_map (c : Cfg) : ∀ gs, normalizeL c gs = gs.map (normalize c)
  | [] => rfl
  | g :: gs => congrArg (normalize c g :: ·) (normalizeL_eq_map c gs)

theorem normalize_multi (c : Cfg) (k : Multi) (gs : List G) :
    normalize c (k.mk gs) = k.mk (sortDesc (cmpG c) (gs.map (normalize c))) := by
  rw [← normalizeL_eq_map]; cases k <;> rfl

theorem idemOKL_iff {c : Cfg} : ∀ (gs : List G), idemOKL c gs = true ↔ ∀ g ∈ gs, idemOK c g = true
  | [] => ⟨fun _ _ h => (nomatch h), fun _ => rfl⟩
  | g :: gs => by rw [idemOKL, Bool.and_eq_true, idemOKL_iff gs, List.forall_mem_cons]

theorem idemOK_multi {c : Cfg} {k : Multi} {gs : List G} : idemOK c (k.mk gs) = true ↔ ∀ g ∈ gs, idemOK c g = true := by
  rw [← idemOKL_iff]; cases k <;> rfl

/-- a (normalised) sibling list in which `compareTo`-equal elements are the same value -/
def TiesIdentical {α : Type} (cmp : α → α → Int) (l : List α) : Prop := ∀ a ∈ l, ∀ b ∈ l, cmp a b = 0 → a = b

theorem sort_norm_idem {α : Type} {cmp : α → α → Int} (ok : CmpOK cmp) (f : α → α) (L : List α)
    (hfix : ∀ e ∈ L, f e = e) : sortDesc cmp ((sortDesc cmp L).map f) = sortDesc cmp L := by
  rw [map_id_of_fixed _ (fun a ha => hfix a ((mem_sortDesc cmp).mp ha)), sortDesc_idem ok]

theorem normalize_idem_aux (c : Cfg) (g : G) (h : idemOK c g = true) : normalize c (normalize c g) = normalize c g := by
  induction g using G.induct with
  | point s | circularString s => rfl
  | compoundCurve gs | curvePolygon gs => rfl
  | lineString s | linearRing s =>
    simp only [idemOK] at h
    simp only [normalize, normLine]; rw [normLinePts_idem_of_ok h]
  | polygon sh hs =>
    simp only [idemOK, Bool.and_eq_true, List.all_eq_true] at h
    simp only [normalize]
    congr 1
    · simp only [normRing]; rw [normRingPts_idem_of_ok h.1]
    · apply sort_norm_idem (cmpRingSeq_ok c)
      intro e he
      obtain ⟨r, hr, rfl⟩ := List.mem_map.mp he
      simp only [normRing]; rw [normRingPts_idem_of_ok (h.2 r hr)]
  | multi k gs ih =>
    rw [normalize_multi, normalize_multi, sort_norm_idem (cmpG_ok c)]
    intro e he
    obtain ⟨g, hg, rfl⟩ := List.mem_map.mp he
    exact ih g hg (idemOK_multi.1 h g hg)

theorem normalizeL_fixed (c : Cfg) : ∀ (gs : List G), idemOKL c gs = true → ∀ e ∈ normalizeL c gs, normalize c e = e := by
  intro gs h e he
  rw [normalizeL_eq_map] at he
  obtain ⟨g, hg, rfl⟩ := List.mem_map.mp he
  exact normalize_idem_aux c g ((idemOKL_iff gs).1 h g hg)

def RingsVar : List CSeq → List CSeq → Prop
  | [], [] => True
  | a :: as, b :: bs => RingVar a b ∧ RingsVar as bs
  | _, _ => False

mutual
  /-- `h` differs from `g` only by ring start, ring direction, line direction or element order (at any depth) -/
  def Variant (c : Cfg) : G → G → Prop
    | .point s, h => h = .point s
    | .lineString s, h => ∃ t, h = .lineString t ∧ LineVar c s t
    | .linearRing s, h => ∃ t, h = .linearRing t ∧ LineVar c s t
    | .circularString s, h => h = .circularString s
    | .polygon sh hs, h => ∃ sh' hs' hs'', h = .polygon sh' hs'' ∧ RingVar sh sh' ∧ RingsVar hs hs' ∧ hs'.Perm hs''
    | .compoundCurve gs, h => h = .compoundCurve gs
    | .curvePolygon gs, h => h = .curvePolygon gs
    | .multiPoint gs, h => ∃ gs' gs'', h = .multiPoint gs'' ∧ VariantL c gs gs' ∧ gs'.Perm gs''
    | .multiLineString gs, h => ∃ gs' gs'', h = .multiLineString gs'' ∧ VariantL c gs gs' ∧ gs'.Perm gs''
    | .multiPolygon gs, h => ∃ gs' gs'', h = .multiPolygon gs'' ∧ VariantL c gs gs' ∧ gs'.Perm gs''
    | .multiCurve gs, h => ∃ gs' gs'', h = .multiCurve gs'' ∧ VariantL c gs gs' ∧ gs'.Perm gs''
    | .multiSurface gs, h => ∃ gs' gs'', h = .multiSurface gs'' ∧ VariantL c gs gs' ∧ gs'.Perm gs''
    | .collection gs, h => ∃ gs' gs'', h = .collection gs'' ∧ VariantL c gs gs' ∧ gs'.Perm gs''
  def VariantL (c : Cfg) : List G → List G → Prop
    | [], hs => hs = []
    | g :: gs, hs => ∃ h hs', hs = h :: hs' ∧ Variant c g h ∧ VariantL c gs hs'
end

mutual
  /-- hypothesis of `normalize_canonical_partial` -/
  def CanonOK (c : Cfg) : G → Prop
    | .polygon sh hs => ringCanonOK c sh.pts = true ∧ (∀ h ∈ hs, ringCanonOK c h.pts = true) ∧
        TiesIdentical (cmpRingSeq c) (hs.map (normRing c false))
    | .lineString s => lineCanonOK c s.pts = true
    | .linearRing s => lineCanonOK c s.pts = true
    | .multiPoint gs => CanonOKL c gs ∧ TiesIdentical (cmpG c) (normalizeL c gs)
    | .multiLineString gs => CanonOKL c gs ∧ TiesIdentical (cmpG c) (normalizeL c gs)
    | .multiPolygon gs => CanonOKL c gs ∧ TiesIdentical (cmpG c) (normalizeL c gs)
    | .multiCurve gs => CanonOKL c gs ∧ TiesIdentical (cmpG c) (normalizeL c gs)
    | .multiSurface gs => CanonOKL c gs ∧ TiesIdentical (cmpG c) (normalizeL c gs)
    | .collection gs => CanonOKL c gs ∧ TiesIdentical (cmpG c) (normalizeL c gs)
    | .point _ => True
    | .circularString _ => True
    | .compoundCurve _ => True
    | .curvePolygon _ => True
  def CanonOKL (c : Cfg) : List G → Prop
    | [] => True
    | g :: gs => CanonOK c g ∧ CanonOKL c gs
end

theorem rings_variant_map {c : Cfg} : ∀ (hs hs' : List CSeq), RingsVar hs hs' →
    (∀ h ∈ hs, ringCanonOK c h.pts = true) → hs'.map (normRing c false) = hs.map (normRing c false)
  | [], [], _, _ => rfl
  | [], _ :: _, h, _ => by simp [RingsVar] at h
  | _ :: _, [], h, _ => by simp [RingsVar] at h
  | a :: as, b :: bs, h, hok => by
    simp only [RingsVar] at h
    simp only [List.map]
    rw [normRing_variant_of_ok h.1 (hok a (by simp)), rings_variant_map as bs h.2 (fun x hx => hok x (by simp [hx]))]

theorem sort_variant {α : Type} {cmp : α → α → Int} (ok : CmpOK cmp) (f : α → α) {L L' L'' : List α}
    (heq : L'.map f = L.map f) (hp : L'.Perm L'') (ht : TiesIdentical cmp (L.map f)) :
    sortDesc cmp (L''.map f) = sortDesc cmp (L.map f) := by
  symm
  apply sortDesc_perm_eq ok _ (fun a b ha hb => ht a ha b hb)
  rw [← heq]; exact hp.map f

theorem variant_multi {c : Cfg} {k : Multi} {gs : List G} {h : G} :
    Variant c (k.mk gs) h ↔ ∃ gs' gs'', h = k.mk gs'' ∧ VariantL c gs gs' ∧ gs'.Perm gs'' := by
  cases k <;> simp only [Multi.mk, Variant]

theorem canonOK_multi {c : Cfg} {k : Multi} {gs : List G} :
    CanonOK c (k.mk gs) ↔ CanonOKL c gs ∧ TiesIdentical (cmpG c) (normalizeL c gs) := by
  cases k <;> simp only [Multi.mk, CanonOK]

theorem map_normalize_variant {c : Cfg} : ∀ (gs hs : List G),
    (∀ g ∈ gs, ∀ h, Variant c g h → CanonOK c g → normalize c h = normalize c g) → VariantL c gs hs → CanonOKL c gs →
    hs.map (normalize c) = gs.map (normalize c)
  | [], hs, _, hv, _ => by simp only [VariantL] at hv; rw [hv]
  | g :: gs, hs, ih, hv, ok => by
    simp only [VariantL] at hv; obtain ⟨h, hs', rfl, hv1, hv2⟩ := hv
    simp only [CanonOKL] at ok
    rw [List.map_cons, List.map_cons, ih g List.mem_cons_self h hv1 ok.1,
      map_normalize_variant gs hs' (fun x hx => ih x (List.mem_cons_of_mem g hx)) hv2 ok.2]

theorem normalize_variant_aux (c : Cfg) (g h : G) (hv : Variant c g h) (ok : CanonOK c g) :
    normalize c h = normalize c g := by
  induction g using G.induct generalizing h with
  | point s | circularString s => simp only [Variant] at hv; rw [hv]
  | compoundCurve gs | curvePolygon gs => simp only [Variant] at hv; rw [hv]
  | lineString s | linearRing s =>
    simp only [Variant] at hv; obtain ⟨t, rfl, hl⟩ := hv
    simp only [CanonOK] at ok
    simp only [normalize]; rw [normLine_variant_of_ok hl ok]
  | polygon sh hs =>
    simp only [Variant] at hv; obtain ⟨sh', hs', hs'', rfl, hsv, hrv, hp⟩ := hv
    simp only [CanonOK] at ok
    simp only [normalize]
    rw [normRing_variant_of_ok hsv ok.1,
      sort_variant (cmpRingSeq_ok c) (normRing c false) (rings_variant_map hs hs' hrv ok.2.1) hp ok.2.2]
  | multi k gs ih =>
    obtain ⟨gs', gs'', rfl, hl, hp⟩ := variant_multi.1 hv
    rw [canonOK_multi, normalizeL_eq_map] at ok
    rw [normalize_multi, normalize_multi,
      sort_variant (cmpG_ok c) (normalize c) (map_normalize_variant gs gs' ih hl ok.1) hp ok.2]

theorem normalizeL_variant (c : Cfg) : ∀ (gs hs : List G), VariantL c gs hs → CanonOKL c gs →
      normalizeL c hs = normalizeL c gs := by
  intro gs hs hv ok
  rw [normalizeL_eq_map, normalizeL_eq_map]
  exact map_normalize_variant gs hs (fun g _ h => normalize_variant_aux c g h) hv ok

end GeosModel.Norm
