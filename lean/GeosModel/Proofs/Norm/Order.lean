import GeosModel.Model.Norm.Normalize
/-!
The modelled `compareTo` is a total preorder ("weak order") at every level:
`cmp b a = - cmp a b` and the triple law `Tr (cmp a b) (cmp b c) (cmp a c)`.

Every level is a lexicographic combination (`lex`) of comparisons of the level below, so the two laws are proved once
for `lex` (`lex_neg_of`, `Tr.combine_of`) and once for the element-wise comparison of lists (`lexList`), and carried upwards.
-/
namespace GeosModel.Norm

/-- the weak-order law on the three comparison results of a triple `a, b, c` -/
def Tr (x y z : Int) : Prop :=
  (x = 0 → z = y) ∧ (y = 0 → z = x) ∧ (x < 0 → y < 0 → z < 0) ∧ (0 < x → 0 < y → 0 < z)

/-- a comparison function that is antisymmetric and satisfies the triple law -/
structure CmpOK {α : Type} (cmp : α → α → Int) : Prop where
  antisymm : ∀ a b, cmp b a = - cmp a b
  tr : ∀ a b c, Tr (cmp a b) (cmp b c) (cmp a c)

theorem CmpOK.refl {α : Type} {cmp : α → α → Int} (h : CmpOK cmp) (a : α) : cmp a a = 0 := by
  have := h.antisymm a a; omega

theorem Tr.nonneg {x y z : Int} (h : Tr x y z) (hx : 0 ≤ x) (hy : 0 ≤ y) : 0 ≤ z := by
  rcases Int.lt_or_eq_of_le hx with hx | rfl
  · rcases Int.lt_or_eq_of_le hy with hy | rfl
    · exact Int.le_of_lt (h.2.2.2 hx hy)
    · rw [h.2.1 rfl]; exact Int.le_of_lt hx
  · rw [h.1 rfl]; exact hy

theorem CmpOK.ge_trans {α : Type} {cmp : α → α → Int} (h : CmpOK cmp) {a b c : α}
    (h1 : cmp a b ≥ 0) (h2 : cmp b c ≥ 0) : cmp a c ≥ 0 := (h.tr a b c).nonneg h1 h2

theorem CmpOK.le_trans {α : Type} {cmp : α → α → Int} (h : CmpOK cmp) {a b c : α}
    (h1 : cmp a b ≤ 0) (h2 : cmp b c ≤ 0) : cmp a c ≤ 0 := by
  have := h.ge_trans (a := c) (b := b) (c := a) (by rw [h.antisymm b c]; omega) (by rw [h.antisymm a b]; omega)
  rw [h.antisymm a c] at this; omega

theorem lex_zero (q : Int) : lex 0 q = q := if_pos rfl

theorem lex_of_ne {p : Int} (h : p ≠ 0) (q : Int) : lex p q = p := if_neg h

theorem lex_eq_zero {p q : Int} : lex p q = 0 ↔ p = 0 ∧ q = 0 := by
  unfold lex; split <;> omega

/-- the second components need to be opposite only where they are looked at -/
theorem lex_neg_of {p q q' : Int} (h : p = 0 → q' = -q) : lex (-p) q' = - lex p q := by
  by_cases hp : p = 0
  · subst hp; exact h rfl
  · rw [lex_of_ne hp, lex_of_ne (by omega)]

theorem lex_neg (p q : Int) : lex (-p) (-q) = - lex p q := lex_neg_of fun _ => rfl

/-- A lexicographic combination of weak orders is a weak order.  The second components are looked at only when
`a`, `b` and `c` agree in the first, so they need to obey the law only then. -/
theorem Tr.combine_of {x1 y1 z1 x2 y2 z2 : Int} (h1 : Tr x1 y1 z1) (h2 : x1 = 0 → y1 = 0 → Tr x2 y2 z2) :
    Tr (lex x1 x2) (lex y1 y2) (lex z1 z2) := by
  obtain ⟨hx, hy, hneg, hpos⟩ := h1
  by_cases x0 : x1 = 0
  · subst x0; rw [hx rfl, lex_zero]
    by_cases y0 : y1 = 0
    · subst y0; exact h2 rfl rfl
    · rw [lex_of_ne y0, lex_of_ne y0]
      exact ⟨fun _ => rfl, fun h => absurd h y0, fun _ h => h, fun _ h => h⟩
  · rw [lex_of_ne x0]
    by_cases y0 : y1 = 0
    · subst y0; rw [hy rfl, lex_zero, lex_of_ne x0]
      exact ⟨fun h => absurd h x0, fun _ => rfl, fun h _ => h, fun h _ => h⟩
    · rw [lex_of_ne y0]
      refine ⟨fun h => absurd h x0, fun h => absurd h y0, fun hx hy => ?_, fun hx hy => ?_⟩
      · have := hneg hx hy; rwa [lex_of_ne (by omega)]
      · have := hpos hx hy; rwa [lex_of_ne (by omega)]

theorem Tr.combine {x1 y1 z1 x2 y2 z2 : Int} (h1 : Tr x1 y1 z1) (h2 : Tr x2 y2 z2) :
    Tr (lex x1 x2) (lex y1 y2) (lex z1 z2) := h1.combine_of fun _ _ => h2

theorem cmpInt_of_lt {a b : Int} (h : a < b) : cmpInt a b = -1 := if_pos h

theorem cmpInt_of_gt {a b : Int} (h : b < a) : cmpInt a b = 1 := by
  rw [cmpInt, if_neg (Int.lt_asymm h), if_pos h]

theorem cmpInt_self (a : Int) : cmpInt a a = 0 := by
  rw [cmpInt, if_neg (Int.lt_irrefl a), if_neg (Int.lt_irrefl a)]

theorem cmpInt_eq_zero {a b : Int} : cmpInt a b = 0 ↔ a = b := by
  rcases Int.lt_trichotomy a b with h | rfl | h
  · rw [cmpInt_of_lt h]; omega
  · rw [cmpInt_self]; omega
  · rw [cmpInt_of_gt h]; omega

theorem cmpInt_neg {a b : Int} : cmpInt a b < 0 ↔ a < b := by
  rcases Int.lt_trichotomy a b with h | rfl | h
  · rw [cmpInt_of_lt h]; omega
  · rw [cmpInt_self]; omega
  · rw [cmpInt_of_gt h]; omega

theorem cmpInt_antisymm (a b : Int) : cmpInt b a = - cmpInt a b := by
  rcases Int.lt_trichotomy a b with h | rfl | h
  · rw [cmpInt_of_lt h, cmpInt_of_gt h]; rfl
  · rw [cmpInt_self]; rfl
  · rw [cmpInt_of_gt h, cmpInt_of_lt h]

theorem cmpInt_pos {a b : Int} : 0 < cmpInt a b ↔ b < a := by
  rw [← cmpInt_neg (a := b), cmpInt_antisymm a b]; omega

theorem lex_cmpInt (a b q : Int) : lex (cmpInt a b) q = if a < b then -1 else if b < a then 1 else q := by
  rcases Int.lt_trichotomy a b with h | rfl | h
  · rw [cmpInt_of_lt h, if_pos h]; rfl
  · rw [cmpInt_self, lex_zero, if_neg (Int.lt_irrefl a), if_neg (Int.lt_irrefl a)]
  · rw [cmpInt_of_gt h, if_neg (Int.lt_asymm h), if_pos h]; rfl

theorem cmpInt_tr (a b c : Int) : Tr (cmpInt a b) (cmpInt b c) (cmpInt a c) :=
  ⟨fun h => by rw [cmpInt_eq_zero.1 h], fun h => by rw [cmpInt_eq_zero.1 h],
   fun h1 h2 => cmpInt_neg.2 (Int.lt_trans (cmpInt_neg.1 h1) (cmpInt_neg.1 h2)),
   fun h1 h2 => cmpInt_pos.2 (Int.lt_trans (cmpInt_pos.1 h2) (cmpInt_pos.1 h1))⟩

theorem cmpPt_antisymm (a b : KP) : cmpPt b a = - cmpPt a b := by
  unfold cmpPt; rw [cmpInt_antisymm a.1 b.1, cmpInt_antisymm a.2 b.2, lex_neg]

theorem cmpPt_tr (a b c : KP) : Tr (cmpPt a b) (cmpPt b c) (cmpPt a c) :=
  (cmpInt_tr _ _ _).combine (cmpInt_tr _ _ _)

theorem cmpPt_eq_zero {a b : KP} : cmpPt a b = 0 ↔ a = b := by
  unfold cmpPt; rw [lex_eq_zero, cmpInt_eq_zero, cmpInt_eq_zero, Prod.ext_iff]

theorem cmpPt_ok : CmpOK cmpPt := ⟨cmpPt_antisymm, cmpPt_tr⟩

section LexList
variable {α : Type}

/-- element-wise lexicographic comparison of two lists, a proper prefix being smaller: the common shape of `cmpPts`,
`cmpSeqs` and `cmpKs` -/
def lexList (cmp : α → α → Int) : List α → List α → Int
  | [], [] => 0
  | [], _ :: _ => -1
  | _ :: _, [] => 1
  | a :: as, b :: bs => lex (cmp a b) (lexList cmp as bs)

variable {cmp : α → α → Int}

/-- the laws are asked of the members of the first list only, so that a comparison of trees can call this on its
children -/
theorem lexList_antisymm : ∀ (p q : List α), (∀ a ∈ p, ∀ b, cmp b a = - cmp a b) →
    lexList cmp q p = - lexList cmp p q
  | [], [], _ | [], _ :: _, _ | _ :: _, [], _ => rfl
  | a :: as, b :: bs, h => by
    rw [lexList, lexList, h a List.mem_cons_self b,
      lexList_antisymm as bs fun x hx => h x (List.mem_cons_of_mem a hx), lex_neg]

theorem lexList_tr : ∀ (p q r : List α), (∀ a ∈ p, ∀ b c, Tr (cmp a b) (cmp b c) (cmp a c)) →
    Tr (lexList cmp p q) (lexList cmp q r) (lexList cmp p r)
  | [], [], [], _ | [], [], _ :: _, _ | [], _ :: _, [], _ | [], _ :: _, _ :: _, _
  | _ :: _, [], [], _ | _ :: _, [], _ :: _, _ | _ :: _, _ :: _, [], _ => by simp [lexList, Tr]
  | a :: as, b :: bs, c :: cs, h =>
    (h a List.mem_cons_self b c).combine (lexList_tr as bs cs fun x hx => h x (List.mem_cons_of_mem a hx))

end LexList

theorem cmpPts_eq : ∀ (p q : List KP), cmpPts p q = lexList cmpPt p q
  | [], [] | [], _ :: _ | _ :: _, [] => rfl
  | a :: as, b :: bs => congrArg (lex (cmpPt a b)) (cmpPts_eq as bs)

theorem cmpSeq_antisymm (p q : List KP) : cmpSeq q p = - cmpSeq p q := by
  unfold cmpSeq
  rw [cmpInt_antisymm, cmpPts_eq, cmpPts_eq, lexList_antisymm p q fun a _ => cmpPt_antisymm a, lex_neg]

theorem cmpSeq_tr (p q r : List KP) : Tr (cmpSeq p q) (cmpSeq q r) (cmpSeq p r) := by
  unfold cmpSeq; rw [cmpPts_eq, cmpPts_eq, cmpPts_eq]
  exact (cmpInt_tr _ _ _).combine (lexList_tr p q r fun a _ => cmpPt_tr a)

theorem cmpSeqs_eq : ∀ (p q : List (List KP)), cmpSeqs p q = lexList cmpSeq p q
  | [], [] | [], _ :: _ | _ :: _, [] => rfl
  | a :: as, b :: bs => congrArg (lex (cmpSeq a b)) (cmpSeqs_eq as bs)

/-! ### the head of `compareTo` -/

theorem cmpHead_eq (ra rb : Nat) (ea eb : Bool) (x : Int) :
    cmpHead ra rb ea eb x =
      lex (cmpInt ra rb) (if ea && eb then 0 else if ea then -1 else if eb then 1 else x) := by
  simp only [lex_cmpInt, Int.ofNat_lt]; rfl

/-- `cmpHead` is lexicographic in the sort index, then "empty before non-empty", then (two non-empty geometries) the body -/
theorem cmpHead_eq_lex (ra rb : Nat) (ea eb : Bool) (x : Int) :
    cmpHead ra rb ea eb x =
      lex (cmpInt ra rb) (lex (cmpInt (if ea then 0 else 1) (if eb then 0 else 1)) (if ea then 0 else x)) := by
  rw [cmpHead_eq]; cases ea <;> cases eb <;> rfl

theorem emptyRank_inj {ea eb : Bool} (h : cmpInt (if ea then 0 else 1) (if eb then 0 else 1) = 0) : ea = eb := by
  match ea, eb, h with
  | true, true, _ | false, false, _ => rfl
  | true, false, h | false, true, h => exact absurd (cmpInt_eq_zero.1 h) (by decide)

theorem cmpHead_antisymm (ra rb : Nat) (ea eb : Bool) (x y : Int)
    (h : ra = rb → ea = false → eb = false → y = -x) :
    cmpHead rb ra eb ea y = - cmpHead ra rb ea eb x := by
  rw [cmpHead_eq_lex, cmpHead_eq_lex, cmpInt_antisymm ra rb, cmpInt_antisymm (if ea then 0 else 1)]
  refine lex_neg_of fun hr => lex_neg_of fun he => ?_
  cases emptyRank_inj he
  cases ea
  · exact h (Int.ofNat_inj.1 (cmpInt_eq_zero.1 hr)) rfl rfl
  · rfl

theorem cmpHead_tr (ra rb rc : Nat) (ea eb ec : Bool) (x y z : Int)
    (h : ra = rb → rb = rc → ea = false → eb = false → ec = false → Tr x y z) :
    Tr (cmpHead ra rb ea eb x) (cmpHead rb rc eb ec y) (cmpHead ra rc ea ec z) := by
  rw [cmpHead_eq_lex, cmpHead_eq_lex, cmpHead_eq_lex]
  refine (cmpInt_tr _ _ _).combine_of fun hab hbc => (cmpInt_tr _ _ _).combine_of fun eab ebc => ?_
  cases emptyRank_inj eab; cases emptyRank_inj ebc
  cases ea
  · exact h (Int.ofNat_inj.1 (cmpInt_eq_zero.1 hab)) (Int.ofNat_inj.1 (cmpInt_eq_zero.1 hbc)) rfl rfl rfl
  · exact ⟨fun _ => rfl, fun _ => rfl, fun h _ => h, fun h _ => h⟩

theorem K.isEmpty_leaf (i p) : (K.leaf i p).isEmpty = p.isEmpty := by simp only [K.isEmpty]
theorem K.isEmpty_poly (s hs) : (K.poly s hs).isEmpty = s.isEmpty := by simp only [K.isEmpty]
theorem K.isEmpty_node (i ks) : (K.node i ks).isEmpty = K.allEmpty ks := by simp only [K.isEmpty]

end GeosModel.Norm

namespace GeosModel.C20Gen
open GeosModel.Norm

/-- What `compareToSameClass` contributes in the model `cmpK`.  It is the interpretation `Props/C20Gen.lean` gives to that
virtual call and keeps that file's namespace; it is declared here because the laws of `cmpK` are proved through it. -/
def sameClassBody : K → K → Int
  | .leaf _ p, .leaf _ q => cmpSeq p q
  | .poly s hs, .poly s' hs' => lex (cmpSeq s s') (lex (cmpInt hs.length hs'.length) (cmpSeqs hs hs'))
  | .node _ ks, .node _ ks' => cmpKs ks ks'
  | _, _ => 0

end GeosModel.C20Gen

namespace GeosModel.Norm
open GeosModel.C20Gen (sameClassBody)

theorem cmpK_eq_head (a b : K) : cmpK a b = cmpHead a.rank b.rank a.isEmpty b.isEmpty (sameClassBody a b) := by
  cases a <;> cases b <;> simp only [cmpK, sameClassBody, K.isEmpty_leaf, K.isEmpty_poly, K.isEmpty_node]

/-- trees of equal rank have the same shape: the rank is `3·index + 0, 1, 2` for `leaf`, `poly`, `node` -/
theorem K.rank_leaf_eq {i p} {b : K} (h : (K.leaf i p).rank = b.rank) : ∃ j q, b = .leaf j q := by
  cases b with
  | leaf j q => exact ⟨j, q, rfl⟩
  | poly _ _ | node _ _ => simp only [K.rank] at h; omega

theorem K.rank_poly_eq {s hs} {b : K} (h : (K.poly s hs).rank = b.rank) : ∃ s' hs', b = .poly s' hs' := by
  cases b with
  | poly s' hs' => exact ⟨s', hs', rfl⟩
  | leaf _ _ | node _ _ => simp only [K.rank] at h; omega

theorem K.rank_node_eq {i ks} {b : K} (h : (K.node i ks).rank = b.rank) : ∃ j ks', b = .node j ks' := by
  cases b with
  | node j ks' => exact ⟨j, ks', rfl⟩
  | leaf _ _ | poly _ _ => simp only [K.rank] at h; omega

theorem cmpKs_eq : ∀ (p q : List K), cmpKs p q = lexList cmpK p q
  | [], [] | [], _ :: _ | _ :: _, [] => by rw [cmpKs, lexList]
  | a :: as, b :: bs => by rw [cmpKs, lexList, cmpKs_eq as bs]

theorem cmpK_antisymm : ∀ (a b : K), cmpK b a = - cmpK a b
  | a, b => by
    rw [cmpK_eq_head b a, cmpK_eq_head a b]
    refine cmpHead_antisymm _ _ _ _ _ _ fun hr _ _ => ?_
    match a, hr with
    | .leaf i p, hr =>
      obtain ⟨j, q, rfl⟩ := K.rank_leaf_eq hr
      exact cmpSeq_antisymm p q
    | .poly s hs, hr =>
      obtain ⟨s', hs', rfl⟩ := K.rank_poly_eq hr
      simp only [sameClassBody]
      rw [cmpSeq_antisymm s s', cmpInt_antisymm, cmpSeqs_eq, cmpSeqs_eq,
        lexList_antisymm hs hs' fun a _ => cmpSeq_antisymm a, lex_neg, lex_neg]
    | .node i ks, hr =>
      obtain ⟨j, ks', rfl⟩ := K.rank_node_eq hr
      simp only [sameClassBody]
      rw [cmpKs_eq, cmpKs_eq]
      exact lexList_antisymm ks ks' fun k hk => cmpK_antisymm k
termination_by a => sizeOf a
decreasing_by have := List.sizeOf_lt_of_mem hk; simp only [K.node.sizeOf_spec]; omega

theorem cmpK_tr : ∀ (a b c : K), Tr (cmpK a b) (cmpK b c) (cmpK a c)
  | a, b, c => by
    rw [cmpK_eq_head a b, cmpK_eq_head b c, cmpK_eq_head a c]
    refine cmpHead_tr _ _ _ _ _ _ _ _ _ fun hab hbc _ _ _ => ?_
    match a, hab with
    | .leaf i p, hab =>
      obtain ⟨j, q, rfl⟩ := K.rank_leaf_eq hab
      obtain ⟨k, r, rfl⟩ := K.rank_leaf_eq hbc
      exact cmpSeq_tr p q r
    | .poly s hs, hab =>
      obtain ⟨s', hs', rfl⟩ := K.rank_poly_eq hab
      obtain ⟨s'', hs'', rfl⟩ := K.rank_poly_eq hbc
      simp only [sameClassBody, cmpSeqs_eq]
      exact (cmpSeq_tr s s' s'').combine
        ((cmpInt_tr _ _ _).combine (lexList_tr hs hs' hs'' fun a _ => cmpSeq_tr a))
    | .node i ks, hab =>
      obtain ⟨j, ks', rfl⟩ := K.rank_node_eq hab
      obtain ⟨k, ks'', rfl⟩ := K.rank_node_eq hbc
      simp only [sameClassBody, cmpKs_eq]
      exact lexList_tr ks ks' ks'' fun k hk => cmpK_tr k
termination_by a => sizeOf a
decreasing_by have := List.sizeOf_lt_of_mem hk; simp only [K.node.sizeOf_spec]; omega

theorem cmpKs_antisymm : ∀ (p q : List K), cmpKs q p = - cmpKs p q := fun p q => by
  rw [cmpKs_eq, cmpKs_eq]; exact lexList_antisymm p q fun a _ => cmpK_antisymm a

theorem cmpKs_tr : ∀ (p q r : List K), Tr (cmpKs p q) (cmpKs q r) (cmpKs p r) := fun p q r => by
  rw [cmpKs_eq, cmpKs_eq, cmpKs_eq]; exact lexList_tr p q r fun a _ => cmpK_tr a

theorem cmpK_ok : CmpOK cmpK := ⟨cmpK_antisymm, cmpK_tr⟩

/-- `Geometry::compareTo` (as modelled) is a total preorder -/
theorem cmpG_ok (c : Cfg) : CmpOK (cmpG c) :=
  ⟨fun _ _ => cmpK_antisymm _ _, fun _ _ _ => cmpK_tr _ _ _⟩

theorem cmpRingSeq_ok (c : Cfg) : CmpOK (cmpRingSeq c) :=
  ⟨fun _ _ => cmpK_antisymm _ _, fun _ _ _ => cmpK_tr _ _ _⟩

theorem cmpXY_ok (c : Cfg) : CmpOK (cmpXY c) :=
  ⟨fun _ _ => cmpPt_antisymm _ _, fun _ _ _ => cmpPt_tr _ _ _⟩

theorem cmpXY_eq_zero {c : Cfg} {a b : Coord} : cmpXY c a b = 0 ↔ eqXY c a b = true := by
  unfold cmpXY eqXY; rw [cmpPt_eq_zero]; simp

end GeosModel.Norm
