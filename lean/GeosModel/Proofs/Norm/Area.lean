import GeosModel.Proofs.Norm.Invariants
import GeosModel.Base.Kernel
/-!
Twice the signed area (shoelace sum over `Int`, `Kernel.area2`) of a closed ring is negated by reversal and
unchanged by the rotation `normalize` performs; hence the absolute area of a geometry is invariant under
`reverse` and (under the idempotence hypothesis, for rings closed in the coordinates `f` reads) under `normalize`.

What `normalize` does to a closed ring or to a line is to permute its edges, flipping either all of them or none
(`SameEdges`); the area here and the segment lengths in `Length.lean` are read off that.

The files of `Proofs/Norm` use core Lean only, like the model they are about.  That is why facts which
`Proofs/Kernel/Basic.lean` and `Proofs/Distance/PointSeg.lean` (both on Mathlib) also have — `edges_reverse`,
`area2_reverse`, the shoelace sum as `sumInt crossE`, `sqDist_comm` — are proved here a second time.
-/
namespace GeosModel.Norm
open GeosModel.Kernel

def sumInt {α : Type} (f : α → Int) : List α → Int
  | [] => 0
  | a :: r => f a + sumInt f r

theorem sumInt_perm {α : Type} {f : α → Int} {l₁ l₂ : List α} (h : l₁.Perm l₂) : sumInt f l₁ = sumInt f l₂ := by
  induction h with
  | nil => rfl
  | cons a _ ih => rw [sumInt, sumInt, ih]
  | swap a b l => exact Int.add_left_comm _ _ _
  | trans _ _ ih1 ih2 => exact ih1.trans ih2

theorem sumInt_append {α : Type} (f : α → Int) : ∀ (l₁ l₂ : List α), sumInt f (l₁ ++ l₂) = sumInt f l₁ + sumInt f l₂
  | [], l₂ => by simp [sumInt]
  | a :: r, l₂ => by simp only [List.cons_append, sumInt, sumInt_append f r l₂]; omega

theorem sumInt_map {α β : Type} (f : β → Int) (g : α → β) : ∀ l, sumInt f (l.map g) = sumInt (fun a => f (g a)) l
  | [] => rfl
  | a :: r => congrArg (f (g a) + ·) (sumInt_map f g r)

theorem sumInt_congr {α : Type} {f g : α → Int} : ∀ (l : List α), (∀ a ∈ l, f a = g a) → sumInt f l = sumInt g l
  | [], _ => rfl
  | a :: r, h => by simp only [sumInt]; rw [h a (by simp), sumInt_congr r (fun x hx => h x (by simp [hx]))]

theorem sumInt_neg {α : Type} (f : α → Int) : ∀ l, sumInt (fun a => - f a) l = - sumInt f l
  | [] => rfl
  | a :: r => by simp only [sumInt, sumInt_neg f r]; omega

/-- the shoelace term of an edge -/
def crossE (e : Pt × Pt) : Int := e.1.x * e.2.y - e.2.x * e.1.y

theorem foldl_add_eq {α : Type} (g : α → Int) : ∀ (l : List α) (a : Int), l.foldl (fun acc e => acc + g e) a = a + sumInt g l
  | [], a => by simp [sumInt]
  | x :: r, a => by simp only [List.foldl, sumInt]; rw [foldl_add_eq g r]; omega

theorem area2_eq (l : List Pt) : area2 l = sumInt crossE (edges l) := by
  unfold area2
  show List.foldl (fun acc e => acc + crossE e) 0 (edges l) = _
  rw [foldl_add_eq crossE]; simp

theorem edges_append_cons : ∀ (l₁ : List Pt) (x : Pt) (l₂ : List Pt),
    edges (l₁ ++ x :: l₂) = edges (l₁ ++ [x]) ++ edges (x :: l₂)
  | [], _, _ => rfl
  | [_], _, _ => rfl
  | a :: b :: r, x, l₂ => congrArg ((a, b) :: ·) (edges_append_cons (b :: r) x l₂)

theorem edges_reverse : ∀ (l : List Pt), edges l.reverse = ((edges l).map Prod.swap).reverse
  | [] => by simp [edges]
  | [a] => by simp [edges]
  | a :: b :: r => by
    have ih := edges_reverse (b :: r)
    have e : (a :: b :: r).reverse = r.reverse ++ b :: [a] := by simp
    rw [e, edges_append_cons]
    have e2 : r.reverse ++ [b] = (b :: r).reverse := by simp
    rw [e2, ih]
    simp [edges]

theorem crossE_swap (e : Pt × Pt) : crossE e.swap = - crossE e := by
  simp only [crossE, Prod.swap]; omega

theorem sumInt_crossE_swap (es : List (Pt × Pt)) : sumInt crossE (es.map Prod.swap) = - sumInt crossE es := by
  rw [sumInt_map, ← sumInt_neg]; exact sumInt_congr _ fun e _ => crossE_swap e

theorem area2_reverse (l : List Pt) : area2 l.reverse = - area2 l := by
  rw [area2_eq, area2_eq, edges_reverse, sumInt_perm (List.reverse_perm _), sumInt_crossE_swap]

/-- rotating a closed ring to the vertex `m` and re-closing it there permutes its edges -/
theorem edges_scroll (pre post : List Pt) (m z : Pt) (hz : (pre ++ m :: post).head? = some z) :
    (edges (m :: (post ++ pre) ++ [m])).Perm (edges (pre ++ m :: post ++ [z])) := by
  cases pre with
  | nil =>
    simp only [List.nil_append, List.head?_cons, Option.some.injEq] at hz
    subst hz; rw [List.append_nil]; exact List.Perm.refl _
  | cons a p' =>
    simp only [List.cons_append, List.head?_cons, Option.some.injEq] at hz
    subst hz
    have e1 := edges_append_cons (a :: p') m (post ++ [a])
    have e2 := edges_append_cons (m :: post) a (p' ++ [m])
    simp only [List.cons_append, List.append_assoc] at e1 e2 ⊢
    rw [e1, e2]; exact List.perm_append_comm

/-- twice the signed area of a coordinate ring as `f` reads it -/
def ringArea2 (f : Coord → Pt) (pts : List Coord) : Int := area2 (pts.map f)

def absI (n : Int) : Int := (n.natAbs : Int)

theorem absI_neg (n : Int) : absI (-n) = absI n := by simp [absI]

/-- a non-empty ring ends where it starts, in the coordinates `f` reads -/
def closedUnder (f : Coord → Pt) (l : List Coord) : Prop :=
  l = [] ∨ ∃ a t z, l = a :: t ++ [z] ∧ f z = f a

theorem ringArea2_reverse (f : Coord → Pt) (l : List Coord) : ringArea2 f l.reverse = - ringArea2 f l := by
  unfold ringArea2; rw [List.map_reverse, area2_reverse]

/-- `l'` has the edges of `l` (as `f` reads them) in some order, all kept or all flipped: what `normalize` does to a
ring or a line, and what area and segment lengths cannot see -/
def SameEdges (f : Coord → Pt) (l' l : List Coord) : Prop :=
  (edges (l'.map f)).Perm (edges (l.map f)) ∨ (edges (l'.map f)).Perm ((edges (l.map f)).map Prod.swap)

theorem SameEdges.refl (f : Coord → Pt) (l : List Coord) : SameEdges f l l := Or.inl (List.Perm.refl _)

theorem SameEdges.reverse (f : Coord → Pt) (l : List Coord) : SameEdges f l.reverse l :=
  Or.inr (by rw [List.map_reverse, edges_reverse]; exact List.reverse_perm _)

theorem SameEdges.trans_perm {f : Coord → Pt} {l'' l' l : List Coord} (h : SameEdges f l'' l')
    (hp : (edges (l'.map f)).Perm (edges (l.map f))) : SameEdges f l'' l :=
  h.imp (·.trans hp) (·.trans (hp.map _))

theorem sameEdges_orientRing (f : Coord → Pt) (c : Cfg) (cw : Bool) (R : List Coord) : SameEdges f (orientRing c cw R) R := by
  unfold orientRing; split
  · exact .reverse f R
  · exact .refl f R

theorem sameEdges_orientClosed (f : Coord → Pt) (c : Cfg) (R : List Coord) : SameEdges f (orientClosed c R) R := by
  unfold orientClosed; split
  · exact .reverse f R
  · exact .refl f R

theorem edges_scrolled {f : Coord → Pt} {pre post : List Coord} {m z : Coord} (hcl : closedUnder f (pre ++ m :: post ++ [z])) :
    (edges ((m :: (post ++ pre) ++ [m]).map f)).Perm (edges ((pre ++ m :: post ++ [z]).map f)) := by
  rcases hcl with hcl | ⟨a, t, z', hl, hz⟩
  · exact absurd hcl (by simp)
  · obtain ⟨ho, rfl⟩ := append_singleton_inj (show (pre ++ m :: post) ++ [z] = (a :: t) ++ [z'] by simpa using hl)
    simp only [List.map_append, List.map_cons, List.map_nil]
    apply edges_scroll
    rw [hz, ← List.map_cons, ← List.map_append, ho]; rfl

theorem sameEdges_normRingPts {f : Coord → Pt} {c : Cfg} {cw : Bool} {l : List Coord}
    (hcl : closedUnder f l) (h : ringIdemOK c cw l = true) : SameEdges f (normRingPts c cw l) l := by
  rcases normRingPts_of_ok h with rfl | ⟨pre, m, post, z, rfl, hn⟩
  · exact .refl f []
  · rw [hn]; exact (sameEdges_orientRing f c cw _).trans_perm (edges_scrolled hcl)

theorem sameEdges_normLinePts {f : Coord → Pt} {c : Cfg} {l : List Coord}
    (hcl : isClosedPts c l = true → closedUnder f l) (h : lineIdemOK c l = true) : SameEdges f (normLinePts c l) l := by
  rcases normLinePts_of_ok h with (hn | hn) | ⟨hc, pre, m, post, z, rfl, hn⟩
  · rw [hn]; exact .refl f l
  · rw [hn]; exact .reverse f l
  · rw [hn]; exact (sameEdges_orientClosed f c _).trans_perm (edges_scrolled (hcl hc))

theorem SameEdges.absArea {f : Coord → Pt} {l' l : List Coord} (h : SameEdges f l' l) :
    absI (ringArea2 f l') = absI (ringArea2 f l) := by
  unfold ringArea2; rw [area2_eq, area2_eq]
  rcases h with h | h
  · rw [sumInt_perm h]
  · rw [sumInt_perm h, sumInt_crossE_swap, absI_neg]

mutual
  /-- twice the area `Geometry::getArea()` approximates: `|shell| − Σ |hole|` per polygon, summed over collections -/
  def absArea2 (f : Coord → Pt) : G → Int
    | .polygon sh hs => absI (ringArea2 f sh.pts) - sumInt (fun h : CSeq => absI (ringArea2 f h.pts)) hs
    | .multiPolygon gs => absArea2L f gs
    | .multiSurface gs => absArea2L f gs
    | .collection gs => absArea2L f gs
    | .point _ => 0
    | .lineString _ => 0
    | .linearRing _ => 0
    | .circularString _ => 0
    | .compoundCurve _ => 0
    | .curvePolygon _ => 0
    | .multiPoint _ => 0
    | .multiLineString _ => 0
    | .multiCurve _ => 0
  def absArea2L (f : Coord → Pt) : List G → Int
    | [] => 0
    | g :: gs => absArea2 f g + absArea2L f gs
end

theorem absArea2L_eq (f : Coord → Pt) : ∀ gs, absArea2L f gs = sumInt (absArea2 f) gs
  | [] => rfl
  | g :: gs => congrArg (absArea2 f g + ·) (absArea2L_eq f gs)

/-- the sibling-list classes whose members can have area -/
def Multi.areal : Multi → Bool
  | .polygon | .surface | .collection => true
  | _ => false

theorem absArea2_multi (f : Coord → Pt) (k : Multi) (gs : List G) :
    absArea2 f (k.mk gs) = if k.areal then sumInt (absArea2 f) gs else 0 := by
  rw [← absArea2L_eq]; cases k <;> rfl

theorem absArea2_reverse_aux (f : Coord → Pt) (g : G) : absArea2 f (reverse g) = absArea2 f g := by
  induction g using G.induct with
  | point s | lineString s | linearRing s | circularString s => rfl
  | compoundCurve gs | curvePolygon gs => rfl
  | polygon sh hs => simp only [reverse, absArea2, revSeq, sumInt_map, (SameEdges.reverse f _).absArea]
  | multi k gs ih =>
    rw [reverse_multi, absArea2_multi, absArea2_multi]
    split
    · split
      · rfl
      · rw [sumInt_map]; exact sumInt_congr gs ih
    · rfl

theorem absArea2L_reverse_sum (f : Coord → Pt) : ∀ (gs : List G),
      sumInt (fun a => absArea2 f (reverse a)) gs = sumInt (absArea2 f) gs :=
  fun gs => sumInt_congr gs fun g _ => absArea2_reverse_aux f g

mutual
  /-- every polygon ring is closed in the coordinates `f` reads -/
  def ringsClosed (f : Coord → Pt) : G → Prop
    | .polygon sh hs => closedUnder f sh.pts ∧ ∀ h ∈ hs, closedUnder f h.pts
    | .multiPolygon gs => ringsClosedL f gs
    | .multiSurface gs => ringsClosedL f gs
    | .collection gs => ringsClosedL f gs
    | .point _ => True
    | .lineString _ => True
    | .linearRing _ => True
    | .circularString _ => True
    | .compoundCurve _ => True
    | .curvePolygon _ => True
    | .multiPoint _ => True
    | .multiLineString _ => True
    | .multiCurve _ => True
  def ringsClosedL (f : Coord → Pt) : List G → Prop
    | [] => True
    | g :: gs => ringsClosed f g ∧ ringsClosedL f gs
end

theorem ringsClosedL_iff {f : Coord → Pt} : ∀ (gs : List G), ringsClosedL f gs ↔ ∀ g ∈ gs, ringsClosed f g
  | [] => ⟨fun _ _ h => (nomatch h), fun _ => trivial⟩
  | g :: gs => by rw [ringsClosedL, ringsClosedL_iff gs, List.forall_mem_cons]

theorem ringsClosed_multi {f : Coord → Pt} {k : Multi} {gs : List G} :
    ringsClosed f (k.mk gs) ↔ (k.areal = true → ∀ g ∈ gs, ringsClosed f g) := by
  cases k <;> simp [Multi.mk, Multi.areal, ringsClosed, ringsClosedL_iff]

theorem absArea2_normalize_aux (f : Coord → Pt) (c : Cfg) (g : G) (hc : ringsClosed f g) (h : idemOK c g = true) :
    absArea2 f (normalize c g) = absArea2 f g := by
  induction g using G.induct with
  | point s | lineString s | linearRing s | circularString s => rfl
  | compoundCurve gs | curvePolygon gs => rfl
  | polygon sh hs =>
    simp only [idemOK, Bool.and_eq_true, List.all_eq_true] at h
    simp only [ringsClosed] at hc
    simp only [normalize, absArea2, normRing]
    rw [(sameEdges_normRingPts hc.1 h.1).absArea, sumInt_perm (sortDesc_perm _ _), sumInt_map]
    congr 1
    exact sumInt_congr hs (fun a ha => (sameEdges_normRingPts (hc.2 a ha) (h.2 a ha)).absArea)
  | multi k gs ih =>
    rw [normalize_multi, absArea2_multi, absArea2_multi]
    split
    · rename_i hk
      rw [sumInt_perm (sortDesc_perm _ _), sumInt_map]
      exact sumInt_congr gs fun g hg => ih g hg (ringsClosed_multi.1 hc hk g hg) (idemOK_multi.1 h g hg)
    · rfl

theorem absArea2L_normalize_sum (f : Coord → Pt) (c : Cfg) : ∀ (gs : List G), ringsClosedL f gs → idemOKL c gs = true →
      sumInt (fun a => absArea2 f (normalize c a)) gs = sumInt (absArea2 f) gs :=
  fun gs hc h => sumInt_congr gs fun g hg =>
    absArea2_normalize_aux f c g ((ringsClosedL_iff gs).1 hc g hg) ((idemOKL_iff gs).1 h g hg)

end GeosModel.Norm
