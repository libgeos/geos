import GeosModel.Proofs.Tri.Chain
/-! Winding numbers by signed ray crossings, over `Int`.

`wind p e` is the signed crossing of the ray from `p` towards +x with the directed edge `e` (half-open rule
on y, so vertices are counted once).  It is antisymmetric in the edge, additive under splitting an edge at
collinear interior points (for `p` off the edge's line), and its sum over the three edges of a positively
oriented triangle is `1` for points strictly inside and `0` for points strictly outside (`wind_tri`).
With `chainEq_sum` this gives: under the edge-pairing certificate, for every point `p` in general position
the number of triangles containing `p` equals the winding number of the region's boundary chain around `p`. -/
namespace GeosModel.Tri
open GeosModel.Kernel

/-- signed crossing for an edge with end heights `yu`, `yv` relative to the ray and orientation value `δ` -/
def wsgn (yu yv δ : Int) : Int :=
  if yu ≤ 0 ∧ 0 < yv then (if 0 < δ then 1 else 0) else if yv ≤ 0 ∧ 0 < yu then (if δ < 0 then -1 else 0) else 0

def wind (p : Pt) (e : Edge) : Int := wsgn (e.1.y - p.y) (e.2.y - p.y) (Kernel.det e.1 e.2 p)

theorem wsgn_up {yu yv : Int} (δ : Int) (h1 : yu ≤ 0) (h2 : 0 < yv) : wsgn yu yv δ = if 0 < δ then 1 else 0 := by
  simp only [wsgn, h1, h2, and_self, if_true]
theorem wsgn_down {yu yv : Int} (δ : Int) (h1 : 0 < yu) (h2 : yv ≤ 0) : wsgn yu yv δ = if δ < 0 then -1 else 0 := by
  simp only [wsgn, h1, h2, Int.not_le.2 h1, Int.not_lt.2 h2, and_self, if_true, if_false]
theorem wsgn_hi {yu yv : Int} (δ : Int) (h1 : 0 < yu) (h2 : 0 < yv) : wsgn yu yv δ = 0 := by
  simp only [wsgn, Int.not_le.2 h1, Int.not_le.2 h2, false_and, if_false]
theorem wsgn_lo {yu yv : Int} (δ : Int) (h1 : yu ≤ 0) (h2 : yv ≤ 0) : wsgn yu yv δ = 0 := by
  simp only [wsgn, Int.not_lt.2 h1, Int.not_lt.2 h2, and_false, if_false]

theorem wsgn_swap (yu yv δ : Int) : wsgn yv yu (-δ) = - wsgn yu yv δ := by
  by_cases hu : 0 < yu <;> by_cases hv : 0 < yv <;> (try simp only [Int.not_lt] at hu hv)
  · rw [wsgn_hi _ hu hv, wsgn_hi _ hv hu]; rfl
  · simp only [wsgn_down _ hu hv, wsgn_up _ hv hu, Left.neg_pos_iff]; split <;> rfl
  · simp only [wsgn_up _ hu hv, wsgn_down _ hv hu, Left.neg_neg_iff]; split <;> rfl
  · rw [wsgn_lo _ hu hv, wsgn_lo _ hv hu]; rfl

theorem wind_swap (p : Pt) (e : Edge) : wind p (swap e) = - wind p e := by
  simp only [wind, swap, det_swap12 e.1 e.2 p, wsgn_swap]

/-! ### one positively oriented triangle -/

/-- the crossing count of a positively oriented "abstract triangle": `α β γ` the determinants of the query point on the
edges `ab`, `bc`, `ca`; `ya yb yc` the corner heights relative to it -/
def TriCount (α β γ ya yb yc : Int) : Prop :=
  wsgn ya yb α + wsgn yb yc β + wsgn yc ya γ = if 0 < α ∧ 0 < β ∧ 0 < γ then 1 else 0

theorem TriCount.rot {α β γ ya yb yc : Int} (h : TriCount β γ α yb yc ya) : TriCount α β γ ya yb yc := by
  unfold TriCount at *
  rw [add_rotate, h]; exact if_congr and_rotate.symm rfl rfl

/-- one corner on one side of the ray's line, two on the other: only the two edges at the lone corner cross, one up (`u`) and
one down (`d`); with `o` on the opposite edge, the relation between determinants and heights allows `u`, `d` both positive only
with `o`, and never both negative -/
theorem lone_corner {o u d : Int} {P : Prop} [Decidable P] (hP : P ↔ 0 < o ∧ 0 < u ∧ 0 < d) (hu : u ≠ 0) (hd : d ≠ 0)
    (h1 : 0 < u → 0 < d → 0 < o) (h2 : u < 0 → d < 0 → False) :
    ((if 0 < u then 1 else 0) + if d < 0 then -1 else 0) = if P then (1 : Int) else 0 := by
  rcases Int.lt_or_gt_of_ne hu with su | su <;> rcases Int.lt_or_gt_of_ne hd with sd | sd
  · exact (h2 su sd).elim
  · simp [hP, Int.lt_asymm su, Int.lt_asymm sd]
  · simp [hP, su, sd, Int.lt_asymm sd]
  · simp [hP, su, sd, Int.lt_asymm sd, h1 su sd]

theorem wind_lhh {α β γ ya yb yc : Int} (hα : α ≠ 0) (hγ : γ ≠ 0) (hD : 0 < α + β + γ)
    (hstar : β * ya + γ * yb + α * yc = 0) (ha : ya ≤ 0) (hb : 0 < yb) (hc : 0 < yc) : TriCount α β γ ya yb yc := by
  unfold TriCount
  rw [wsgn_hi β hb hc, wsgn_up α ha hb, wsgn_down γ hc ha, Int.add_zero]
  refine lone_corner (o := β) and_left_comm hα hγ (fun sα sγ => ?_) (fun sα sγ => ?_)
  · have := Int.mul_pos sα hc; have := Int.mul_pos sγ hb
    by_contra h
    have := Int.mul_nonneg_of_nonpos_of_nonpos (Int.not_lt.1 h) ha; omega
  · have := Int.mul_neg_of_neg_of_pos sα hc; have := Int.mul_neg_of_neg_of_pos sγ hb
    have := Int.mul_nonpos_of_nonneg_of_nonpos (show 0 ≤ β by omega) ha; omega

theorem wind_hll {α β γ ya yb yc : Int} (hα : α ≠ 0) (hβ : β ≠ 0) (hγ : γ ≠ 0) (hD : 0 < α + β + γ)
    (hstar : β * ya + γ * yb + α * yc = 0) (ha : 0 < ya) (hb : yb ≤ 0) (hc : yc ≤ 0) : TriCount α β γ ya yb yc := by
  unfold TriCount
  rw [wsgn_lo β hb hc, wsgn_down α ha hb, wsgn_up γ hc ha, Int.add_zero, Int.add_comm]
  refine lone_corner (o := β) and_rotate hγ hα (fun sγ sα => ?_) (fun sγ sα => ?_)
  · have := Int.mul_nonpos_of_nonneg_of_nonpos (Int.le_of_lt sα) hc
    have := Int.mul_nonpos_of_nonneg_of_nonpos (Int.le_of_lt sγ) hb
    by_contra h
    have := Int.mul_neg_of_neg_of_pos (show β < 0 by omega) ha; omega
  · have := Int.mul_nonneg_of_nonpos_of_nonpos (Int.le_of_lt sα) hc
    have := Int.mul_nonneg_of_nonpos_of_nonpos (Int.le_of_lt sγ) hb
    have := Int.mul_pos (show 0 < β by omega) ha; omega

/-- what is used of a triangle: no determinant vanishes, they add up to the positive area, each corner's height weighted by
the determinant of the opposite edge adds up to zero, and three equal heights force area zero.  By the side of the ray's line
each corner is on: all on one side, or one corner alone (`wind_lhh`, `wind_hll`, up to rotation) -/
theorem wind_tri_abstract {α β γ ya yb yc : Int} (hα : α ≠ 0) (hβ : β ≠ 0) (hγ : γ ≠ 0) (hD : 0 < α + β + γ)
    (hstar : β * ya + γ * yb + α * yc = 0) (hdeg : ya = yb → yb = yc → α + β + γ = 0) : TriCount α β γ ya yb yc := by
  by_cases ha : 0 < ya <;> by_cases hb : 0 < yb <;> by_cases hc : 0 < yc <;> (try simp only [Int.not_lt] at ha hb hc)
  · -- all above: no edge crosses, and the weighted heights of a triangle around `p` could not add up to zero
    unfold TriCount
    rw [wsgn_hi α ha hb, wsgn_hi β hb hc, wsgn_hi γ hc ha, if_neg]; · rfl
    intro ⟨sα, sβ, sγ⟩
    have := Int.mul_pos sβ ha; have := Int.mul_pos sγ hb; have := Int.mul_pos sα hc; omega
  · exact (wind_lhh hγ hβ (by omega) (by omega) hc ha hb).rot.rot
  · exact (wind_lhh hβ hα (by omega) (by omega) hb hc ha).rot
  · exact wind_hll hα hβ hγ hD hstar ha hb hc
  · exact wind_lhh hα hγ hD hstar ha hb hc
  · exact (wind_hll hβ hγ hα (by omega) (by omega) hb hc ha).rot
  · exact (wind_hll hγ hα hβ (by omega) (by omega) hc ha hb).rot.rot
  · -- none above: no edge crosses; each product is `≤ 0` and they add up to `0`, so each height is `0`: a flat triangle
    unfold TriCount
    rw [wsgn_lo α ha hb, wsgn_lo β hb hc, wsgn_lo γ hc ha, if_neg]; · rfl
    intro ⟨sα, sβ, sγ⟩
    have z {c y : Int} (hc : 0 < c) (hy : y ≤ 0) (h0 : 0 ≤ c * y) : y = 0 :=
      (Int.mul_eq_zero.1 (Int.le_antisymm (Int.mul_nonpos_of_nonneg_of_nonpos (Int.le_of_lt hc) hy) h0)).resolve_left (by omega)
    have := Int.mul_nonpos_of_nonneg_of_nonpos (Int.le_of_lt sβ) ha
    have := Int.mul_nonpos_of_nonneg_of_nonpos (Int.le_of_lt sγ) hb
    have := Int.mul_nonpos_of_nonneg_of_nonpos (Int.le_of_lt sα) hc
    have ea := z sβ ha (by omega); have eb := z sγ hb (by omega); have ec := z sα hc (by omega)
    have := hdeg (by omega) (by omega); omega

/-- `p` is in general position w.r.t. edge `e`: not on its line -/
def OffLine (p : Pt) (e : Edge) : Prop := Kernel.det e.1 e.2 p ≠ 0

/-- **a positively oriented triangle has winding number 1 about its strictly interior points and 0 about
points strictly outside** (points on none of the three edge lines) -/
theorem wind_tri (t : Tri) (p : Pt) (ht : 0 < t.det) (hp : ∀ e ∈ t.edges, OffLine p e) :
    sumInt (t.edges.map (wind p)) =
      if 0 < Kernel.det t.a t.b p ∧ 0 < Kernel.det t.b t.c p ∧ 0 < Kernel.det t.c t.a p then 1 else 0 := by
  have hsum : Kernel.det t.a t.b p + Kernel.det t.b t.c p + Kernel.det t.c t.a p = t.det := by
    simp only [Kernel.det, Tri.det]; ring
  have hstar := det_plucker_y p t.b t.c t.a
  rw [det_cycle' t.b t.c p, det_cycle' t.c t.a p, det_cycle' t.a t.b p] at hstar
  have hdeg : t.a.y - p.y = t.b.y - p.y → t.b.y - p.y = t.c.y - p.y →
      Kernel.det t.a t.b p + Kernel.det t.b t.c p + Kernel.det t.c t.a p = 0 := fun e1 e2 => by
    rw [hsum, Tri.det, Kernel.det, show t.c.y = t.a.y by omega, show t.b.y = t.a.y by omega]; ring
  simp only [Tri.edges, List.forall_mem_cons] at hp
  have := wind_tri_abstract hp.1 hp.2.1 hp.2.2.1 (hsum ▸ ht) hstar hdeg
  simpa only [TriCount, Tri.edges, List.map_cons, List.map_nil, sumInt_cons, wind, show sumInt [] = 0 from rfl, Int.add_zero,
    Int.add_assoc] using this

/-! ### splitting an edge at collinear points -/

theorem line_identity (a b u v p : Pt) :
    (b.y - a.y) * Kernel.det u v p =
      (v.y - u.y) * (Kernel.det a b p - Kernel.det a b u) - (p.y - u.y) * (Kernel.det a b v - Kernel.det a b u) := by
  simp only [Kernel.det]; ring

/-- `δ` has the sign of `wy · D` when `wy · δ` is a positive multiple of `D ≠ 0`: their product is `Δ · D²` -/
theorem sign_lemma {wy δ Δ D : Int} (h : wy * δ = Δ * D) (hΔ : 0 < Δ) (hD : D ≠ 0) : 0 < δ ↔ 0 < wy * D := by
  have hpos : 0 < wy * D * δ := by
    rw [Int.mul_right_comm, h, Int.mul_assoc]; exact Int.mul_pos hΔ (mul_self_pos.2 hD)
  exact ⟨fun hδ => (mul_pos_iff_of_pos_right hδ).1 hpos, fun hk => (mul_pos_iff_of_pos_left hk).1 hpos⟩

/-- potential of the telescoping sum along the line through `a`,`b` -/
def gpot (a b p x : Pt) : Int := if 0 < (b.y - a.y) * Kernel.det a b p ∧ 0 < x.y - p.y then 1 else 0

theorem wind_on_line (a b u v p : Pt) (hu : Kernel.det a b u = 0) (hv : Kernel.det a b v = 0)
    (hp : Kernel.det a b p ≠ 0) : wind p (u, v) = gpot a b p v - gpot a b p u := by
  have hid := line_identity a b u v p
  rw [hu, hv, Int.sub_zero, Int.sub_zero, Int.mul_zero, Int.sub_zero] at hid
  simp only [wind, gpot]
  by_cases hyu : 0 < u.y - p.y <;> by_cases hyv : 0 < v.y - p.y <;> (try simp only [Int.not_lt] at hyu hyv)
  · rw [wsgn_hi _ hyu hyv]; simp only [hyu, hyv, and_true, Int.sub_self]
  · have := sign_lemma (δ := -Kernel.det u v p) (by rw [Int.mul_neg, hid, ← Int.neg_mul, Int.neg_sub]) (show 0 < u.y - v.y by omega) hp
    simp only [wsgn_down _ hyu hyv, hyu, Int.not_lt.2 hyv, and_true, and_false, if_false, ← this, Left.neg_pos_iff]
    split <;> rfl
  · have := sign_lemma hid (show 0 < v.y - u.y by omega) hp
    simp only [wsgn_up _ hyu hyv, hyv, Int.not_lt.2 hyu, and_true, and_false, if_false, ← this, Int.sub_zero]
  · rw [wsgn_lo _ hyu hyv]; simp only [Int.not_lt.2 hyu, Int.not_lt.2 hyv, and_false, if_false, Int.sub_self]

theorem splitEdge_wind (V : List Pt) (e : Edge) (p : Pt) (hp : OffLine p e) :
    sumInt ((splitEdge V e).map (wind p)) = wind p e :=
  splitEdge_sum (wind p) (gpot e.1 e.2 p) V e fun _ u v hu hv => wind_on_line e.1 e.2 u v p hu hv hp

theorem elemEdges_wind (V : List Pt) (es : List Edge) (p : Pt) (hp : ∀ e ∈ es, OffLine p e) :
    sumInt ((elemEdges V es).map (wind p)) = sumInt (es.map (wind p)) :=
  elemEdges_sum (wind p) V es fun e he => splitEdge_wind _ e p (hp e he)

/-- number of triangles of the list that contain `p` strictly -/
def countIn (ts : List Tri) (p : Pt) : Int :=
  sumInt (ts.map (fun t => if 0 < Kernel.det t.a t.b p ∧ 0 < Kernel.det t.b t.c p ∧ 0 < Kernel.det t.c t.a p then 1 else 0))

theorem countIn_cons (t : Tri) (r : List Tri) (p : Pt) :
    countIn (t :: r) p = (if 0 < Kernel.det t.a t.b p ∧ 0 < Kernel.det t.b t.c p ∧ 0 < Kernel.det t.c t.a p then 1 else 0) + countIn r p :=
  rfl

theorem countIn_nonneg (ts : List Tri) (p : Pt) : 0 ≤ countIn ts p := by
  induction ts with
  | nil => exact Int.le_refl 0
  | cons t r ih => rw [countIn_cons]; split <;> omega

theorem countIn_pos_of_mem (ts : List Tri) (p : Pt) (t : Tri) (ht : t ∈ ts)
    (hin : 0 < Kernel.det t.a t.b p ∧ 0 < Kernel.det t.b t.c p ∧ 0 < Kernel.det t.c t.a p) : 1 ≤ countIn ts p := by
  induction ts with
  | nil => cases ht
  | cons u r ih =>
    rw [countIn_cons]
    rcases List.mem_cons.mp ht with h | h
    · subst h; rw [if_pos hin]; have := countIn_nonneg r p; omega
    · have := ih h; split <;> omega

theorem countIn_zero_of_none (ts : List Tri) (p : Pt)
    (h : ∀ t ∈ ts, ¬ (0 < Kernel.det t.a t.b p ∧ 0 < Kernel.det t.b t.c p ∧ 0 < Kernel.det t.c t.a p)) : countIn ts p = 0 := by
  induction ts with
  | nil => rfl
  | cons u r ih =>
    rw [countIn_cons, if_neg (h u (List.mem_cons_self)), ih (fun t ht => h t (List.mem_cons_of_mem _ ht))]; rfl

theorem triEdges_wind (ts : List Tri) (p : Pt) (hpos : ∀ t ∈ ts, 0 < t.det) (hp : ∀ e ∈ triEdges ts, OffLine p e) :
    sumInt ((triEdges ts).map (wind p)) = countIn ts p := by
  rw [triEdges, List.map_flatMap, sumInt_flatMap]
  exact congrArg sumInt (List.map_congr_left fun t ht =>
    wind_tri t p (hpos t ht) fun e he => hp e (List.mem_flatMap.2 ⟨t, ht, he⟩))

/-- **edge pairing ⇒ covering count.**  If the elementary boundary chain of positively oriented triangles
equals the elementary chain of `B`, then for every point `p` on none of the edge lines, the number of
triangles strictly containing `p` equals the winding number (signed crossing number) of `B` about `p`. -/
theorem chainEq_count (V : List Pt) (ts : List Tri) (B : List Edge) (p : Pt)
    (h : chainEq (elemEdges V (triEdges ts)) (elemEdges V B) = true)
    (hpos : ∀ t ∈ ts, 0 < t.det)
    (hpT : ∀ e ∈ triEdges ts, OffLine p e) (hpB : ∀ e ∈ B, OffLine p e) :
    countIn ts p = sumInt (B.map (wind p)) := by
  have := chainEq_sum (wind p) (wind_swap p) _ _ h
  rw [elemEdges_wind V _ p hpT, elemEdges_wind V _ p hpB, triEdges_wind ts p hpos hpT] at this
  exact this

end GeosModel.Tri
