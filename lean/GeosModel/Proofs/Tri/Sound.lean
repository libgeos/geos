import GeosModel.Proofs.Tri.Chain
/-! The Prop-level specifications of C16 and the soundness of the Boolean checkers against them.

Defined here: `SepBy` / `Separated` (a separating edge), `Tiles` (the tiling certificate), `HullCert`, `IsTriangulation`,
`IsDelaunay`, `IsCDT`, `IsLocallyDelaunay`, `IsCDTCollection`, `NearOK`, `CellCert`, `VoronoiCert` — what the checkers of
`Model/Tri/Check.lean` decide, clause by clause.  Proved here: `check = true` gives each clause for *all* triangles / pairs /
sites (`…_sound`).  The checkers are written with `List.all` and structural recursion, so these are unfoldings plus the two
list inductions (`pairwiseDisjoint`, `noDupE`). -/
namespace GeosModel.Tri
open GeosModel.Kernel

/-- some edge of `t` has all corners of `u` on its right or on its line -/
def SepBy (t u : Tri) : Prop := ∃ e ∈ t.edges, ∀ p ∈ u.corners, Kernel.det e.1 e.2 p ≤ 0

/-- exact interior-disjointness certificate for two counter-clockwise triangles: a separating edge -/
def Separated (t u : Tri) : Prop := SepBy t u ∨ SepBy u t

theorem sepBy_iff (t u : Tri) : sepBy t u = true ↔ SepBy t u := by
  simp only [sepBy, SepBy, List.any_eq_true, List.all_eq_true, decide_eq_true_eq]

theorem interiorDisjoint_iff (t u : Tri) : interiorDisjoint t u = true ↔ Separated t u := by
  simp [interiorDisjoint, Separated, sepBy_iff]

theorem pairwiseDisjoint_sound : ∀ (ts : List Tri), pairwiseDisjoint ts = true → ts.Pairwise Separated
  | [], _ => List.Pairwise.nil
  | t :: r, h => by
    simp only [pairwiseDisjoint, Bool.and_eq_true, List.all_eq_true] at h
    exact List.Pairwise.cons (fun u hu => (interiorDisjoint_iff t u).mp (h.1 u hu)) (pairwiseDisjoint_sound r h.2)

theorem noDupE_sound : ∀ (l : List Edge), noDupE l = true → l.Nodup
  | [], _ => List.nodup_nil
  | e :: r, h => by
    simp only [noDupE, Bool.and_eq_true, Bool.not_eq_true'] at h
    exact List.nodup_cons.mpr ⟨fun hm => Bool.false_ne_true (h.1.symm.trans ((memE_iff e r).mpr hm)), noDupE_sound r h.2⟩

theorem ccw_det_pos (t : Tri) (h : t.det ≠ 0) : 0 < t.ccw.det := by
  simp only [Tri.ccw]
  split
  · next hneg =>
    have : (Tri.mk t.a t.c t.b).det = - t.det := by
      simp only [Tri.det, Kernel.det]; ring
    omega
  · omega

theorem ccw_map_pos {tris : List Tri} (h : ∀ t ∈ tris, t.det ≠ 0) : ∀ t ∈ tris.map Tri.ccw, 0 < t.det := by
  intro t ht
  obtain ⟨t0, ht0, rfl⟩ := List.mem_map.mp ht
  exact ccw_det_pos t0 (h t0 ht0)

theorem ccw_corners (t : Tri) (p : Pt) : p ∈ t.ccw.corners ↔ p ∈ t.corners := by
  unfold Tri.ccw
  by_cases h : t.det < 0
  · rw [if_pos h]; exact ((List.Perm.swap _ _ _).cons _).mem_iff
  · rw [if_neg h]

/-- what the tiling certificate establishes about positively oriented triangles `ts`, a boundary chain `B`
and the doubled area `A2` -/
structure Tiles (V : List Pt) (ts : List Tri) (B : List Edge) (A2 : Int) : Prop where
  /-- no directed elementary edge is used by two triangles (or twice by one) -/
  edge_once : (elemEdges V (triEdges ts)).Nodup
  /-- every elementary triangle edge is matched by exactly one opposite elementary triangle edge or lies on
  the boundary chain, and every boundary edge is matched: the two 1-chains cancel completely -/
  chain : cancel (elemEdges V (triEdges ts) ++ (elemEdges V B).map swap).length
            (elemEdges V (triEdges ts) ++ (elemEdges V B).map swap) = []
  area : sumInt (ts.map Tri.det) = A2
  disjoint : ts.Pairwise Separated

theorem tiles_sound (V : List Pt) (ts : List Tri) (B : List Edge) (A2 : Int) (h : tiles V ts B A2 = true) :
    Tiles V ts B A2 := by
  simp only [tiles, Bool.and_eq_true, decide_eq_true_eq] at h
  obtain ⟨⟨⟨h1, h2⟩, h3⟩, h4⟩ := h
  refine ⟨noDupE_sound _ h1, ?_, h3, pairwiseDisjoint_sound _ h4⟩
  simpa [chainEq, List.isEmpty_iff] using h2

theorem Tiles.chainEq {V : List Pt} {ts : List Tri} {B : List Edge} {A2 : Int} (h : Tiles V ts B A2) :
    chainEq (elemEdges V (triEdges ts)) (elemEdges V B) = true := by
  simpa only [Tri.chainEq, List.isEmpty_iff] using h.chain

/-- what `hullOK sites H = true` certifies -/
structure HullCert (sites H : List Pt) : Prop where
  vertices_are_sites : ∀ v ∈ H, v ∈ sites
  empty : H = [] → sites = []
  single : ∀ a, H = [a] → ∀ s ∈ sites, s = a
  segment : ∀ a b, H = [a, b] → a ≠ b ∧ ∀ s ∈ sites, onSegment a b s = true
  /-- every site is on or to the left of every hull edge -/
  contains : 3 ≤ H.length → ∀ e ∈ loopEdges H, ∀ s ∈ sites, 0 ≤ Kernel.det e.1 e.2 s
  /-- strictly convex and counter-clockwise: every other hull vertex is strictly left of every hull edge -/
  convex : 3 ≤ H.length → ∀ e ∈ loopEdges H, ∀ v ∈ H, v = e.1 ∨ v = e.2 ∨ 0 < Kernel.det e.1 e.2 v
  fan_positive : 3 ≤ H.length → ∀ t ∈ fan H, 0 < t.det
  fan_separated : 3 ≤ H.length → (fan H).Pairwise Separated

theorem hullOK_sound (sites H : List Pt) (h : hullOK sites H = true) : HullCert sites H := by
  simp only [hullOK, Bool.and_eq_true, List.all_eq_true, memB_iff] at h
  obtain ⟨hv, hm⟩ := h
  -- each clause speaks of one shape of `H`, which selects the branch of the checker
  have h3 (hl : 3 ≤ H.length) :
      (((∀ e ∈ loopEdges H, ∀ s ∈ sites, 0 ≤ Kernel.det e.1 e.2 s) ∧
        ∀ e ∈ loopEdges H, ∀ v ∈ H, (v = e.1 ∨ v = e.2) ∨ 0 < Kernel.det e.1 e.2 v) ∧
        ∀ t ∈ fan H, 0 < t.det) ∧ pairwiseDisjoint (fan H) = true := by
    match H, hm, hl with
    | _ :: _ :: _ :: _, hm, _ =>
      simpa only [Bool.and_eq_true, List.all_eq_true, decide_eq_true_eq, Bool.or_eq_true] using hm
  refine ⟨hv, ?_, ?_, ?_, fun hl => (h3 hl).1.1.1,
    fun hl e he v hvm => or_assoc.1 ((h3 hl).1.1.2 e he v hvm), fun hl => (h3 hl).1.2,
    fun hl => pairwiseDisjoint_sound _ (h3 hl).2⟩
  · rintro rfl; exact List.isEmpty_iff.1 hm
  · rintro a rfl; simpa only [List.all_eq_true, decide_eq_true_eq] using hm
  · rintro a b rfl; simpa only [Bool.and_eq_true, decide_eq_true_eq, List.all_eq_true] using hm

/-- the specification `isTriangulationOf` decides -/
structure IsTriangulation (sites : List Pt) (tris : List Tri) : Prop where
  nondegenerate : ∀ t ∈ tris, t.det ≠ 0
  positively_oriented : ∀ t ∈ tris.map Tri.ccw, 0 < t.det
  corners_are_sites : ∀ t ∈ tris, ∀ p ∈ t.corners, p ∈ sites
  sites_are_corners : tris ≠ [] → ∀ s ∈ sites, ∃ t ∈ tris, s ∈ t.corners
  hull : HullCert sites (hull sites)
  /-- the triangles tile the hull polygon: boundary chain = hull boundary, areas add up, pairwise separated -/
  tiling : Tiles sites (tris.map Tri.ccw) (loopEdges (Tri.hull sites)) (sumInt ((loopEdges (Tri.hull sites)).map cross))

theorem isTriangulationOf_sound (sites : List Pt) (tris : List Tri) (h : isTriangulationOf sites tris = true) :
    IsTriangulation sites tris := by
  simp only [isTriangulationOf, Bool.and_eq_true, List.all_eq_true, decide_eq_true_eq, Bool.or_eq_true,
    List.isEmpty_iff, memB_iff] at h
  obtain ⟨⟨⟨⟨h1, h2⟩, h3⟩, h4⟩, h5⟩ := h
  exact ⟨h1, ccw_map_pos h1, fun t ht p hp => h2 p (List.mem_flatMap.mpr ⟨t, ht, hp⟩),
    fun hne s hs => List.mem_flatMap.mp (h3.resolve_left hne s hs), hullOK_sound _ _ h4, tiles_sound _ _ _ _ h5⟩

/-- the specification `isDelaunay` decides (determinant form) -/
def IsDelaunay (sites : List Pt) (tris : List Tri) : Prop :=
  ∀ t ∈ tris, ∀ s ∈ sites, inCircleDet t.ccw.a t.ccw.b t.ccw.c s ≤ 0

theorem isDelaunay_sound (sites : List Pt) (tris : List Tri) (h : isDelaunay sites tris = true) :
    IsDelaunay sites tris := by
  simp only [isDelaunay, List.all_eq_true, decide_eq_true_eq] at h
  intro t ht s hs
  exact h t.ccw (List.mem_map.mpr ⟨t, ht, rfl⟩) s hs

/-- the specification `isCDTOf` decides -/
structure IsCDT (rings : List (List Pt)) (tris : List Tri) : Prop where
  nondegenerate : ∀ t ∈ tris, t.det ≠ 0
  positively_oriented : ∀ t ∈ tris.map Tri.ccw, 0 < t.det
  corners_are_vertices : ∀ t ∈ tris, ∀ p ∈ t.corners, ∃ r ∈ rings, p ∈ r
  tiling : Tiles (rings.flatMap id) (tris.map Tri.ccw) (polyBoundary rings) (polyArea2 rings)
  centroid_inside : ∀ t ∈ tris, locateInPolygon (centroid3 t) (rings.map (fun r => r.map scale3)) = Loc.interior

theorem isCDTOf_sound (rings : List (List Pt)) (tris : List Tri) (h : isCDTOf rings tris = true) :
    IsCDT rings tris := by
  simp only [isCDTOf, Bool.and_eq_true, List.all_eq_true, decide_eq_true_eq, memB_iff] at h
  obtain ⟨⟨⟨h1, h2⟩, h3⟩, h4⟩ := h
  exact ⟨h1, ccw_map_pos h1, fun t ht p hp =>
    List.mem_flatMap.mp (h2 p (List.mem_flatMap.mpr ⟨t, ht, hp⟩)), tiles_sound _ _ _ _ h3, h4⟩

/-- the constrained (local) Delaunay condition -/
def IsLocallyDelaunay (ts : List Tri) : Prop :=
  ∀ t ∈ ts, ∀ u ∈ ts, (∃ e ∈ t.edges, swap e ∈ u.edges) → ∀ p ∈ u.corners, inCircleDet t.a t.b t.c p ≤ 0

theorem locallyDelaunay_sound (ts : List Tri) (h : locallyDelaunay ts = true) : IsLocallyDelaunay ts := by
  simp only [locallyDelaunay, List.all_eq_true, Bool.or_eq_true, Bool.not_eq_true', decide_eq_true_eq, List.any_eq_false,
    memE_iff] at h
  exact fun t ht u hu ⟨e, he, hs⟩ p hp => (h t ht u hu).resolve_left (fun h1 => h1 e he hs) p hp

/-- what `isCDTOfCollection` certifies: the output splits, by the exact centroid test, into one group per component
polygon; every output triangle is in exactly one group; group `i` is a constrained Delaunay triangulation of
component `i` (every clause of `IsCDT`, and the local Delaunay condition on the edges shared inside the group) -/
structure IsCDTCollection (polys : List (List (List Pt))) (tris : List Tri) : Prop where
  unique_owner : ∀ t ∈ tris, (∃ rings ∈ polys, ownedBy rings t = true) ∧
    (polys.filter (fun rings => ownedBy rings t)).length = 1
  component : ∀ rings ∈ polys, IsCDT rings (trisIn rings tris) ∧ IsLocallyDelaunay ((trisIn rings tris).map Tri.ccw)
  groups_are_output : ∀ rings, ∀ t, t ∈ trisIn rings tris ↔ (t ∈ tris ∧ ownedBy rings t = true)

theorem isCDTOfCollection_sound (polys : List (List (List Pt))) (tris : List Tri)
    (h : isCDTOfCollection polys tris = true) : IsCDTCollection polys tris := by
  simp only [isCDTOfCollection, Bool.and_eq_true, List.all_eq_true, decide_eq_true_eq] at h
  obtain ⟨h1, h2⟩ := h
  refine ⟨fun t ht => ⟨?_, h1 t ht⟩, fun rings hr => ⟨isCDTOf_sound _ _ (h2 rings hr).1, locallyDelaunay_sound _ (h2 rings hr).2⟩,
    fun rings t => by simp [trisIn, List.mem_filter]⟩
  obtain ⟨r, hr⟩ := List.exists_mem_of_length_pos (l := polys.filter fun rings => ownedBy rings t) (by rw [h1 t ht]; decide)
  exact ⟨r, List.mem_filter.mp hr⟩

/-- Prop form of `nearOK`: `v` is at least as close to `s` as to `t`, exactly or up to the stated slack -/
def NearOK (M : Int) (v s t : Pt) : Prop :=
  sqDist v s ≤ sqDist v t ∨ sqDist v s * 1000000000 ≤ sqDist v t * 1000000001 ∨
  (sqDist v s - sqDist v t) * (sqDist v s - sqDist v t) * 1000000000000000000 ≤ 4 * sqDist s t * M * M

/-- what `cellOK` certifies about one Voronoi cell -/
structure CellCert (sites : List Pt) (env : Box) (M : Int) (site : Pt) (ring : List Pt) : Prop where
  closed : (ringCCW ring).head? = (ringCCW ring).getLast?
  three : 3 ≤ (ringCCW ring).dropLast.length
  no_repeat : dedup (ringCCW ring).dropLast = (ringCCW ring).dropLast
  area : area2 (ringCCW ring) ≠ 0
  /-- convex: every vertex on or to the left of every edge -/
  convex : ∀ e ∈ Kernel.edges (ringCCW ring), ∀ v ∈ (ringCCW ring).dropLast, 0 ≤ Kernel.det e.1 e.2 v
  site_inside : ∀ e ∈ Kernel.edges (ringCCW ring), 0 < Kernel.det e.1 e.2 site
  others_outside : ∀ t ∈ sites, t ≠ site → ∃ e ∈ Kernel.edges (ringCCW ring), Kernel.det e.1 e.2 t < 0
  /-- every cell vertex (hence, the cell being convex, every cell point) is at least as close to the cell's
  site as to any other site, up to the slack -/
  nearest : ∀ v ∈ ring, ∀ t ∈ sites, NearOK M v site t
  in_envelope : ∀ v ∈ ring, (env.minx - v.x) * 1000000000 ≤ M ∧ (v.x - env.maxx) * 1000000000 ≤ M ∧
      (env.miny - v.y) * 1000000000 ≤ M ∧ (v.y - env.maxy) * 1000000000 ≤ M

theorem cellOK_sound (sites : List Pt) (env : Box) (M : Int) (site : Pt) (ring : List Pt)
    (h : cellOK sites env M site ring = true) : CellCert sites env M site ring := by
  simp only [cellOK, convexRing, strictlyInConvex, inClosedConvex, nearOK, leSlack, Bool.and_eq_true,
    List.all_eq_true, decide_eq_true_eq, Bool.or_eq_true, Bool.not_eq_true', ← Bool.not_eq_true,
    List.all_eq_true, decide_eq_true_eq] at h
  obtain ⟨⟨⟨⟨⟨⟨⟨⟨c1, c2⟩, c3⟩, c4⟩, c5⟩, h2⟩, h3⟩, h4⟩, h5⟩ := h
  refine ⟨c2, c1, c3, c4, c5, h2, ?_, ?_, ?_⟩
  · intro t ht hne
    have := (h3 t ht).resolve_left hne
    simp only [Classical.not_forall] at this
    obtain ⟨e, he, hlt⟩ := this
    exact ⟨e, he, by omega⟩
  · exact fun v hv t ht => (or_assoc.1 (h4 v hv t ht)).imp_left fun h => by omega
  · exact fun v hv => by simpa only [and_assoc] using h5 v hv

/-- what `voronoiOK` certifies -/
structure VoronoiCert (sites : List Pt) (env : Box) (cells : List (Pt × List Pt)) : Prop where
  cells_ok : ∀ c ∈ cells, c.1 ∈ dedup sites ∧ CellCert (dedup sites) env (slackScale (dedup sites) env) c.1 c.2
  one_cell_per_site : dedup (cells.map (·.1)) = cells.map (·.1)
  every_site_has_a_cell : ∀ s ∈ dedup sites, ∃ c ∈ cells, c.1 = s
  /-- areas add up to the envelope's, up to a displacement 1e-9·M of each cell vertex -/
  area : ((sumInt (cells.map (fun c => ((area2 c.2).natAbs : Int))) - env.area2).natAbs : Int) * 1000000000 ≤
     4 * (cells.length : Int) * ((env.maxx - env.minx) + (env.maxy - env.miny)) * slackScale (dedup sites) env

theorem voronoiOK_sound (sites : List Pt) (env : Box) (cells : List (Pt × List Pt))
    (h : voronoiOK sites env cells = true) : VoronoiCert sites env cells := by
  simp only [voronoiOK, Bool.and_eq_true, List.all_eq_true, decide_eq_true_eq, memB_iff] at h
  obtain ⟨⟨⟨h1, h2⟩, h3⟩, h4⟩ := h
  exact ⟨fun c hc => ⟨(h1 c hc).1, cellOK_sound _ _ _ _ _ (h1 c hc).2⟩, h2, fun s hs => List.mem_map.mp (h3 s hs), h4⟩

end GeosModel.Tri
