import Mathlib.Tactic.Linarith
import GeosModel.Model.Tri.Predicates
/-! Lemmas about the filtered in-circle test of `Model/Tri/Predicates.lean`: the error bound is non-negative, so a decided
answer has the sign of the exact determinant. -/
namespace GeosModel.Tri
open GeosModel.Kernel

theorem absR_nonneg (x : Rat) : 0 ≤ absR x := by unfold absR; split <;> linarith

theorem inCircleEps_pos : 0 < inCircleEps := by unfold inCircleEps; norm_num

/-- the error bound is never negative -/
theorem robustErr_nonneg (a b c d : Pt) : 0 ≤ robustErr a b c d := by
  unfold robustErr
  have := inCircleEps_pos
  have h (x : Rat) := absR_nonneg x
  simp only []
  apply mul_nonneg _ (le_of_lt this)
  apply add_nonneg <;> apply mul_nonneg <;> apply add_nonneg <;> apply h

/-- the three cases of the exact in-circle answer -/
theorem inCircleLoc_cases (a b c p : Pt) :
    (0 < inCircleDet a b c p ∧ inCircleLoc a b c p = .I) ∨ (inCircleDet a b c p = 0 ∧ inCircleLoc a b c p = .B) ∨
    (inCircleDet a b c p < 0 ∧ inCircleLoc a b c p = .E) := by
  unfold inCircleLoc
  rcases Int.lt_trichotomy 0 (inCircleDet a b c p) with h | h | h
  · exact .inl ⟨h, if_pos h⟩
  · exact .inr (.inl ⟨h.symm, by rw [← h]; rfl⟩)
  · exact .inr (.inr ⟨h, by rw [if_neg (by omega), if_neg (by omega)]⟩)

/-- the three cases of a filtered sign test -/
theorem filteredLoc_cases (v err : Rat) :
    (err < v ∧ filteredLoc v err = .I) ∨ (v ≤ err ∧ v < -err ∧ filteredLoc v err = .E) ∨
    (v ≤ err ∧ -err ≤ v ∧ filteredLoc v err = .B) := by
  unfold filteredLoc
  by_cases h1 : err < v
  · exact .inl ⟨h1, if_pos h1⟩
  · rw [if_neg h1]
    by_cases h2 : v < -err
    · exact .inr (.inl ⟨not_lt.1 h1, h2, if_pos h2⟩)
    · exact .inr (.inr ⟨not_lt.1 h1, not_lt.1 h2, if_neg h2⟩)

/-- with a non-negative bound a decided answer has the sign of the value -/
theorem filteredLoc_sound (v : Int) (err : Rat) (h : 0 ≤ err) :
    (filteredLoc v err = .I → 0 < v) ∧ (filteredLoc v err = .E → v < 0) := by
  rcases filteredLoc_cases v err with ⟨h1, e⟩ | ⟨-, h2, e⟩ | ⟨-, -, e⟩ <;> rw [e]
  · exact ⟨fun _ => Int.cast_pos.1 (h.trans_lt h1), nofun⟩
  · exact ⟨nofun, fun _ => Int.cast_lt_zero.1 (h2.trans_le (neg_nonpos.2 h))⟩
  · exact ⟨nofun, nofun⟩

end GeosModel.Tri
