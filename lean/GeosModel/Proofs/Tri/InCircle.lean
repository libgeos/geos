import Mathlib.Tactic.Ring
import GeosModel.Base.Kernel
/-! The in-circle determinant and the circumcircle: exact statement over `Int`.

For a non-degenerate triangle `(a,b,c)` with `D = det a b c`, the circumcentre is the rational point
`O = a + (ccX, ccY) / (2 D)`.  `circDist a b c p = (2D)² · |p − O|²` is the squared distance from `p` to `O`
cross-multiplied into `Int`. -/
namespace GeosModel.Tri
open GeosModel.Kernel

def ccX (a b c : Pt) : Int :=
  (c.y - a.y) * ((b.x - a.x) * (b.x - a.x) + (b.y - a.y) * (b.y - a.y)) -
  (b.y - a.y) * ((c.x - a.x) * (c.x - a.x) + (c.y - a.y) * (c.y - a.y))

def ccY (a b c : Pt) : Int :=
  (b.x - a.x) * ((c.x - a.x) * (c.x - a.x) + (c.y - a.y) * (c.y - a.y)) -
  (c.x - a.x) * ((b.x - a.x) * (b.x - a.x) + (b.y - a.y) * (b.y - a.y))

/-- `(2 det a b c)² · |p − O|²`, `O` the circumcentre of `(a,b,c)` -/
def circDist (a b c p : Pt) : Int :=
  (2 * det a b c * (p.x - a.x) - ccX a b c) * (2 * det a b c * (p.x - a.x) - ccX a b c) +
  (2 * det a b c * (p.y - a.y) - ccY a b c) * (2 * det a b c * (p.y - a.y) - ccY a b c)

/-- expanding the squares with `det`, `ccX`, `ccY` as atoms: what is left is linear in `p − a` apart from `D · |p − a|²` -/
theorem circDist_sub (a b c p : Pt) :
    circDist a b c a - circDist a b c p = 4 * det a b c * ((p.x - a.x) * ccX a b c + (p.y - a.y) * ccY a b c -
      det a b c * ((p.x - a.x) * (p.x - a.x) + (p.y - a.y) * (p.y - a.y))) := by
  simp only [circDist]; ring

/-- `p` is as far from `O` as `a` is when `p − a` has the same product with `O − a` as with itself -/
theorem circDist_eq_of {a b c p : Pt} (h : (p.x - a.x) * ccX a b c + (p.y - a.y) * ccY a b c =
    det a b c * ((p.x - a.x) * (p.x - a.x) + (p.y - a.y) * (p.y - a.y))) : circDist a b c p = circDist a b c a := by
  refine (sub_eq_zero.1 ?_).symm; rw [circDist_sub, h, sub_self, mul_zero]

/-- `O` is equidistant from the three corners: it is the circumcentre -/
theorem circDist_b (a b c : Pt) : circDist a b c b = circDist a b c a :=
  circDist_eq_of (by simp only [ccX, ccY, det]; ring)

theorem circDist_c (a b c : Pt) : circDist a b c c = circDist a b c a :=
  circDist_eq_of (by simp only [ccX, ccY, det]; ring)

/-- the lifted-paraboloid identity: (R² − |p−O|²)·(2D)² = 4 D · inCircleDet -/
theorem circ_identity (a b c p : Pt) :
    circDist a b c a - circDist a b c p = 4 * det a b c * inCircleDet a b c p := by
  rw [circDist_sub]; congr 1
  simp only [ccX, ccY, det, inCircleDet]; ring

end GeosModel.Tri
