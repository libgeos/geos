import GeosModel.Proofs.Tri.Winding
import GeosModel.Proofs.Tri.Sound
/-! A point strictly inside a positively oriented triangle lies on the side of any line where the three corners lie
(`strictlyIn_side`).  So separated triangles share no strictly interior point, and at most one triangle of a pairwise
separated list contains a given point. -/
namespace GeosModel.Tri
open GeosModel.Kernel

/-- a point strictly inside a counter-clockwise triangle -/
def StrictlyIn (t : Tri) (p : Pt) : Prop :=
  0 < Kernel.det t.a t.b p ∧ 0 < Kernel.det t.b t.c p ∧ 0 < Kernel.det t.c t.a p
/-- a point in the closed counter-clockwise triangle -/
def InClosed (t : Tri) (p : Pt) : Prop :=
  0 ≤ Kernel.det t.a t.b p ∧ 0 ≤ Kernel.det t.b t.c p ∧ 0 ≤ Kernel.det t.c t.a p

/-- a point strictly inside a positively oriented triangle is a strict convex combination of the corners
(`det a b p · det w = Σ λᵢ · det a b cornerᵢ` with `λᵢ > 0`), so it is on the closed side of the line `a b` on which all
three corners are -/
theorem strictlyIn_side {w : Tri} (hw : 0 < w.det) {p : Pt} (hp : StrictlyIn w p) (a b : Pt) :
    ((∀ q ∈ w.corners, 0 ≤ Kernel.det a b q) → 0 ≤ Kernel.det a b p) ∧
    ((∀ q ∈ w.corners, Kernel.det a b q ≤ 0) → Kernel.det a b p ≤ 0) := by
  have comb : Kernel.det a b p * w.det =
      Kernel.det w.b w.c p * Kernel.det a b w.a + Kernel.det w.c w.a p * Kernel.det a b w.b +
      Kernel.det w.a w.b p * Kernel.det a b w.c := by
    simp only [Kernel.det, Tri.det]; ring
  obtain ⟨w1, w2, w3⟩ := hp
  simp only [Tri.corners, List.forall_mem_cons]
  constructor <;> intro hc <;> by_contra hn
  · have := Int.mul_nonneg (Int.le_of_lt w2) hc.1
    have := Int.mul_nonneg (Int.le_of_lt w3) hc.2.1
    have := Int.mul_nonneg (Int.le_of_lt w1) hc.2.2.1
    have := Int.mul_neg_of_neg_of_pos (Int.not_le.1 hn) hw
    omega
  · have := Int.mul_nonpos_of_nonneg_of_nonpos (Int.le_of_lt w2) hc.1
    have := Int.mul_nonpos_of_nonneg_of_nonpos (Int.le_of_lt w3) hc.2.1
    have := Int.mul_nonpos_of_nonneg_of_nonpos (Int.le_of_lt w1) hc.2.2.1
    have := Int.mul_pos (Int.not_le.1 hn) hw
    omega

theorem separated_no_common_interior' (t u : Tri) (ht : 0 < t.det) (hu : 0 < u.det) (h : Separated t u) (p : Pt) :
    ¬ (StrictlyIn t p ∧ StrictlyIn u p) := by
  -- `p` is strictly left of every edge of the one triangle, and not left of the edge that has the other on its right
  have main : ∀ (v w : Tri), 0 < w.det → SepBy v w → StrictlyIn v p → StrictlyIn w p → False := by
    intro v w hw ⟨e, he, hall⟩ hv hwp
    have hpos : 0 < Kernel.det e.1 e.2 p := by
      simp only [Tri.edges, List.mem_cons, List.mem_nil_iff, or_false] at he
      rcases he with rfl | rfl | rfl
      exacts [hv.1, hv.2.1, hv.2.2]
    exact Int.not_le.2 hpos ((strictlyIn_side hw hwp e.1 e.2).2 hall)
  rintro ⟨hpt, hpu⟩
  rcases h with h | h
  · exact main t u hu h hpt hpu
  · exact main u t ht h hpu hpt

theorem count_le_one' (ts : List Tri) (hpos : ∀ t ∈ ts, 0 < t.det) (hsep : ts.Pairwise Separated) (p : Pt) :
    countIn ts p = 0 ∨ countIn ts p = 1 := by
  induction ts with
  | nil => left; rfl
  | cons t r ih =>
    rw [countIn_cons]
    by_cases hin : 0 < Kernel.det t.a t.b p ∧ 0 < Kernel.det t.b t.c p ∧ 0 < Kernel.det t.c t.a p
    · -- p strictly inside t: no later triangle contains it
      rw [if_pos hin, countIn_zero_of_none r p fun u hu hin' =>
        separated_no_common_interior' t u (hpos t List.mem_cons_self) (hpos u (List.mem_cons_of_mem _ hu))
          (List.rel_of_pairwise_cons hsep hu) p ⟨hin, hin'⟩]
      exact .inr rfl
    · rw [if_neg hin, Int.zero_add]
      exact ih (fun u hu => hpos u (List.mem_cons_of_mem _ hu)) (List.Pairwise.of_cons hsep)

end GeosModel.Tri
