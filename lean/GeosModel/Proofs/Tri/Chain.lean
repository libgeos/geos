import GeosModel.Model.Tri.Check
import GeosModel.Proofs.Kernel.Basic
/-! Chain lemmas for the edge-pairing certificate.

`chainEq T B = true` says the multiset `T ++ reverse(B)` of directed edges cancels completely into
opposite pairs.  Any *antisymmetric* edge functional `f` (`f (swap e) = - f e`) therefore has the same
sum over `T` and over `B` (`chainEq_sum`).  Splitting an edge at collinear interior points does not change
a functional that is a difference of potentials along the edge's line (`splitEdge_sum`), such as the shoelace
functional `cross` (`splitEdge_cross`).  Together: the doubled areas of the triangles add up
to the doubled area enclosed by the boundary (`chainEq_area`). -/
namespace GeosModel.Tri
open GeosModel.Kernel

/-! ### membership plumbing -/

theorem memB_iff (p : Pt) (l : List Pt) : memB p l = true ↔ p ∈ l := by
  simp [memB, List.any_eq_true]

theorem memE_iff (e : Edge) (l : List Edge) : memE e l = true ↔ e ∈ l := by
  simp [memE, List.any_eq_true]

theorem mem_insertBy (le : Pt → Pt → Bool) (p q : Pt) (l : List Pt) : q ∈ insertBy le p l ↔ q = p ∨ q ∈ l := by
  induction l with
  | nil => simp [insertBy]
  | cons a r ih =>
    unfold insertBy
    by_cases h : le p a = true
    · rw [if_pos h, List.mem_cons]
    · rw [if_neg h, List.mem_cons, ih, List.mem_cons, or_left_comm]

theorem mem_isortBy (le : Pt → Pt → Bool) (q : Pt) (l : List Pt) : q ∈ isortBy le l ↔ q ∈ l := by
  induction l with
  | nil => simp [isortBy]
  | cons a r ih => simp [isortBy, mem_insertBy, ih]

/-! ### sums -/

theorem sumInt_cons (x : Int) (l : List Int) : sumInt (x :: l) = x + sumInt l := rfl

theorem sumInt_append (a b : List Int) : sumInt (a ++ b) = sumInt a + sumInt b := by
  induction a with
  | nil => simp [sumInt]
  | cons x r ih => simp only [List.cons_append, sumInt_cons, ih]; ring

theorem sumInt_flatMap {α : Type} (g : α → List Int) (l : List α) :
    sumInt (l.flatMap g) = sumInt (l.map (fun x => sumInt (g x))) := by
  induction l with
  | nil => simp [sumInt]
  | cons x r ih => simp only [List.flatMap_cons, List.map_cons, sumInt_append, sumInt_cons, ih]

/-! ### cancellation preserves antisymmetric sums -/

theorem sum_eraseE (f : Edge → Int) (x : Edge) (l : List Edge) (h : x ∈ l) :
    sumInt ((eraseE x l).map f) = sumInt (l.map f) - f x := by
  induction l with
  | nil => cases h
  | cons a r ih =>
    simp only [eraseE]
    split
    · next hax => subst hax; simp only [List.map_cons, sumInt_cons]; ring
    · next hax =>
      simp only [List.map_cons, sumInt_cons, ih ((List.mem_cons.1 h).resolve_left (Ne.symm hax))]; ring

theorem length_eraseE (x : Edge) (l : List Edge) (h : x ∈ l) : (eraseE x l).length + 1 = l.length := by
  induction l with
  | nil => cases h
  | cons a r ih =>
    simp only [eraseE]
    split
    · simp
    · next hax => simp [ih ((List.mem_cons.1 h).resolve_left (Ne.symm hax))]

theorem sum_cancel (f : Edge → Int) (hf : ∀ e, f (swap e) = - f e) :
    ∀ (n : Nat) (l : List Edge), sumInt ((cancel n l).map f) = sumInt (l.map f)
  | 0, _ | _ + 1, [] => rfl
  | n + 1, e :: r => by
    simp only [cancel]
    split
    · next hm =>
      rw [sum_cancel f hf n, sum_eraseE f _ _ ((memE_iff _ _).mp hm), hf]; simp only [List.map_cons, sumInt_cons]; omega
    · simp only [List.map_cons, sumInt_cons, sum_cancel f hf n]

theorem sum_map_swap (f : Edge → Int) (hf : ∀ e, f (swap e) = - f e) (B : List Edge) :
    sumInt ((B.map swap).map f) = - sumInt (B.map f) := by
  induction B with
  | nil => simp [sumInt]
  | cons b r ih => simp only [List.map_cons, sumInt_cons, ih, hf]; ring

theorem chainEq_sum (f : Edge → Int) (hf : ∀ e, f (swap e) = - f e) (T B : List Edge)
    (h : chainEq T B = true) : sumInt (T.map f) = sumInt (B.map f) := by
  simp only [chainEq, List.isEmpty_iff] at h
  have h1 := sum_cancel f hf (T ++ B.map swap).length (T ++ B.map swap)
  rw [h] at h1
  simp only [List.map_nil, List.map_append, sumInt_append, sum_map_swap f hf] at h1
  have : sumInt ([] : List Int) = 0 := rfl
  omega

/-! ### the shoelace functional -/

theorem det_eq_cross (a b c : Pt) : Kernel.det a b c = cross (a, b) + cross (b, c) + cross (c, a) := by
  simp only [Kernel.det, cross]; ring

theorem collinear_of_line (a b u v : Pt) (hab : a ≠ b) (hu : Kernel.det a b u = 0) (hv : Kernel.det a b v = 0) :
    Kernel.det a u v = 0 := by
  -- the Plücker relation of `a, u, v, b`, in x and in y: `det a u v · (b − a) = 0`
  have hx := det_plucker_x a u v b
  have hy := det_plucker_y a u v b
  rw [det_swap23 a b v, hu, hv, Int.neg_zero, Int.zero_mul, Int.zero_mul, Int.add_zero, Int.add_zero] at hx hy
  by_contra hD
  have ex := (Int.mul_eq_zero.1 hx).resolve_left hD
  have ey := (Int.mul_eq_zero.1 hy).resolve_left hD
  exact hab ((Pt.ext_iff' a b).2 ⟨by omega, by omega⟩)

theorem cross_of_collinear (a u v : Pt) (h : Kernel.det a u v = 0) : cross (u, v) = cross (a, v) - cross (a, u) := by
  have := det_eq_cross a u v
  have h2 : cross (v, a) = - cross (a, v) := edgeTerm_swap (a, v)
  omega

/-! ### splitting an edge at collinear points

An edge functional that, between points of the edge's line, is a difference of potentials telescopes along the split edge. -/

theorem path_sum (f : Edge → Int) (g : Pt → Int) (P : Pt → Prop) (hf : ∀ u v, P u → P v → f (u, v) = g v - g u)
    (b : Pt) (hb : P b) : ∀ (l : List Pt) (u : Pt), P u → (∀ q ∈ l, P q) →
      sumInt ((Kernel.edges (u :: (l ++ [b]))).map f) = g b - g u
  | [], u, hu, _ => by
    simp only [List.nil_append, Kernel.edges, List.map_cons, List.map_nil, sumInt_cons, hf u b hu hb]
    exact Int.add_zero _
  | v :: r, u, hu, hl => by
    have hv : P v := hl v List.mem_cons_self
    simp only [List.cons_append, Kernel.edges, List.map_cons, sumInt_cons, hf u v hu hv,
      path_sum f g P hf b hb r v hv fun q hq => hl q (List.mem_cons_of_mem _ hq)]
    omega

theorem splitEdge_sum (f : Edge → Int) (g : Pt → Int) (V : List Pt) (e : Edge)
    (hf : e.1 ≠ e.2 → ∀ u v, Kernel.det e.1 e.2 u = 0 → Kernel.det e.1 e.2 v = 0 → f (u, v) = g v - g u) :
    sumInt ((splitEdge V e).map f) = f e := by
  unfold splitEdge
  by_cases hne : e.1 = e.2
  · rw [if_pos hne]; exact Int.add_zero _
  · have haa := det_self13 e.1 e.2
    have hbb := det_self23 e.1 e.2
    rw [if_neg hne, path_sum f g _ (hf hne) e.2 hbb _ e.1 haa, ← hf hne _ _ haa hbb]
    intro q hq
    rw [mem_isortBy] at hq
    have := (List.mem_filter.mp hq).2
    simp only [strictlyInside, Bool.and_eq_true] at this
    exact ((onSegment_iff _ _ _).1 this.1.1).1

theorem elemEdges_sum (f : Edge → Int) (V : List Pt) (es : List Edge)
    (h : ∀ e ∈ es, sumInt ((splitEdge (dedup V) e).map f) = f e) :
    sumInt ((elemEdges V es).map f) = sumInt (es.map f) := by
  rw [elemEdges, List.map_flatMap, sumInt_flatMap]
  exact congrArg sumInt (List.map_congr_left h)

theorem splitEdge_cross (V : List Pt) (e : Edge) : sumInt ((splitEdge V e).map cross) = cross e :=
  splitEdge_sum cross (fun x => cross (e.1, x)) V e fun hne u v hu hv =>
    cross_of_collinear e.1 u v (collinear_of_line e.1 e.2 u v hne hu hv)

theorem elemEdges_cross (V : List Pt) (es : List Edge) :
    sumInt ((elemEdges V es).map cross) = sumInt (es.map cross) :=
  elemEdges_sum cross V es fun e _ => splitEdge_cross _ e

theorem triEdges_cross (ts : List Tri) : sumInt ((triEdges ts).map cross) = sumInt (ts.map Tri.det) := by
  rw [triEdges, List.map_flatMap, sumInt_flatMap]
  refine congrArg sumInt (List.map_congr_left fun t _ => ?_)
  show cross (t.a, t.b) + (cross (t.b, t.c) + (cross (t.c, t.a) + 0)) = _
  rw [Tri.det, det_eq_cross]; omega

/-- **edge pairing ⇒ area**: if the elementary boundary chain of the triangles equals the elementary
chain of `B`, the doubled triangle areas add up to the shoelace sum of `B` -/
theorem chainEq_area (V : List Pt) (ts : List Tri) (B : List Edge)
    (h : chainEq (elemEdges V (triEdges ts)) (elemEdges V B) = true) :
    sumInt (ts.map Tri.det) = sumInt (B.map cross) := by
  have := chainEq_sum cross edgeTerm_swap _ _ h
  rw [elemEdges_cross, elemEdges_cross, triEdges_cross] at this
  exact this

end GeosModel.Tri
