import GeosModel.Proofs.Tri.Winding
import GeosModel.Proofs.Tri.Sound
import GeosModel.Proofs.Tri.Separated
/-! The winding number of a certified hull boundary.

For a hull `H` accepted by `hullOK` (strictly convex, counter-clockwise, fan from the first vertex positively
oriented and pairwise separated) and a point `p` in general position (on no hull-edge line and no fan-diagonal
line): the signed crossing number of the hull boundary about `p` is `1` when `p` is strictly inside (left of every
hull edge) and `0` when `p` is strictly outside (right of some hull edge).

Route: the boundary's crossing number equals the crossing number summed over the fan triangles (diagonals cancel,
`fan_wind`), which is the number of fan triangles containing `p` (`wind_tri`).  Inside: a discrete intermediate
value argument over the signs of `det h0 h_i p` finds a fan triangle containing `p`; separation gives at most one.
Outside: every fan triangle lies in the hull. -/
namespace GeosModel.Tri
open GeosModel.Kernel

theorem fanFrom_cons2 (h0 a b : Pt) (r : List Pt) : fanFrom h0 (a :: b :: r) = ⟨h0, a, b⟩ :: fanFrom h0 (b :: r) := rfl

/-- diagonals cancel: the crossing number over all fan-triangle edges is that of the closed loop -/
theorem fanFrom_wind (h0 p : Pt) : ∀ (rest : List Pt) (a : Pt),
    sumInt ((triEdges (fanFrom h0 (a :: rest))).map (wind p)) =
      wind p (h0, a) + sumInt ((Kernel.edges (a :: (rest ++ [h0]))).map (wind p))
  | [], a => by
    have := wind_swap p (h0, a)
    show (0 : Int) = _ + (wind p (a, h0) + 0)
    simp only [swap] at this; omega
  | b :: r, a => by
    have hsw := wind_swap p (h0, b)
    have ih := fanFrom_wind h0 p r b
    simp only [swap, triEdges] at hsw ih
    simp only [fanFrom_cons2, triEdges, List.flatMap_cons, List.map_append, sumInt_append, ih, Tri.edges, List.map_cons,
      List.map_nil, sumInt_cons, List.cons_append, Kernel.edges]
    have z : sumInt ([] : List Int) = 0 := rfl
    omega

theorem fan_wind (h0 a : Pt) (rest : List Pt) (p : Pt) :
    sumInt ((triEdges (fan (h0 :: a :: rest))).map (wind p)) = sumInt ((loopEdges (h0 :: a :: rest)).map (wind p)) :=
  fanFrom_wind h0 p rest a

/-- discrete intermediate value: walking along the hull from `a`, with `p` left of `(h0,a)`, of every hull edge on
the way and of the closing edge `(last,h0)`, some fan triangle contains `p` -/
theorem fanFrom_hits (h0 p : Pt) : ∀ (rest : List Pt) (a : Pt),
    0 < Kernel.det h0 a p →
    (∀ e ∈ Kernel.edges (a :: (rest ++ [h0])), 0 < Kernel.det e.1 e.2 p) →
    (∀ x ∈ rest, Kernel.det h0 x p ≠ 0) →
    ∃ t ∈ fanFrom h0 (a :: rest), 0 < Kernel.det t.a t.b p ∧ 0 < Kernel.det t.b t.c p ∧ 0 < Kernel.det t.c t.a p
  | [], a, ha, he, _ => by
    have : 0 < Kernel.det a h0 p := he (a, h0) List.mem_cons_self
    have := det_swap12 h0 a p
    omega
  | b :: r, a, ha, he, hg => by
    by_cases hpos : 0 < Kernel.det h0 b p
    · obtain ⟨t, ht, hin⟩ := fanFrom_hits h0 p r b hpos (fun e hm => he e (List.mem_cons_of_mem _ hm))
        fun x hx => hg x (List.mem_cons_of_mem _ hx)
      exact ⟨t, List.mem_cons_of_mem _ ht, hin⟩
    · refine ⟨⟨h0, a, b⟩, List.mem_cons_self, ha, he (a, b) List.mem_cons_self, ?_⟩
      have := det_swap12 h0 b p
      have := hg b List.mem_cons_self
      show 0 < Kernel.det b h0 p
      omega

theorem fanFrom_corners (h0 : Pt) : ∀ (l : List Pt) (t : Tri), t ∈ fanFrom h0 l → ∀ q ∈ t.corners, q = h0 ∨ q ∈ l
  | [], _, ht, _, _ | [_], _, ht, _, _ => nomatch ht
  | a :: b :: r, t, ht, q, hq => by
    rcases List.mem_cons.1 ht with rfl | ht
    · simp only [Tri.corners, List.mem_cons, List.mem_nil_iff, or_false] at hq
      rcases hq with rfl | rfl | rfl <;> simp
    · exact (fanFrom_corners h0 (b :: r) t ht q hq).imp_right (List.mem_cons_of_mem _)

/-- every vertex after the first is joined to `h0` by an edge of a fan triangle -/
theorem fanFrom_spoke (h0 x : Pt) (post : List Pt) :
    ∀ (pre : List Pt) (a : Pt), ∃ t ∈ fanFrom h0 (a :: (pre ++ x :: post)), (x, h0) ∈ t.edges
  | [], a => ⟨⟨h0, a, x⟩, List.mem_cons_self, by simp [Tri.edges]⟩
  | b :: r, a => let ⟨t, ht, hm⟩ := fanFrom_spoke h0 x post r b; ⟨t, List.mem_cons_of_mem _ ht, hm⟩

/-- **the certified hull boundary winds once around strictly interior points and not at all around strictly
exterior ones** (points on no hull-edge line and no fan-triangle-edge line) -/
theorem hull_winding (sites H : List Pt) (hc : HullCert sites H) (h3 : 3 ≤ H.length) (p : Pt)
    (hpF : ∀ e ∈ triEdges (fan H), OffLine p e) :
    ((∀ e ∈ loopEdges H, 0 < Kernel.det e.1 e.2 p) → sumInt ((loopEdges H).map (wind p)) = 1) ∧
    ((∃ e ∈ loopEdges H, Kernel.det e.1 e.2 p < 0) → sumInt ((loopEdges H).map (wind p)) = 0) := by
  match H, h3, hc, hpF with
  | h0 :: a :: rest, h3, hc, hpF =>
    rw [← fan_wind, triEdges_wind _ p (hc.fan_positive h3) hpF]
    refine ⟨fun hin => ?_, fun ⟨e0, he0, hneg⟩ => countIn_zero_of_none _ p fun t ht hin => ?_⟩
    · have hg : ∀ x ∈ rest, Kernel.det h0 x p ≠ 0 := fun x hx => by
        obtain ⟨pre, post, rfl⟩ := List.append_of_mem hx
        obtain ⟨t, ht, hm⟩ := fanFrom_spoke h0 x post pre a
        have := hpF (x, h0) (List.mem_flatMap.mpr ⟨t, ht, hm⟩)
        rwa [OffLine, det_swap12, Int.neg_ne_zero] at this
      obtain ⟨t, ht, hin'⟩ := fanFrom_hits h0 p rest a (hin (h0, a) List.mem_cons_self)
        (fun e he => hin e (List.mem_cons_of_mem _ he)) hg
      have := countIn_pos_of_mem (fan (h0 :: a :: rest)) p t ht hin'
      have := count_le_one' (fan (h0 :: a :: rest)) (hc.fan_positive h3) (hc.fan_separated h3) p
      omega
    · refine Int.not_le.2 hneg ((strictlyIn_side (hc.fan_positive h3 t ht) hin e0.1 e0.2).1 fun q hq => ?_)
      have hqH : q ∈ h0 :: a :: rest := by
        rcases fanFrom_corners h0 (a :: rest) t ht q hq with rfl | h
        · exact List.mem_cons_self
        · exact List.mem_cons_of_mem _ h
      rcases hc.convex h3 e0 he0 q hqH with h | h | h
      · rw [h, det_self13]
      · rw [h, det_self23]
      · omega

end GeosModel.Tri
