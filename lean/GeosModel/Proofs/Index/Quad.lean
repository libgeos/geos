import GeosModel.Model.Index.Quad
/-! Lemmas about the quadtree model (Model/Index/Quad.lean): pruning, removal, queries. -/
namespace GeosModel.Quad
variable {ι : Type}

/-- without a non-null subnode there is no item below and no query finds one -/
theorem hasChildrenL_false (subs : List (QT ι)) (h : hasChildrenL subs = false) :
    allItemsL subs = [] ∧ ∀ q, queryL q subs = [] := by
  induction subs with
  | nil => exact ⟨by rw [allItemsL], fun _ => by rw [queryL]⟩
  | cons k ks ih =>
    cases k with
    | nil =>
      have := ih h
      exact ⟨by rw [allItemsL, QT.allItems, this.1]; rfl, fun q => by rw [queryL, QT.query, this.2 q]; rfl⟩
    | node e s it sb => cases h

/-- what `isPrunable()` lets `remove` delete holds no item -/
theorem prunable_allItems (t : QT ι) (h : t.isPrunable = true) : t.allItems = [] ∧ ∀ q, t.query q = [] := by
  cases t with
  | nil => exact ⟨by rw [QT.allItems], fun _ => by rw [QT.query]⟩
  | node e s items subs =>
    simp only [QT.isPrunable, QT.hasChildren, QT.hasItems, Bool.not_eq_true', Bool.or_eq_false_iff,
      Bool.not_eq_false'] at h
    have h2 : items = [] := by simpa using h.2
    have := hasChildrenL_false subs h.1
    exact ⟨by rw [QT.allItems, h2, this.1]; rfl, fun q => by rw [QT.query, h2, this.2 q]; split <;> rfl⟩

mutual
  theorem query_sublist (q : Env) : ∀ t : QT ι, (t.query q).Sublist t.allItems
    | .nil => by simp [QT.query, QT.allItems]
    | .node env _ items subs => by
      simp only [QT.query, QT.allItems]
      split
      · exact List.Sublist.append (List.Sublist.refl _) (queryL_sublist q subs)
      · exact List.nil_sublist _
  theorem queryL_sublist (q : Env) : ∀ ks : List (QT ι), (queryL q ks).Sublist (allItemsL ks)
    | [] => by simp [queryL, allItemsL]
    | k :: ks => by
      simp only [queryL, allItemsL]
      exact List.Sublist.append (query_sublist q k) (queryL_sublist q ks)
end

mutual
  theorem size_eq : ∀ t : QT ι, t.size = t.allItems.length
    | .nil => by simp [QT.size, QT.allItems]
    | .node _ _ items subs => by
      simp only [QT.size, QT.allItems, List.length_append, sizeL_eq subs]; omega
  theorem sizeL_eq : ∀ ks : List (QT ι), sizeL ks = (allItemsL ks).length
    | [] => by simp [sizeL, allItemsL]
    | k :: ks => by simp only [sizeL, allItemsL, List.length_append, size_eq k, sizeL_eq ks]
end

theorem perm_erase_of [DecidableEq ι] {i : ι} {l m : List ι} (h : (i :: l).Perm m) : l.Perm (m.erase i) := by
  have hi : i ∈ m := h.subset (List.mem_cons_self ..)
  exact (h.trans (List.perm_cons_erase hi)).cons_inv

/-- the statement about one removal: a failed removal changes nothing; a successful one takes exactly one occurrence
of the item out of the stored items -/
def RemoveOK [DecidableEq ι] (i : ι) (before after : List ι) (ok : Bool) : Prop :=
  (ok = false → after = before) ∧ (ok = true → (i :: after).Perm before)

mutual
  theorem remove_spec [DecidableEq ι] (q : Env) (i : ι) :
      ∀ t : QT ι, ((t.remove q i).2 = false → (t.remove q i).1 = t) ∧
        ((t.remove q i).2 = true → (i :: (t.remove q i).1.allItems).Perm t.allItems)
    | .nil => by simp [QT.remove]
    | .node env sz items subs => by
      have ih := removeL_spec q i subs
      simp only [QT.remove]
      by_cases hm : searchMatch env q = true
      · simp only [hm, if_true]
        by_cases hr : (removeL q i subs).2 = true
        · simp only [hr, if_true, QT.allItems]
          refine ⟨nofun, fun _ => ?_⟩
          exact List.perm_middle.symm.trans ((ih.2 hr).append_left items)
        · have hr' : (removeL q i subs).2 = false := Bool.eq_false_iff.mpr hr
          simp only [hr', Bool.false_eq_true, if_false]
          by_cases hi : i ∈ items
          · have hc : items.contains i = true := List.contains_iff_mem.mpr hi
            simp only [hc, if_true, QT.allItems]
            refine ⟨nofun, fun _ => ?_⟩
            exact ((List.perm_cons_erase hi).symm.append_right (allItemsL subs))
          · have hc : items.contains i = false := Bool.eq_false_iff.mpr (mt List.contains_iff_mem.mp hi)
            simp only [hc, Bool.false_eq_true, if_false]
            exact ⟨fun _ => trivial, nofun⟩
      · simp [hm]
  theorem removeL_spec [DecidableEq ι] (q : Env) (i : ι) :
      ∀ ks : List (QT ι), ((removeL q i ks).2 = false → (removeL q i ks).1 = ks) ∧
        ((removeL q i ks).2 = true → (i :: allItemsL (removeL q i ks).1).Perm (allItemsL ks))
    | [] => by simp [removeL]
    | k :: ks => by
      have ihk := remove_spec q i k
      have ihs := removeL_spec q i ks
      simp only [removeL]
      by_cases hr : (k.remove q i).2 = true
      · simp only [hr, if_true]
        refine ⟨nofun, fun _ => ?_⟩
        have hall : allItemsL ((if (k.remove q i).1.isPrunable = true then QT.nil else (k.remove q i).1) :: ks)
            = (k.remove q i).1.allItems ++ allItemsL ks := by
          by_cases hp : (k.remove q i).1.isPrunable = true
          · simp [hp, allItemsL, QT.allItems, (prunable_allItems _ hp).1]
          · simp [hp, allItemsL]
        rw [hall]
        simp only [allItemsL]
        exact (ihk.2 hr).append_right (allItemsL ks)
      · have hr' : (k.remove q i).2 = false := Bool.eq_false_iff.mpr hr
        simp only [hr', Bool.false_eq_true, if_false]
        refine ⟨fun h => by rw [ihs.1 h], fun h => ?_⟩
        simp only [allItemsL]
        exact List.perm_middle.symm.trans ((ihs.2 h).append_left k.allItems)
end

mutual
  theorem remove_query_count [DecidableEq ι] (q : Env) (i : ι) (q' : Env) (j : ι) (hj : j ≠ i) :
      ∀ t : QT ι, ((t.remove q i).1.query q').count j = (t.query q').count j
    | .nil => by simp [QT.remove]
    | .node env sz items subs => by
      have ih := removeL_query_count q i q' j hj subs
      simp only [QT.remove]
      by_cases hm : searchMatch env q = true
      · simp only [hm, if_true]
        by_cases hr : (removeL q i subs).2 = true
        · simp only [hr, if_true, QT.query]
          split
          · simp only [List.count_append, ih]
          · rfl
        · have hr' : (removeL q i subs).2 = false := Bool.eq_false_iff.mpr hr
          simp only [hr', Bool.false_eq_true, if_false]
          by_cases hi : i ∈ items
          · have hc : items.contains i = true := List.contains_iff_mem.mpr hi
            simp only [hc, if_true, QT.query]
            split
            · simp only [List.count_append, List.count_erase_of_ne hj]
            · rfl
          · have hc : items.contains i = false := Bool.eq_false_iff.mpr (mt List.contains_iff_mem.mp hi)
            simp only [hc, Bool.false_eq_true, if_false]
      · simp [hm]
  theorem removeL_query_count [DecidableEq ι] (q : Env) (i : ι) (q' : Env) (j : ι) (hj : j ≠ i) :
      ∀ ks : List (QT ι), (queryL q' (removeL q i ks).1).count j = (queryL q' ks).count j
    | [] => by simp [removeL]
    | k :: ks => by
      have ihk := remove_query_count q i q' j hj k
      have ihs := removeL_query_count q i q' j hj ks
      simp only [removeL]
      by_cases hr : (k.remove q i).2 = true
      · simp only [hr, if_true, queryL, List.count_append]
        by_cases hp : (k.remove q i).1.isPrunable = true
        · simp only [hp, if_true, QT.query, List.count_nil]
          rw [← ihk, (prunable_allItems _ hp).2 q']; simp
        · simp [hp, ihk]
      · have hr' : (k.remove q i).2 = false := Bool.eq_false_iff.mpr hr
        simp only [hr', Bool.false_eq_true, if_false, queryL, List.count_append, ihs]
end

mutual
  theorem remove_finds [DecidableEq ι] (q : Env) (i : ι) :
      ∀ t : QT ι, i ∈ t.query q → (t.remove q i).2 = true
    | .nil => by simp [QT.query]
    | .node env sz items subs => by
      have ih := removeL_finds q i subs
      intro h
      simp only [QT.query] at h
      by_cases hm : searchMatch env q = true
      · simp only [hm, if_true, List.mem_append] at h
        simp only [QT.remove, hm, if_true]
        by_cases hr : (removeL q i subs).2 = true
        · simp [hr]
        · have hr' : (removeL q i subs).2 = false := Bool.eq_false_iff.mpr hr
          have hi : i ∈ items := by
            rcases h with h | h
            · exact h
            · exact absurd (ih h) hr
          have hc : items.contains i = true := List.contains_iff_mem.mpr hi
          simp only [hr', Bool.false_eq_true, if_false, hc, if_true]
      · simp [hm] at h
  theorem removeL_finds [DecidableEq ι] (q : Env) (i : ι) :
      ∀ ks : List (QT ι), i ∈ queryL q ks → (removeL q i ks).2 = true
    | [] => by simp [queryL]
    | k :: ks => by
      have ihk := remove_finds q i k
      have ihs := removeL_finds q i ks
      intro h
      simp only [queryL, List.mem_append] at h
      simp only [removeL]
      by_cases hr : (k.remove q i).2 = true
      · simp [hr]
      · have hr' : (k.remove q i).2 = false := Bool.eq_false_iff.mpr hr
        simp only [hr', Bool.false_eq_true, if_false]
        rcases h with h | h
        · exact absurd (ihk h) hr
        · exact ihs h
end

/-- what an index returned by `getSubnodeIndex` says about the envelope (closed half-planes through the centre) -/
def InQuadrant (e : Box) (cx cy : Int) : Nat → Prop
  | 0 => e.maxx ≤ cx ∧ e.maxy ≤ cy
  | 1 => e.minx ≥ cx ∧ e.maxy ≤ cy
  | 2 => e.maxx ≤ cx ∧ e.miny ≥ cy
  | 3 => e.minx ≥ cx ∧ e.miny ≥ cy
  | _ => False

end GeosModel.Quad
