import GeosModel.Proofs.Index.STRQuery
/-! `build()`: the built tree holds every inserted entry exactly once, its branch bounds cover their
descendants, and the loop ends with a single root (capacity ≥ 2). -/
namespace GeosModel.STR
variable {β ι : Type}

/-- what the theorems need from the bounds type: a union intersects whatever either part intersects -/
structure OpsLaw (ops : Ops β) : Prop where
  left : ∀ a b q, ops.inter a q = true → ops.inter (ops.union a b) q = true
  right : ∀ a b q, ops.inter b q = true → ops.inter (ops.union a b) q = true

/-! #### list plumbing -/

theorem leavesL_eq_flatMap (ks : List (Node β ι)) : leavesL ks = ks.flatMap Node.leaves := by
  induction ks with
  | nil => simp [leavesL]
  | cons k ks ih => simp [leavesL, ih]

theorem leavesL_perm {a b : List (Node β ι)} (h : a.Perm b) : (leavesL a).Perm (leavesL b) := by
  rw [leavesL_eq_flatMap, leavesL_eq_flatMap]; exact h.flatMap_right _

theorem leavesL_flatMap {γ : Type} (f : γ → List (Node β ι)) (l : List γ) :
    leavesL (l.flatMap f) = l.flatMap (fun x => leavesL (f x)) := by
  induction l with
  | nil => simp [leavesL]
  | cons x xs ih => simp [leavesL_append, ih]

theorem leavesL_flatten (L : List (List (Node β ι))) : leavesL L.flatten = L.flatMap leavesL := by
  induction L with
  | nil => simp [leavesL]
  | cons x xs ih => simp [leavesL_append, ih]

theorem perm_flatMap_left {α γ : Type} (f g : α → List γ) :
    ∀ (l : List α), (∀ a ∈ l, (f a).Perm (g a)) → (l.flatMap f).Perm (l.flatMap g)
  | [], _ => by simp
  | a :: t, h => by
    simp only [List.flatMap_cons]
    exact (h a (by simp)).append (perm_flatMap_left f g t (fun x hx => h x (by simp [hx])))

theorem takeSlices_flatten {α : Type} (per : Nat) :
    ∀ (s : Nat) (l : List α), (takeSlices per s l).flatten = l.take (per * s)
  | 0, l => by simp [takeSlices]
  | s + 1, l => by
    simp only [takeSlices, List.flatten_cons, takeSlices_flatten per s, Nat.mul_succ]
    rw [Nat.add_comm, List.take_add]

theorem chunksF_flatten {α : Type} (cap : Nat) (hc : 0 < cap) :
    ∀ (f : Nat) (l : List α), l.length ≤ f → (chunksF cap f l).flatten = l
  | 0, l, h => by rw [List.length_eq_zero_iff.mp (Nat.le_zero.mp h)]; rfl
  | _ + 1, [], _ => rfl
  | f + 1, a :: t, h => by
    rw [chunksF, List.isEmpty_cons, if_neg Bool.false_ne_true, List.flatten_cons, chunksF_flatten cap hc f, List.take_append_drop]
    rw [List.length_drop]
    exact Nat.le_trans (Nat.sub_le_sub_left hc _) (Nat.sub_le_of_le_add h)

theorem chunksF_ne_nil {α : Type} (cap : Nat) (hc : 0 < cap) :
    ∀ (f : Nat) (l : List α), ∀ c ∈ chunksF cap f l, c ≠ []
  | 0, _, c, h => by simp [chunksF] at h
  | f + 1, l, c, h => by
    simp only [chunksF] at h
    cases l with
    | nil => simp at h
    | cons a t =>
      simp only [List.isEmpty_cons, Bool.false_eq_true, if_false, List.mem_cons] at h
      rcases h with rfl | h
      · cases cap with
        | zero => omega
        | succ n => simp
      · exact chunksF_ne_nil cap hc f _ c h

theorem mem_of_mem_chunksF {α : Type} (cap : Nat) :
    ∀ (f : Nat) (l c : List α), c ∈ chunksF cap f l → ∀ x ∈ c, x ∈ l
  | 0, _, _, h => by simp [chunksF] at h
  | f + 1, l, c, h => by
    simp only [chunksF] at h
    split at h
    · simp at h
    · simp only [List.mem_cons] at h
      intro x hx
      rcases h with rfl | h
      · exact List.mem_of_mem_take hx
      · exact List.mem_of_mem_drop (mem_of_mem_chunksF cap f _ c h x hx)

theorem chunksF_length_le {α : Type} (cap : Nat) (hc : 0 < cap) :
    ∀ (f : Nat) (l : List α), (chunksF cap f l).length ≤ l.length
  | 0, _ => Nat.zero_le _
  | _ + 1, [] => Nat.le_refl 0
  | f + 1, a :: t => by
    rw [chunksF, List.isEmpty_cons, if_neg Bool.false_ne_true, List.length_cons]
    have := chunksF_length_le cap hc f ((a :: t).drop cap)
    rw [List.length_drop] at this
    exact Nat.succ_le_of_lt (Nat.lt_of_le_of_lt this (Nat.sub_lt (Nat.succ_pos _) hc))

theorem chunksF_length_lt {α : Type} (cap : Nat) (hc : 2 ≤ cap) (f : Nat) (l : List α) (hl : 2 ≤ l.length) :
    (chunksF cap f l).length < l.length := by
  cases f with
  | zero => simp [chunksF]; omega
  | succ f =>
    simp only [chunksF]
    cases l with
    | nil => simp at hl
    | cons a t =>
      simp only [List.isEmpty_cons, Bool.false_eq_true, if_false, List.length_cons]
      have := chunksF_length_le cap (by omega) f ((a :: t).drop cap)
      simp only [List.length_drop, List.length_cons] at this hl
      omega

theorem chunksF_ne_nil_of {α : Type} (cap : Nat) (l : List α) (hl : l ≠ []) : chunks cap l ≠ [] := by
  unfold chunks
  cases l with
  | nil => exact absurd rfl hl
  | cons a t => simp [chunksF]

/-! #### branch creation -/

theorem mkBranch_of_ne_nil (ops : Ops β) (c : List (Node β ι)) (h : c ≠ []) :
    ∃ b, mkBranch ops c = [.branch b c] ∧ boundsOf ops c = some b := by
  cases c with
  | nil => exact absurd rfl h
  | cons k ks => exact ⟨ks.foldl (fun acc c => ops.union acc c.bounds) k.bounds, by simp [mkBranch, boundsOf], rfl⟩

theorem leavesL_mkBranch (ops : Ops β) (c : List (Node β ι)) (h : c ≠ []) :
    leavesL (mkBranch ops c) = leavesL c := by
  obtain ⟨b, hb, _⟩ := mkBranch_of_ne_nil ops c h
  simp [hb, leavesL, Node.leaves]

theorem mkBranch_length_le (ops : Ops β) (c : List (Node β ι)) : (mkBranch ops c).length ≤ 1 := by
  unfold mkBranch; split <;> simp

theorem flatMap_mkBranch_length_le (ops : Ops β) (L : List (List (Node β ι))) :
    (L.flatMap (mkBranch ops)).length ≤ L.length := by
  induction L with
  | nil => simp
  | cons c cs ih =>
    simp only [List.flatMap_cons, List.length_append, List.length_cons]
    have := mkBranch_length_le ops c
    omega

/-! #### arithmetic of `sliceCount` / `sliceCapacity` -/

theorem le_ceilDiv_mul (n s : Nat) (hs : 0 < s) : n ≤ ceilDiv n s * s := by
  unfold ceilDiv
  have h1 := Nat.div_add_mod (n + s - 1) s
  have h2 := Nat.mod_lt (n + s - 1) hs
  rw [Nat.mul_comm] at h1
  omega

theorem ceilDiv_pos (n s : Nat) (hn : 0 < n) (hs : 0 < s) : 0 < ceilDiv n s := by
  unfold ceilDiv
  exact Nat.div_pos (by omega) hs

theorem ceilSqrtAux_le (n : Nat) : ∀ (f r : Nat), ceilSqrtAux n f r ≤ r + f
  | 0, r => Nat.le_refl r
  | f + 1, r => by
    rw [ceilSqrtAux]
    by_cases h : n ≤ r * r
    · rw [if_pos h]; exact Nat.le_add_right ..
    · rw [if_neg h]; exact le_of_le_of_eq (ceilSqrtAux_le n f (r + 1)) (Nat.add_right_comm r 1 f)

theorem ceilSqrtAux_ge (n : Nat) : ∀ (f r : Nat), r ≤ ceilSqrtAux n f r
  | 0, r => Nat.le_refl r
  | f + 1, r => by
    rw [ceilSqrtAux]
    by_cases h : n ≤ r * r
    · rw [if_pos h]; exact Nat.le_refl r
    · rw [if_neg h]; exact Nat.le_trans (Nat.le_succ r) (ceilSqrtAux_ge n f (r + 1))

theorem ceilSqrt_le (m : Nat) : ceilSqrt m ≤ m :=
  le_of_le_of_eq (ceilSqrtAux_le m m 0) (Nat.zero_add m)

/-- `ceilSqrt` really is the ceiling of the square root -/
theorem ceilSqrtAux_spec (n : Nat) : ∀ (f r : Nat), (∀ r' < r, r' * r' < n) → n ≤ (r + f) * (r + f) →
    n ≤ ceilSqrtAux n f r * ceilSqrtAux n f r ∧ ∀ r' < ceilSqrtAux n f r, r' * r' < n
  | 0, r, hlt, hle => ⟨hle, hlt⟩
  | f + 1, r, hlt, hle => by
    rw [ceilSqrtAux]
    by_cases h : n ≤ r * r
    · rw [if_pos h]; exact ⟨h, hlt⟩
    · rw [if_neg h]
      refine ceilSqrtAux_spec n f (r + 1) (fun r' hr' => ?_) (by rw [Nat.add_right_comm]; exact hle)
      rcases Nat.lt_or_eq_of_le (Nat.le_of_lt_succ hr') with h' | rfl
      · exact hlt r' h'
      · exact Nat.lt_of_not_le h

theorem ceilSqrt_spec (n : Nat) : n ≤ ceilSqrt n * ceilSqrt n ∧ ∀ r < ceilSqrt n, r * r < n :=
  ceilSqrtAux_spec n n 0 (fun _ h => absurd h (Nat.not_lt_zero _)) (by rw [Nat.zero_add]; exact Nat.le_mul_self n)

theorem sliceCount_pos (cap n : Nat) (hc : 0 < cap) (hn : 0 < n) : 0 < sliceCount cap n := by
  unfold sliceCount
  cases h : ceilDiv n cap with
  | zero => exact absurd (ceilDiv_pos n cap hn hc) (by rw [h]; exact Nat.lt_irrefl 0)
  | succ k => exact Nat.lt_of_lt_of_le Nat.zero_lt_one (ceilSqrtAux_ge (k + 1) k 1)

theorem sliceCount_lt (cap n : Nat) (hc : 2 ≤ cap) (hn : 2 ≤ n) : sliceCount cap n < n := by
  unfold sliceCount
  have h2 : ceilDiv n cap < n := by
    unfold ceilDiv
    rw [Nat.div_lt_iff_lt_mul (Nat.lt_of_lt_of_le Nat.zero_lt_two hc)]
    have := Nat.mul_le_mul_right cap hn
    have := Nat.mul_le_mul_left n hc
    omega
  exact Nat.lt_of_le_of_lt (ceilSqrt_le _) h2

theorem sliceCapacity_ge_two (n s : Nat) (hs : 0 < s) (hsn : s < n) : 2 ≤ sliceCapacity n s := by
  unfold sliceCapacity ceilDiv
  rw [Nat.le_div_iff_mul_le hs]
  omega

theorem takeSlices_flatMap_length_le {α γ : Type} (g : List α → List γ) (hg : ∀ sl, (g sl).length ≤ sl.length)
    (per s : Nat) (l : List α) : ((takeSlices per s l).flatMap g).length ≤ l.length := by
  have h : ∀ L : List (List α), (L.flatMap g).length ≤ L.flatten.length := fun L => by
    induction L with
    | nil => exact Nat.le_refl _
    | cons sl L ih =>
      rw [List.flatMap_cons, List.flatten_cons, List.length_append, List.length_append]
      exact Nat.add_le_add (hg sl) ih
  exact Nat.le_trans (h _) (by rw [takeSlices_flatten]; exact List.length_take_le' ..)

theorem takeSlices_flatMap_length_lt {α γ : Type} (g : List α → List γ) (hg : ∀ sl, (g sl).length ≤ sl.length)
    (per s : Nat) (hs : 0 < s) (l : List α) (hfirst : (g (l.take per)).length < (l.take per).length) :
    ((takeSlices per s l).flatMap g).length < l.length := by
  cases s with
  | zero => exact absurd hs (Nat.lt_irrefl 0)
  | succ s =>
    rw [takeSlices, List.flatMap_cons, List.length_append]
    refine Nat.lt_of_lt_of_eq (Nat.add_lt_add_of_lt_of_le hfirst
      (takeSlices_flatMap_length_le g hg per s (l.drop per))) ?_
    rw [← List.length_append, List.take_append_drop]

/-! #### covering -/

theorem foldl_union_covers (ops : Ops β) (law : OpsLaw ops) (q : β) :
    ∀ (ks : List (Node β ι)) (init : β),
      (ops.inter init q = true → ops.inter (ks.foldl (fun acc c => ops.union acc c.bounds) init) q = true) ∧
      (∀ k ∈ ks, ops.inter k.bounds q = true →
        ops.inter (ks.foldl (fun acc c => ops.union acc c.bounds) init) q = true)
  | [], init => by simp
  | k :: ks, init => by
    have ih := foldl_union_covers ops law q ks (ops.union init k.bounds)
    refine ⟨fun hi => ih.1 (law.left _ _ _ hi), ?_⟩
    intro k' hk' hq
    simp only [List.mem_cons] at hk'
    rcases hk' with rfl | hk'
    · exact ih.1 (law.right _ _ _ hq)
    · exact ih.2 k' hk' hq

theorem mkBranch_covers (ops : Ops β) (law : OpsLaw ops) (c : List (Node β ι))
    (hc : ∀ k ∈ c, k.Covers ops) : ∀ k ∈ mkBranch ops c, k.Covers ops := by
  intro k hk
  cases c with
  | nil => simp [mkBranch, boundsOf] at hk
  | cons k0 ks =>
    simp only [mkBranch, boundsOf, List.mem_singleton] at hk
    subst hk
    simp only [Node.Covers]
    refine ⟨?_, (CoversL_iff_forall ops _).mpr hc⟩
    intro e he q hq
    obtain ⟨k, hkm, hek⟩ := List.mem_flatMap.mp (leavesL_eq_flatMap _ ▸ he)
    have hb : ops.inter k.bounds q = true := by
      cases k with
      | leaf e0 => cases List.mem_singleton.mp hek; exact hq
      | branch b ks => exact (hc _ hkm).1 e hek q hq
    have hf := foldl_union_covers ops law q ks k0.bounds
    simp only [List.mem_cons] at hkm
    rcases hkm with rfl | hkm
    · exact hf.1 hb
    · exact hf.2 k hkm hb

/-! #### one level, then the whole loop

`sortX`, `sortY` stand for the two `std::sort` calls; all that is used of them is that they permute. -/
section
variable (ops : Ops β) (cap : Nat) (sortX sortY : List (Node β ι) → List (Node β ι))
  (hX : ∀ l, (sortX l).Perm l) (hY : ∀ l, (sortY l).Perm l)
include hY

theorem parentsOfSlice_leaves (hc : 0 < cap) (sl : List (Node β ι)) :
    (leavesL (parentsOfSlice ops cap sortY sl)).Perm (leavesL sl) := by
  unfold parentsOfSlice
  rw [leavesL_flatMap, chunks, List.flatMap_def,
    List.map_congr_left fun c hcm => leavesL_mkBranch ops c (chunksF_ne_nil cap hc _ _ c hcm),
    ← List.flatMap_def, ← leavesL_flatten, chunksF_flatten cap hc _ _ (Nat.le_refl _)]
  exact leavesL_perm (hY sl)

theorem parentsOfSlice_length_le (hc : 0 < cap) (sl : List (Node β ι)) :
    (parentsOfSlice ops cap sortY sl).length ≤ sl.length :=
  Nat.le_trans (flatMap_mkBranch_length_le ops _)
    (le_of_le_of_eq (chunksF_length_le cap hc _ (sortY sl)) (hY sl).length_eq)

theorem parentsOfSlice_length_lt (hc : 2 ≤ cap) (sl : List (Node β ι))
    (hl : 2 ≤ sl.length) : (parentsOfSlice ops cap sortY sl).length < sl.length :=
  have h := (hY sl).length_eq
  Nat.lt_of_le_of_lt (flatMap_mkBranch_length_le ops _)
    (Nat.lt_of_lt_of_eq (chunksF_length_lt cap hc _ (sortY sl) (le_of_le_of_eq hl h.symm)) h)

theorem parentsOfSlice_ne_nil (hc : 0 < cap) (sl : List (Node β ι))
    (hl : sl ≠ []) : parentsOfSlice ops cap sortY sl ≠ [] := by
  unfold parentsOfSlice
  have hne : sortY sl ≠ [] := fun h => hl (by have := hY sl; rw [h] at this; exact this.symm.eq_nil)
  have hch := chunksF_ne_nil_of cap (sortY sl) hne
  cases hcs : chunks cap (sortY sl) with
  | nil => exact absurd hcs hch
  | cons c cs =>
    have hcne : c ≠ [] := chunksF_ne_nil cap hc _ _ c (by unfold chunks at hcs; rw [hcs]; simp)
    obtain ⟨b, hb, _⟩ := mkBranch_of_ne_nil ops c hcne
    simp [hb]

include hX

theorem createParents_leaves (hc : 0 < cap) (ns : List (Node β ι)) :
    (leavesL (createParents ops cap sortX sortY ns)).Perm (leavesL ns) := by
  unfold createParents
  rw [leavesL_flatMap]
  refine List.Perm.trans (perm_flatMap_left _ _ _ (fun sl _ => parentsOfSlice_leaves ops cap sortY hY hc sl)) ?_
  rw [← leavesL_flatten, takeSlices_flatten, List.take_of_length_le]
  · exact leavesL_perm (hX ns)
  · rw [(hX ns).length_eq]
    rcases Nat.eq_zero_or_pos ns.length with h0 | hn
    · rw [h0]; exact Nat.zero_le _
    · exact le_ceilDiv_mul _ _ (sliceCount_pos cap _ hc hn)

/-- each level has strictly fewer nodes than the one below (so `build()` terminates) -/
theorem createParents_length_lt (hc : 2 ≤ cap) (ns : List (Node β ι)) (hn : 2 ≤ ns.length) :
    (createParents ops cap sortX sortY ns).length < ns.length := by
  unfold createParents
  simp only
  have hc0 : 0 < cap := Nat.lt_of_lt_of_le Nat.zero_lt_two hc
  have hs := sliceCount_pos cap ns.length hc0 (Nat.lt_of_lt_of_le Nat.zero_lt_two hn)
  have hper := sliceCapacity_ge_two ns.length _ hs (sliceCount_lt cap ns.length hc hn)
  have hlen := (hX ns).length_eq
  have := takeSlices_flatMap_length_lt (parentsOfSlice ops cap sortY)
    (parentsOfSlice_length_le ops cap sortY hY hc0) _ _ hs (sortX ns)
    (parentsOfSlice_length_lt ops cap sortY hY hc _
      (by rw [List.length_take]; exact Nat.le_min.mpr ⟨hper, hlen ▸ hn⟩))
  rwa [hlen] at this

theorem createParents_ne_nil (hc : 0 < cap) (ns : List (Node β ι)) (hn : ns ≠ []) :
    createParents ops cap sortX sortY ns ≠ [] := by
  have hlen : 0 < ns.length := List.length_pos_iff.mpr hn
  unfold createParents
  simp only
  have hs := sliceCount_pos cap ns.length hc hlen
  obtain ⟨s, hs'⟩ := Nat.exists_eq_succ_of_ne_zero (Nat.ne_of_gt hs)
  rw [hs', takeSlices, List.flatMap_cons]
  have hper : 0 < sliceCapacity ns.length (s + 1) := ceilDiv_pos _ _ hlen (Nat.succ_pos s)
  have hx : sortX ns ≠ [] := fun h => hn (by have := hX ns; rw [h] at this; exact this.symm.eq_nil)
  have := parentsOfSlice_ne_nil ops cap sortY hY hc _
    fun h => (List.take_eq_nil_iff.mp h).elim (Nat.ne_of_gt hper) hx
  exact fun h => this (List.append_eq_nil_iff.mp h).1

theorem createParents_covers (law : OpsLaw ops) (ns : List (Node β ι))
    (h : ∀ k ∈ ns, k.Covers ops) : ∀ k ∈ createParents ops cap sortX sortY ns, k.Covers ops := by
  intro k hk
  unfold createParents at hk
  simp only [List.mem_flatMap] at hk
  obtain ⟨sl, hsl, hk⟩ := hk
  unfold parentsOfSlice at hk
  simp only [List.mem_flatMap] at hk
  obtain ⟨c, hcm, hk⟩ := hk
  apply mkBranch_covers ops law c _ k hk
  intro k' hk'
  apply h
  have h1 := mem_of_mem_chunksF cap _ _ c hcm k' hk'
  have h2 := (hY sl).mem_iff.mp h1
  exact (hX ns).mem_iff.mp (List.mem_of_mem_take (takeSlices_flatten .. ▸ List.mem_flatten.mpr ⟨sl, hsl, h2⟩))

theorem buildLoop_leaves (hc : 0 < cap) :
    ∀ (f : Nat) (ns : List (Node β ι)), (leavesL (buildLoop ops cap sortX sortY f ns)).Perm (leavesL ns)
  | 0, _ => .refl _
  | f + 1, ns => by
    rw [buildLoop]
    by_cases h : ns.length ≤ 1
    · rw [if_pos h]
    · rw [if_neg h]
      exact (buildLoop_leaves hc f _).trans
        (createParents_leaves ops cap sortX sortY hX hY hc ns)

theorem buildLoop_covers (law : OpsLaw ops) :
    ∀ (f : Nat) (ns : List (Node β ι)), (∀ k ∈ ns, k.Covers ops) →
      ∀ k ∈ buildLoop ops cap sortX sortY f ns, k.Covers ops
  | 0, _, h => h
  | f + 1, ns, h => by
    rw [buildLoop]
    by_cases hl : ns.length ≤ 1
    · rw [if_pos hl]; exact h
    · rw [if_neg hl]
      exact buildLoop_covers law f _
        (createParents_covers ops cap sortX sortY hX hY law ns h)

end

/-- with capacity ≥ 2 the loop, given fuel = number of nodes, ends with exactly one top-level node -/
theorem buildLoop_single (ops : Ops β) (cap : Nat) (hc : 2 ≤ cap)
    (sortX sortY : List (Node β ι) → List (Node β ι))
    (hX : ∀ l, (sortX l).Perm l) (hY : ∀ l, (sortY l).Perm l) :
    ∀ (f : Nat) (ns : List (Node β ι)), ns ≠ [] → ns.length ≤ f + 1 →
      (buildLoop ops cap sortX sortY f ns).length = 1
  | 0, ns, hne, hl => Nat.le_antisymm hl (List.length_pos_iff.mpr hne)
  | f + 1, ns, hne, hl => by
    rw [buildLoop]
    by_cases hle : ns.length ≤ 1
    · rw [if_pos hle]; exact Nat.le_antisymm hle (List.length_pos_iff.mpr hne)
    · rw [if_neg hle]
      have hlt := createParents_length_lt ops cap sortX sortY hX hY hc ns (Nat.lt_of_not_le hle)
      exact buildLoop_single ops cap hc sortX sortY hX hY f _
        (createParents_ne_nil ops cap sortX sortY hX hY (Nat.lt_of_lt_of_le Nat.zero_lt_two hc) ns hne)
        (Nat.le_of_lt_succ (Nat.lt_of_lt_of_le hlt hl))

end GeosModel.STR
