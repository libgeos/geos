import GeosModel.Model.Index.STR
/-! The invariant of a built STR tree (`Node.Covers`: branch bounds cover their descendants; `build` establishes it in
STRBuild.lean) and what query / remove do on a tree that has it. -/
namespace GeosModel.STR
variable {β ι : Type}

mutual
  /-- every branch's bounds intersect whatever any descendant leaf's bounds intersect -/
  def Node.Covers (ops : Ops β) : Node β ι → Prop
    | .leaf _ => True
    | .branch b ks => (∀ e ∈ leavesL ks, ∀ q, ops.inter e.b q = true → ops.inter b q = true) ∧ CoversL ops ks
  def CoversL (ops : Ops β) : List (Node β ι) → Prop
    | [] => True
    | k :: ks => k.Covers ops ∧ CoversL ops ks
end

/-- the matching predicate of a query -/
def hit (ops : Ops β) (q : β) (e : Entry β ι) : Bool := !e.deleted && ops.inter e.b q

theorem leavesL_cons (k : Node β ι) (ks) : leavesL (k :: ks) = k.leaves ++ leavesL ks := by
  simp [leavesL]

theorem leavesL_append (a b : List (Node β ι)) : leavesL (a ++ b) = leavesL a ++ leavesL b := by
  induction a with
  | nil => simp [leavesL]
  | cons k ks ih => simp [leavesL, ih]

theorem CoversL_append (ops : Ops β) (a b : List (Node β ι)) :
    CoversL ops (a ++ b) ↔ CoversL ops a ∧ CoversL ops b := by
  induction a with
  | nil => simp [CoversL]
  | cons k ks ih => simp [CoversL, ih, and_assoc]

theorem CoversL_iff_forall (ops : Ops β) (ns : List (Node β ι)) :
    CoversL ops ns ↔ ∀ k ∈ ns, k.Covers ops := by
  induction ns with
  | nil => simp [CoversL]
  | cons k ks ih => simp [CoversL, ih]

/-- pruning loses nothing: bounds that do not meet the query cover no leaf that does -/
theorem no_inter_below (ops : Ops β) (q b : β) (l : List (Entry β ι))
    (hc : ∀ e ∈ l, ∀ q, ops.inter e.b q = true → ops.inter b q = true)
    (hb : ops.inter b q = false) : ∀ e ∈ l, ops.inter e.b q = false := by
  intro e he
  cases hi : ops.inter e.b q
  · rfl
  · rw [hc e he q hi] at hb; cases hb

mutual
  /-- a child visited from its parent's loop yields exactly its live leaves whose own bounds intersect
  the query, each once, in depth-first order -/
  theorem queryNode_spec (ops : Ops β) (q : β) :
      ∀ (k : Node β ι), k.Covers ops → queryNode ops q k = (k.leaves.filter (hit ops q)).map (·.item)
    | .leaf e, _ => by
        simp only [queryNode, Node.leaves, List.filter_cons, List.filter_nil, hit]
        by_cases hi : ops.inter e.b q = true <;> by_cases hd : e.deleted = true <;> simp [hi, hd]
    | .branch b kk, h => by
        simp only [Node.Covers] at h
        simp only [queryNode, Node.leaves]
        cases hb : ops.inter b q
        · rw [List.filter_eq_nil_iff.mpr fun e he => by simp [hit, no_inter_below ops q b _ h.1 hb e he]]; simp
        · simp [queryKids_spec ops q kk h.2]
  theorem queryKids_spec (ops : Ops β) (q : β) :
      ∀ (ks : List (Node β ι)), CoversL ops ks →
        queryKids ops q ks = ((leavesL ks).filter (hit ops q)).map (·.item)
    | [], _ => by simp [queryKids, leavesL]
    | k :: ks, h => by
        simp only [queryKids, leavesL, List.filter_append, List.map_append,
          queryNode_spec ops q k h.1, queryKids_spec ops q ks h.2]
end

theorem filter_hit_eq (ops : Ops β) (q : β) (l : List (Entry β ι)) :
    l.filter (hit ops q) = (l.filter (fun e => !e.deleted)).filter (fun e => ops.inter e.b q) := by
  rw [List.filter_filter]
  congr 1
  funext e
  simp [hit, Bool.and_comm]

theorem queryRoot_spec (ops : Ops β) (q : β) (r : Node β ι) (h : r.Covers ops) :
    queryRoot ops q (some r) = (r.leaves.filter (hit ops q)).map (·.item) := by
  rw [← queryNode_spec ops q r h]
  cases r <;> simp [queryRoot, queryNode]

/-! ### remove -/

/-- mark the first entry satisfying `p` as deleted -/
def markFirst (p : Entry β ι → Bool) : List (Entry β ι) → Option (List (Entry β ι))
  | [] => none
  | e :: es => if p e then some ({ e with deleted := true } :: es) else (markFirst p es).map (e :: ·)

def rmHit [BEq ι] (ops : Ops β) (q : β) (i : ι) (e : Entry β ι) : Bool :=
  ops.inter e.b q && !e.deleted && e.item == i

theorem markFirst_append (p : Entry β ι → Bool) (a b : List (Entry β ι)) :
    markFirst p (a ++ b) =
      match markFirst p a with
      | some a' => some (a' ++ b)
      | none => (markFirst p b).map (a ++ ·) := by
  induction a with
  | nil => simp [markFirst]
  | cons e es ih =>
    simp only [List.cons_append, markFirst]
    split
    · simp
    · rw [ih]; cases markFirst p es <;> simp [Option.map_map, Function.comp_def]

theorem markFirst_none_of_forall (p : Entry β ι → Bool) (l : List (Entry β ι))
    (h : ∀ e ∈ l, p e = false) : markFirst p l = none := by
  induction l with
  | nil => rfl
  | cons e es ih =>
    simp only [markFirst, h e (by simp)]
    simp [ih (fun e he => h e (by simp [he]))]

theorem markFirst_none_iff (p : Entry β ι → Bool) (l : List (Entry β ι)) :
    markFirst p l = none ↔ ∀ e ∈ l, p e = false := by
  constructor
  · induction l with
    | nil => simp
    | cons e es ih =>
      simp only [markFirst]
      split
      · simp
      · rename_i hp
        intro h
        have : markFirst p es = none := by  -- `h` is `(markFirst p es).map _ = none`
          cases hm : markFirst p es <;> simp_all
        intro e' he'
        simp only [List.mem_cons] at he'
        rcases he' with rfl | he'
        · simpa using hp
        · exact ih this e' he'
  · exact markFirst_none_of_forall p l

theorem markFirst_split (p : Entry β ι → Bool) :
    ∀ (l l' : List (Entry β ι)), markFirst p l = some l' →
      ∃ l1 e l2, l = l1 ++ e :: l2 ∧ l' = l1 ++ { e with deleted := true } :: l2 ∧ p e = true ∧
        ∀ x ∈ l1, p x = false
  | [], _, h => by simp [markFirst] at h
  | e :: es, l', h => by
    simp only [markFirst] at h
    by_cases hp : p e = true
    · simp only [hp, if_true, Option.some.injEq] at h
      exact ⟨[], e, es, rfl, by simp [← h], hp, by simp⟩
    · rw [if_neg hp] at h
      cases hm : markFirst p es with
      | none => simp [hm] at h
      | some es' =>
        simp only [hm, Option.map_some, Option.some.injEq] at h
        obtain ⟨l1, e0, l2, h1, h2, h3, h4⟩ := markFirst_split p es es' hm
        exact ⟨e :: l1, e0, l2, by simp [h1], by simp [← h, h2], h3, fun x hx =>
          (List.mem_cons.mp hx).elim (fun hxe => hxe ▸ Bool.eq_false_iff.mpr hp) (h4 x)⟩

mutual
  theorem removeNode_spec [BEq ι] (ops : Ops β) (q : β) (i : ι) :
      ∀ (k : Node β ι), k.Covers ops →
        (removeNode ops q i k).map Node.leaves = markFirst (rmHit ops q i) k.leaves
    | .leaf e, _ => by
        simp only [removeNode, Node.leaves, markFirst, rmHit]
        by_cases hp : (ops.inter e.b q && !e.deleted && e.item == i) = true
        · simp [hp, Node.leaves]
        · simp [hp]
    | .branch b kk, h => by
        simp only [Node.Covers] at h
        simp only [removeNode, Node.leaves]
        cases hb : ops.inter b q
        · rw [markFirst_none_of_forall _ _ fun e he => by simp [rmHit, no_inter_below ops q b _ h.1 hb e he]]; simp
        · rw [← removeKids_spec ops q i kk h.2]
          cases removeKids ops q i kk <;> simp [Node.leaves]
  /-- `remove` over the children marks exactly the first leaf (depth-first) that is live, holds an equal
  item and whose own bounds intersect the removal envelope; bounds and shape are untouched. -/
  theorem removeKids_spec [BEq ι] (ops : Ops β) (q : β) (i : ι) :
      ∀ (ks : List (Node β ι)), CoversL ops ks →
        (removeKids ops q i ks).map leavesL = markFirst (rmHit ops q i) (leavesL ks)
    | [], _ => by simp [removeKids, leavesL, markFirst]
    | k :: ks, h => by
        simp only [removeKids, leavesL]
        rw [markFirst_append, ← removeNode_spec ops q i k h.1, ← removeKids_spec ops q i ks h.2]
        cases removeNode ops q i k with
        | some k' => simp [leavesL]
        | none => cases removeKids ops q i ks <;> simp [leavesL]
end

theorem markFirst_bounds (p : Entry β ι → Bool) :
    ∀ (l l' : List (Entry β ι)), markFirst p l = some l' → l'.map (·.b) = l.map (·.b)
  | [], _, h => by simp [markFirst] at h
  | e :: es, l', h => by
    simp only [markFirst] at h
    split at h
    · cases h; simp
    · cases hm : markFirst p es with
      | none => simp [hm] at h
      | some es' =>
        simp [hm] at h; subst h
        simp [markFirst_bounds p es es' hm]

theorem covers_of_same_bounds (ops : Ops β) (b : β) (l l' : List (Entry β ι))
    (hb : l'.map (·.b) = l.map (·.b))
    (hc : ∀ e ∈ l, ∀ q, ops.inter e.b q = true → ops.inter b q = true) :
    ∀ e ∈ l', ∀ q, ops.inter e.b q = true → ops.inter b q = true := by
  intro e he q hq
  have : e.b ∈ l'.map (·.b) := List.mem_map_of_mem he
  rw [hb] at this
  obtain ⟨e0, he0, hbe⟩ := List.mem_map.mp this
  exact hc e0 he0 q (by rw [hbe]; exact hq)

theorem markFirst_bounds_node [BEq ι] (ops : Ops β) (q : β) (i : ι) (k k' : Node β ι) (hc : k.Covers ops)
    (h : removeNode ops q i k = some k') : k'.leaves.map (·.b) = k.leaves.map (·.b) := by
  have hs := removeNode_spec ops q i k hc
  rw [h] at hs
  exact markFirst_bounds _ _ _ hs.symm

mutual
  /-- removal keeps the covering invariant (bounds are not recomputed, leaves keep their bounds) -/
  theorem removeNode_covers [BEq ι] (ops : Ops β) (q : β) (i : ι) :
      ∀ (k k' : Node β ι), k.Covers ops → removeNode ops q i k = some k' →
        k'.Covers ops ∧ k'.bounds = k.bounds
    | .leaf e, k', _, h => by
        simp only [removeNode] at h
        split at h
        · cases h; exact ⟨trivial, rfl⟩
        · cases h
    | .branch b kk, k', hc, h => by
        have hc' := hc
        simp only [Node.Covers] at hc
        simp only [removeNode] at h
        split at h
        · cases hr : removeKids ops q i kk with
          | none => simp [hr] at h
          | some kk' =>
            simp only [hr, Option.some.injEq] at h
            subst h
            refine ⟨?_, rfl⟩
            simp only [Node.Covers]
            refine ⟨?_, removeKids_covers ops q i kk kk' hc.2 hr⟩
            have hs := removeKids_spec ops q i kk hc.2
            rw [hr] at hs
            exact covers_of_same_bounds ops b _ _ (markFirst_bounds _ _ _ hs.symm) hc.1
        · cases h
  theorem removeKids_covers [BEq ι] (ops : Ops β) (q : β) (i : ι) :
      ∀ (ks ks' : List (Node β ι)), CoversL ops ks → removeKids ops q i ks = some ks' → CoversL ops ks'
    | [], _, _, h => by simp [removeKids] at h
    | k :: ks, ks', hc, h => by
        simp only [removeKids] at h
        cases hn : removeNode ops q i k with
        | some k' =>
          simp only [hn, Option.some.injEq] at h
          subst h
          exact ⟨(removeNode_covers ops q i k k' hc.1 hn).1, hc.2⟩
        | none =>
          simp only [hn] at h
          cases hr : removeKids ops q i ks with
          | none => simp [hr] at h
          | some r =>
            simp only [hr, Option.some.injEq] at h
            subst h
            exact ⟨hc.1, removeKids_covers ops q i ks r hc.2 hr⟩
end

end GeosModel.STR
