import GeosModel.Proofs.Index.STRBuild
/-! `build()` with node capacity 1: every level has exactly as many nodes as the one below, so the loop
`while (nodesWithoutParents > 1)` of `TemplateSTRtree::build` / `treeSize` never ends.  (The hypothesis `2 ≤ cap`
of `createParents_length_lt` is necessary; `GEOSSTRtree_create_r` refuses a capacity below 2, /repo 6546757fa.) -/
namespace GeosModel.STR
variable {β ι : Type}

theorem chunksF_one_length {α : Type} : ∀ (f : Nat) (l : List α), l.length ≤ f → (chunksF 1 f l).length = l.length
  | 0, l, h => by
    have : l = [] := List.length_eq_zero_iff.mp (Nat.le_zero.mp h)
    simp [chunksF, this]
  | f + 1, l, h => by
    simp only [chunksF]
    cases l with
    | nil => simp
    | cons a t =>
      simp only [List.isEmpty_cons, Bool.false_eq_true, if_false, List.length_cons, List.drop_succ_cons, List.drop_zero]
      rw [chunksF_one_length f t (by simp only [List.length_cons] at h; omega)]

theorem flatMap_mkBranch_length_eq (ops : Ops β) (L : List (List (Node β ι))) (hne : ∀ c ∈ L, c ≠ []) :
    (L.flatMap (mkBranch ops)).length = L.length := by
  induction L with
  | nil => simp
  | cons c cs ih =>
    simp only [List.flatMap_cons, List.length_append, List.length_cons]
    obtain ⟨b, hb, _⟩ := mkBranch_of_ne_nil ops c (hne c (by simp))
    rw [hb, ih (fun x hx => hne x (by simp [hx]))]
    simp; omega

theorem takeSlices_flatMap_length_eq {α γ : Type} (g : List α → List γ) (hg : ∀ sl, (g sl).length = sl.length)
    (per s : Nat) (l : List α) : ((takeSlices per s l).flatMap g).length = (l.take (per * s)).length := by
  rw [← takeSlices_flatten]
  induction takeSlices per s l with
  | nil => rfl
  | cons sl L ih => rw [List.flatMap_cons, List.flatten_cons, List.length_append, List.length_append, hg, ih]

section
variable (ops : Ops β) (sortX sortY : List (Node β ι) → List (Node β ι))
  (hX : ∀ l, (sortX l).Perm l) (hY : ∀ l, (sortY l).Perm l)
include hY

theorem parentsOfSlice_one_length (sl : List (Node β ι)) : (parentsOfSlice ops 1 sortY sl).length = sl.length := by
  unfold parentsOfSlice chunks
  rw [flatMap_mkBranch_length_eq ops _ (chunksF_ne_nil 1 (by omega) _ _), chunksF_one_length _ _ (Nat.le_refl _)]
  exact (hY sl).length_eq

include hX

/-- with node capacity 1 a level of parents has exactly as many nodes as the level below -/
theorem createParents_one_length (ns : List (Node β ι)) :
    (createParents ops 1 sortX sortY ns).length = ns.length := by
  unfold createParents
  simp only
  rw [takeSlices_flatMap_length_eq _ (parentsOfSlice_one_length ops sortY hY), List.length_take, (hX ns).length_eq]
  by_cases hn : ns.length = 0
  · omega
  · have hs := sliceCount_pos 1 ns.length (by omega) (by omega)
    have hcover := le_ceilDiv_mul ns.length (sliceCount 1 ns.length) hs
    unfold sliceCapacity
    omega

/-- …so the build loop makes no progress, whatever the fuel -/
theorem buildLoop_one_length :
    ∀ (fuel : Nat) (ns : List (Node β ι)), (buildLoop ops 1 sortX sortY fuel ns).length = ns.length
  | 0, ns => rfl
  | f + 1, ns => by
    simp only [buildLoop]
    split
    · rfl
    · rw [buildLoop_one_length f, createParents_one_length ops sortX sortY hX hY]

end

end GeosModel.STR
