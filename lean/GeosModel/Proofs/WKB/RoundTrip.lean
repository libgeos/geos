import GeosModel.Proofs.WKB.Seq
/-! What the round-trip induction of `Proofs/WKB/Main.lean` is assembled from: the depth budget `dep`, lower bounds on the lengths of
the writer's output (they discharge the reader's `minMemSize` guards), simple curves and compound-curve sections, that `canonG`
keeps the class and the emptiness the reader's casts and checks look at, and the typed collections (`readGeom_coll`). -/
namespace GeosModel.WKB
open GeosModel

variable {arc : ArcOracle}

theorem errOk_ok {r : Except Err Unit} (h : errOk r = true) : r = .ok () := by
  obtain e | u := r
  · cases h
  · rfl

/-- a point has at most one coordinate -/
theorem point_tail {s : CSeq} {p : Coord} {ps : List Coord} (h : s.pts.length ≤ 1) (hp : s.pts = p :: ps) : ps = [] := by
  cases ps with
  | nil => rfl
  | cons a b => simp [hp] at h

theorem sridFits_zero : sridFits 0 = true := by decide

theorem isNaNBits_nan : isNaNBits nanBits = true := by decide

theorem readGeom_succ (fuel : Nat) (o : Order) (bs : List UInt8) :
    readGeom arc (fuel + 1) o bs =
      (match readHeader o bs with
       | .error e => .error e
       | .ok (h, bs) => readBody arc (readGeom arc fuel) h bs) := rfl

/-- a simple curve is a line string, a linear ring or a circular string -/
@[elab_as_elim]
theorem simpleCurve_cases {P : G → Prop} (g : G) (hk : isSimpleCurve g = true) (line : ∀ s, P (.lineString s))
    (ring : ∀ s, P (.linearRing s)) (circ : ∀ s, P (.circularString s)) : P g := by
  cases g with
  | lineString s => exact line s
  | linearRing s => exact ring s
  | circularString s => exact circ s
  | _ => simp [isSimpleCurve] at hk

mutual
  /-- a depth budget for `readGeom` that suffices for the bytes written for `g`: a sum over the children, not their maximum —
  all that is asked of it is to stay below the number of bytes (`depL_le_length`) -/
  def dep : G → Nat
    | .point _ => 1
    | .lineString _ => 1
    | .linearRing _ => 1
    | .circularString _ => 1
    | .polygon _ _ => 1
    | .compoundCurve _ => 2
    | .curvePolygon gs => if gIsEmpty (.curvePolygon gs) then 1 else 1 + depL gs
    | .multiPoint gs => 1 + depL gs
    | .multiLineString gs => 1 + depL gs
    | .multiPolygon gs => 1 + depL gs
    | .collection gs => 1 + depL gs
    | .multiCurve gs => 1 + depL gs
    | .multiSurface gs => 1 + depL gs
  def depL : List G → Nat
    | [] => 1
    | g :: gs => dep g + depL gs
end

theorem depL_pos (gs : List G) : 1 ≤ depL gs := by
  induction gs with
  | nil => simp [depL]
  | cons g gs ih => simp only [depL]; omega

theorem header_length_ge (c : Cfg) (oz om : Bool) (code : Nat) (e : Int) : 5 ≤ (header c oz om code e).length := by
  simp [header, putU32_length]

theorem collHeader_length_ge (c : Cfg) (e : Int) (code : Nat) (gs : List G) : 9 ≤ (collHeader c e code gs).length := by
  simp only [collHeader, List.length_append, putU32_length]
  exact Nat.add_le_add (c := 4) (header_length_ge ..) (Nat.le_refl 4)

/-- a point's payload is at least one XY coordinate -/
theorem pointBody_length_ge (o : Order) (z m : Bool) (ps : List Coord) :
    16 ≤ (if ps.isEmpty then coordBytes o z m nanCoord else ptsBytes o z m ps).length := by
  cases ps with
  | nil => simp only [List.isEmpty_nil, if_true, coordBytes_length]; omega
  | cons p ps =>
    have := ptsBytes_length_ge o z m (p :: ps)
    simp only [List.length_cons] at this
    simp only [List.isEmpty_cons, Bool.false_eq_true, if_false]; omega

theorem writeG_length_ge (c : Cfg) (e : Int) (g : G) : 9 ≤ (writeG c e g).length := by
  -- the header's five bytes, then a count word or a point's coordinate
  cases g <;> simp only [writeG, collHeader, seqBytes, List.append_assoc, List.length_append, putU32_length] <;>
    refine Nat.add_le_add (c := 4) (header_length_ge c _ _ _ e) ?_
  case point s =>
    have := pointBody_length_ge c.order (outOrd c.dims s.hasZ s.hasM).1 (outOrd c.dims s.hasZ s.hasM).2 s.pts
    omega
  case polygon sh hs => split <;> simp only [List.length_append, putU32_length] <;> omega
  case curvePolygon gs => split <;> simp only [List.length_append, putU32_length] <;> omega
  all_goals exact Nat.le_add_right 4 _

theorem writeGs_length_ge (c : Cfg) (gs : List G) : gs.length * 9 ≤ (writeGs c gs).length := by
  induction gs with
  | nil => simp [writeGs]
  | cons g gs ih =>
    have := writeG_length_ge c 0 g
    simp only [writeGs, List.length_cons, List.length_append]; omega

theorem writeG_point_length_ge (c : Cfg) (e : Int) (g : G) (h : isPoint g = true) : 21 ≤ (writeG c e g).length := by
  cases g with
  | point s =>
    simp only [writeG, List.length_append]
    exact Nat.add_le_add (c := 16) (header_length_ge c _ _ 1 e) (pointBody_length_ge ..)
  | _ => simp [isPoint] at h

theorem writeGs_points_length_ge (c : Cfg) (gs : List G) (h : gs.all isPoint = true) :
    gs.length * 21 ≤ (writeGs c gs).length := by
  induction gs with
  | nil => simp [writeGs]
  | cons g gs ih =>
    simp only [List.all_cons, Bool.and_eq_true] at h
    have := writeG_point_length_ge c 0 g h.1
    have := ih h.2
    simp only [writeGs, List.length_cons, List.length_append]; omega

/-! ### simple curves, also as sections of a compound curve -/

/-- a line string (`code = 2`, `ok = lineOK`) or circular string (`code = 8`, `ok = circOK arc`): header, sized sequence, then the
constructor's check `ok`, which only looks at what masking keeps (`hmask`) -/
theorem readGeom_curve (c : Cfg) (fuel : Nat) (o' : Order) (z m : Bool) (e : Int) (he : sridFits e = true)
    (code : Nat) (k : Kind) (hk : kindOfCode code = some k) (ok : CSeq → Bool) (mk : CSeq → G)
    (hbody : ∀ rd h bs, h.kind = k → readBody arc rd h bs =
      match readSizedSeq h.order h.hasZ h.hasM bs with
      | .error e => .error e
      | .ok (s, bs) => if ok s then .ok ((mk s, h.srid), h.order, bs) else .error .construct)
    (hmask : ∀ s, ok (maskS z m s) = ok s)
    (s : CSeq) (hs : s.pts.length < 4294967296) (hok : ok s = true) (r : List UInt8) :
    readGeom arc (fuel + 1) o' (header c z m code e ++ seqBytes c.order z m s ++ r)
      = .ok ((mk (maskS z m s), if c.flavor = .ext then e else 0), c.order, r) := by
  rw [readGeom_succ]
  simp only [List.append_assoc, readHeader_header c o' z m code e k hk he]
  rw [hbody _ _ _ rfl]
  simp only [readSizedSeq_seqBytes c.order z m s hs, hmask, hok, if_true]

theorem readGeom_line (c : Cfg) (fuel : Nat) (o' : Order) (z m : Bool) (e : Int) (he : sridFits e = true)
    (s : CSeq) (hs : s.pts.length < 4294967296) (hok : lineOK s = true) (r : List UInt8) :
    readGeom arc (fuel + 1) o' (header c z m 2 e ++ seqBytes c.order z m s ++ r)
      = .ok ((.lineString (maskS z m s), if c.flavor = .ext then e else 0), c.order, r) :=
  readGeom_curve c fuel o' z m e he 2 .lineString rfl lineOK .lineString (fun _ _ _ hk => by simp only [readBody, hk]; rfl)
    (lineOK_maskS z m) s hs hok r

theorem readGeom_circ (c : Cfg) (fuel : Nat) (o' : Order) (z m : Bool) (e : Int) (he : sridFits e = true)
    (s : CSeq) (hs : s.pts.length < 4294967296) (hok : circOK arc s = true) (r : List UInt8) :
    readGeom arc (fuel + 1) o' (header c z m 8 e ++ seqBytes c.order z m s ++ r)
      = .ok ((.circularString (maskS z m s), if c.flavor = .ext then e else 0), c.order, r) :=
  readGeom_curve c fuel o' z m e he 8 .circularString rfl (circOK arc) .circularString (fun _ _ _ hk => by simp only [readBody, hk]; rfl)
    (circOK_maskS z m) s hs hok r

/-- a section of a compound curve, written with its parent's ordinate set, read as a child -/
theorem readGeom_writeSection (c : Cfg) (fuel : Nat) (o' : Order) (z m : Bool) (g : G)
    (hk : isSimpleCurve g = true) (hwf : WFG arc g = true) (hf : Fits g = true) (r : List UInt8) :
    readGeom arc (fuel + 1) o' (writeSection c z m g ++ r) = .ok ((canonSec z m g, 0), c.order, r) := by
  revert hwf hf
  refine simpleCurve_cases g hk ?_ ?_ ?_ <;> intro s hwf hf <;> simp only [Fits, decide_eq_true_eq] at hf
  · simp only [WFG] at hwf
    simpa [writeSection, canonSec] using readGeom_line c fuel o' z m 0 sridFits_zero s hf hwf r
  · simp only [WFG, Bool.and_eq_true] at hwf
    simpa [writeSection, canonSec] using readGeom_line c fuel o' z m 0 sridFits_zero s hf hwf.1 r
  · simp only [WFG] at hwf
    simpa [writeSection, canonSec] using readGeom_circ c fuel o' z m 0 sridFits_zero s hf hwf r

theorem asChild_ok (p : G → Bool) (g : G) (i : Int) (o : Order) (bs : List UInt8) :
    asChild p (.ok ((g, i), o, bs)) = if p g then .ok (g, o, bs) else .error .childType := rfl

theorem isSimpleCurve_canonSec (z m : Bool) (g : G) : isSimpleCurve (canonSec z m g) = isSimpleCurve g := by
  cases g <;> rfl

theorem readN_writeSections (c : Cfg) (fuel : Nat) (z m : Bool) (gs : List G)
    (hk : gs.all isSimpleCurve = true) (hwf : WFGs arc gs = true) (hf : FitsL gs = true) (r : List UInt8) :
    readN (fun o bs => asChild isSimpleCurve (readGeom arc (fuel + 1) o bs)) gs.length c.order
        (writeSections c z m gs ++ r) = .ok (gs.map (canonSec z m), c.order, r) := by
  induction gs with
  | nil => simp [readN, writeSections]
  | cons g gs ih =>
    simp only [List.all_cons, Bool.and_eq_true] at hk
    simp only [WFGs, Bool.and_eq_true] at hwf
    simp only [FitsL, Bool.and_eq_true] at hf
    simp only [List.length_cons, readN, writeSections, List.append_assoc,
      readGeom_writeSection c fuel c.order z m g hk.1 hwf.1 hf.1, asChild_ok, isSimpleCurve_canonSec, hk.1, if_true,
      ih hk.2 hwf.2 hf.2, List.map_cons]

theorem writeSection_length_ge (c : Cfg) (z m : Bool) (g : G) (hk : isSimpleCurve g = true) :
    9 ≤ (writeSection c z m g).length := by
  have aux : ∀ (s : CSeq) (code : Nat), 9 ≤ (header c z m code 0 ++ seqBytes c.order z m s).length := by
    intro s code
    have h1 := header_length_ge c z m code 0
    simp only [List.length_append, seqBytes, putU32_length]; omega
  exact simpleCurve_cases g hk (fun s => aux s 2) (fun s => aux s 2) (fun s => aux s 8)

theorem writeSections_length_ge (c : Cfg) (z m : Bool) (gs : List G) (hk : gs.all isSimpleCurve = true) :
    gs.length * 9 ≤ (writeSections c z m gs).length := by
  induction gs with
  | nil => simp [writeSections]
  | cons g gs ih =>
    simp only [List.all_cons, Bool.and_eq_true] at hk
    have := writeSection_length_ge c z m g hk.1
    have := ih hk.2
    simp only [writeSections, List.length_cons, List.length_append]; omega

/-- contiguity only looks at X and Y, which the round trip keeps -/
theorem seqOf_canonSec (z m : Bool) (g : G) (hk : isSimpleCurve g = true) :
    seqOf (canonSec z m g) = maskS z m (seqOf g) := by
  refine simpleCurve_cases g hk ?_ ?_ ?_ <;> intro s <;> rfl

theorem checkContig_canonSec (z m : Bool) (gs : List G) (hk : gs.all isSimpleCurve = true) :
    checkContig (gs.map (canonSec z m)) = checkContig gs := by
  induction gs with
  | nil => rfl
  | cons a rest ih =>
    cases rest with
    | nil => rfl
    | cons b rest =>
      simp only [List.all_cons, Bool.and_eq_true] at hk
      have ih' := ih (by simp [hk.2.1, hk.2.2])
      simp only [List.map_cons] at ih' ⊢
      simp only [checkContig, seqOf_canonSec z m a hk.1, seqOf_canonSec z m b hk.2.1, maskS,
        List.getLast?_map, List.head?_map]
      cases h1 : (seqOf a).pts.getLast? <;> cases h2 : (seqOf b).pts.head? <;> simp [eq2D_mask, ih']

/-! ### `canonG` keeps kinds and emptiness -/

theorem isPoint_pointOfSeq (s : CSeq) : isPoint (pointOfSeq s) = true := by
  unfold pointOfSeq; split
  · split <;> rfl
  · rfl

theorem isPoint_canonG (d : Nat) (g : G) (h : isPoint g = true) : isPoint (canonG d g) = true := by
  cases g with
  | point s => exact isPoint_pointOfSeq _
  | _ => simp [isPoint] at h

theorem isLineString_canonG (d : Nat) (g : G) (h : isLineString g = true) : isLineString (canonG d g) = true := by
  cases g with
  | lineString s | linearRing s => rfl
  | _ => simp [isLineString] at h

theorem isPolygon_canonG (d : Nat) (g : G) (h : isPolygon g = true) : isPolygon (canonG d g) = true := by
  cases g with
  | polygon sh hs => simp only [canonG]; split <;> rfl
  | _ => simp [isPolygon] at h

theorem isCurve_canonG (d : Nat) (g : G) (h : isCurve g = true) : isCurve (canonG d g) = true := by
  cases g with
  | lineString s | linearRing s | circularString s | compoundCurve gs => rfl
  | _ => simp [isCurve] at h

theorem isSurface_canonG (d : Nat) (g : G) (h : isSurface g = true) : isSurface (canonG d g) = true := by
  cases g with
  | polygon sh hs | curvePolygon gs => simp only [canonG]; split <;> rfl
  | _ => simp [isSurface] at h

theorem all_canon_of_all (d : Nat) (p : G → Bool) (hp : ∀ g, p g = true → p (canonG d g) = true) (gs : List G)
    (h : gs.all p = true) : gs.all (fun g => p (canonG d g)) = true := by
  induction gs with
  | nil => rfl
  | cons g gs ih =>
    simp only [List.all_cons, Bool.and_eq_true] at h ⊢
    exact ⟨hp g h.1, ih h.2⟩

theorem gIsEmpty_canonSec (z m : Bool) (g : G) : gIsEmpty (canonSec z m g) = gIsEmpty g := by
  cases g <;> simp [canonSec, gIsEmpty, maskS]

theorem gsAllEmpty_canonSec (z m : Bool) (gs : List G) : gsAllEmpty (gs.map (canonSec z m)) = gsAllEmpty gs := by
  induction gs with
  | nil => rfl
  | cons g gs ih => simp [gsAllEmpty, gIsEmpty_canonSec, ih]

theorem gIsEmpty_canonG_curve (d : Nat) (g : G) (h : isCurve g = true) : gIsEmpty (canonG d g) = gIsEmpty g := by
  cases g with
  | lineString s | linearRing s | circularString s | compoundCurve gs =>
    simp [canonG, gIsEmpty, ownS, maskS, gsAllEmpty_canonSec]
  | _ => simp [isCurve] at h

theorem any_nonEmpty_canonGs (d : Nat) (gs : List G) (h : gs.all isCurve = true) :
    (canonGs d gs).any (fun r => !gIsEmpty r) = gs.any (fun r => !gIsEmpty r) := by
  induction gs with
  | nil => rfl
  | cons g gs ih =>
    simp only [List.all_cons, Bool.and_eq_true] at h
    simp [canonGs, gIsEmpty_canonG_curve d g h.1, ih h.2]

/-- a typed collection (type code `code`, child cast `p`, size unit `unit`) is read back from the writer's bytes, given that
its element list is read back (`hN`) -/
theorem readGeom_coll (c : Cfg) (fuel : Nat) (o' : Order) (e : Int) (he : sridFits e = true) (code : Nat) (k : Kind)
    (hk : kindOfCode code = some k) (p : G → Bool) (unit : Nat) (mk : List G → G)
    (hbody : ∀ rd h bs, h.kind = k → readBody arc rd h bs = readColl rd p unit mk h bs)
    (gs : List G) (r : List UInt8) (hn : gs.length < 4294967296) (hlen : gs.length * unit ≤ (writeGs c gs).length)
    (hd : 1 + depL gs ≤ fuel + 1)
    (hN : ∀ f, depL gs ≤ f + 1 →
      readN (fun o bs => asChild p (readGeom arc (f + 1) o bs)) gs.length c.order (writeGs c gs ++ r)
        = .ok (canonGs c.dims gs, c.order, r)) :
    readGeom arc (fuel + 1) o' (collHeader c e code gs ++ writeGs c gs ++ r)
      = .ok ((mk (canonGs c.dims gs), if c.flavor = .ext then e else 0), c.order, r) := by
  have hpos := depL_pos gs
  cases fuel with
  | zero => omega
  | succ f =>
    have hm : gs.length % 4294967296 = gs.length := Nat.mod_eq_of_lt hn
    have hg : ¬ ((writeGs c gs ++ r).length < gs.length * unit) := by
      simp only [List.length_append]; omega
    rw [readGeom_succ]
    simp only [collHeader, List.append_assoc, readHeader_header c o' _ _ code e k hk he]
    rw [hbody _ _ _ rfl]
    simp only [readColl, readU32_putU32, hm, hg, if_false, hN f (by omega)]

end GeosModel.WKB
