import GeosModel.Proofs.WKB.Safe
import GeosModel.Proofs.WKB.Main
/-! C11 for the WKB reader: witness families (the invariant itself is in `Proofs/WKB/Safe.lean`).  The recursion depth is *not*
bounded by a constant (`nestBytes`); the allocation is linear (`allocGeom_le`) and the constant 4 of that bound is attained up to an
additive constant (`polyHoles`); `over` is the family of nested collections with over-claimed counts that `checks/C11.py` replays
on the C++. -/
namespace GeosModel.WKB
open GeosModel

variable {arc : ArcOracle}

/-- the configuration the witnesses are written in -/
def c0 : Cfg := ⟨4, .le, .ext, false⟩

/-- POINT (1 2) nested in `d` geometry collections -/
def nestG : Nat → G
  | 0 => .point ⟨false, false, [⟨0x3ff0000000000000, 0x4000000000000000, nanBits, nanBits⟩]⟩
  | d + 1 => .collection [nestG d]

def nestBytes (d : Nat) : List UInt8 := writeG c0 0 (nestG d)

theorem collection_bytes (g : G) :
    writeG c0 0 (.collection [g]) = header c0 (gHasZ g) (gHasM g) 7 0 ++ (putU32 .le 1 ++ writeG c0 0 g) := by
  simp [writeG, collHeader, writeGs, c0, outOrd_four, anySeqs, gHasZ, gHasM]

theorem nestBytes_length (d : Nat) : (nestBytes d).length = 9 * d + 21 := by
  induction d with
  | zero => decide
  | succ d ih =>
    simp only [nestBytes, nestG, collection_bytes] at ih ⊢
    simp only [List.length_append, putU32_length, ih]
    simp [header, c0, putU32_length]
    omega

/-- reading one collection level around an arbitrary child reader result -/
theorem readGeom_collection1 (fuel : Nat) (o' : Order) (z m : Bool) (inner r : List UInt8)
    (hlen : 9 ≤ inner.length) :
    readGeom arc (fuel + 1) o' (header c0 z m 7 0 ++ (putU32 .le 1 ++ inner) ++ r) =
      (match asChild (fun _ => true) (readGeom arc fuel .le (inner ++ r)) with
       | .error e => .error e
       | .ok (g, o, bs) => .ok ((.collection [g], 0), o, bs)) := by
  rw [readGeom_succ]
  have hh := readHeader_header c0 o' z m 7 0 .collection rfl sridFits_zero
  simp only [List.append_assoc, hh]
  simp only [readBody, readColl, c0, readU32_putU32]
  have hg : ¬ ((inner ++ r).length < 1 % 4294967296 * 9) := by
    simp only [List.length_append]; omega
  simp only [hg, if_false, show (1 : Nat) % 4294967296 = 1 from rfl, readN]
  cases h : asChild (fun _ => true) (readGeom arc fuel Order.le (inner ++ r)) with
  | error e => simp
  | ok v => obtain ⟨g, o, b⟩ := v; simp

/-- with at least `d + 1` levels allowed the `d`-fold nested input is read … -/
theorem readGeom_nest_ok : ∀ (d fuel : Nat) (o' : Order) (r : List UInt8), d ≤ fuel →
    readGeom arc (fuel + 1) o' (nestBytes d ++ r) = .ok ((nestG d, 0), .le, r)
  | 0, fuel, o', r, _ => by
    have := readGeom_writeG (arc := arc) c0 (nestG 0) (by simp [nestG, WFG]) (by decide) fuel o' 0 r (by simp [nestG, dep]) sridFits_zero
    simpa [nestBytes, c0, nestG, canonG, ownS, maskS, maskC, pointOfSeq, outOrd, toN, isNaNBits] using this
  | d + 1, fuel, o', r, hd => by
    cases fuel with
    | zero => omega
    | succ f =>
      have hl : 9 ≤ (nestBytes d).length := by rw [nestBytes_length]; omega
      have ih := readGeom_nest_ok d f .le r (by omega)
      have := readGeom_collection1 (arc := arc) (f + 1) o' (gHasZ (nestG d)) (gHasM (nestG d)) (nestBytes d) r hl
      simp only [nestBytes, nestG, collection_bytes] at this ih ⊢
      rw [this, ih]
      rfl

/-- … and with only `d` levels it is not: the reader really nests `d + 1` activations deep -/
theorem readGeom_nest_fuel : ∀ (d : Nat) (o' : Order) (r : List UInt8),
    readGeom arc d o' (nestBytes d ++ r) = .error .fuel
  | 0, o', r => rfl
  | d + 1, o', r => by
    have hl : 9 ≤ (nestBytes d).length := by rw [nestBytes_length]; omega
    have ih := readGeom_nest_fuel d .le r
    have := readGeom_collection1 (arc := arc) d o' (gHasZ (nestG d)) (gHasM (nestG d)) (nestBytes d) r hl
    simp only [nestBytes, nestG, collection_bytes] at this ih ⊢
    rw [this, ih]
    rfl

/-- `k` nested collections, level `j` (from the inside) claiming `j − 1` elements — exactly what passes
`minMemSize` (`remaining / 9`) — and nothing else: 9·k bytes.  A reader that sizes its child vectors from the claimed count
requests `4 k (k − 1)` bytes on this family (the model follows /repo a208e3db7, where they grow by `push_back`); it is the
`wkb-over` witness of `checks/C11.py` (`C11.WKB.wkbOver_eq`, `C11.WKB.alloc_over_linear`). -/
def over : Nat → List UInt8
  | 0 => []
  | k + 1 => header c0 false false 7 0 ++ (putU32 .le k ++ over k)

theorem over_length (k : Nat) : (over k).length = 9 * k := by
  induction k with
  | zero => rfl
  | succ k ih =>
    simp only [over, List.length_append, putU32_length, ih]
    simp [header, c0, putU32_length]
    omega

/-- `k` empty linear rings (a zero size word each) -/
def emptyRings : Nat → List UInt8
  | 0 => []
  | k + 1 => putU32 .le 0 ++ emptyRings k

theorem emptyRings_length (k : Nat) : (emptyRings k).length = 4 * k := by
  induction k with
  | zero => rfl
  | succ k ih => simp only [emptyRings, List.length_append, putU32_length, ih]; omega

/-- a polygon of `k + 1` empty rings (an empty shell and `k` empty holes): `13 + 4 k` bytes -/
def polyHoles (k : Nat) : List UInt8 := header c0 false false 3 0 ++ (putU32 .le (k + 1) ++ emptyRings (k + 1))

theorem polyHoles_length (k : Nat) : (polyHoles k).length = 13 + 4 * k := by
  simp only [polyHoles, List.length_append, putU32_length, emptyRings_length]
  simp [header, c0, putU32_length]
  omega

theorem readRing_empty (o : Order) (z m : Bool) (r : List UInt8) :
    readRing o z m (putU32 o 0 ++ r) = .ok (⟨z, m, []⟩, r) := by
  simp [readRing, readSizedSeq, readU32_putU32, readCoordSeq, readCoords, lineOK, ringOK]

theorem allocSized_empty (o : Order) (z m : Bool) (r : List UInt8) : allocSized o z m (putU32 o 0 ++ r) = 0 := by
  simp [allocSized, readU32_putU32, seqAlloc]

/-- every empty hole is read, and pushed: one slot each -/
theorem allocRings_empty (z m : Bool) : ∀ (k : Nat) (r : List UInt8),
    allocRings .le z m k (emptyRings k ++ r) = 16 * k
  | 0, r => by simp [allocRings]
  | k + 1, r => by
    simp only [emptyRings, List.append_assoc, allocRings, allocSized_empty, readRing_empty, slot,
      allocRings_empty z m k r]
    rw [Nat.zero_add, Nat.mul_succ, Nat.add_comm]

/-- the polygon with `k` empty holes is charged `16 k` on `13 + 4 k` bytes: the bound `4 · length` is attained up to
the additive constant 52 -/
theorem allocGeom_polyHoles (k fuel : Nat) (o : Order) (hk : k + 1 < 4294967296) :
    allocGeom arc (fuel + 1) o (polyHoles k) = 16 * k := by
  have hh := readHeader_header c0 o false false 3 0 .polygon rfl sridFits_zero
    (putU32 .le (k + 1) ++ emptyRings (k + 1))
  have hkm : (k + 1) % 4294967296 = k + 1 := by omega
  have hg : ¬ ((emptyRings (k + 1)).length < (k + 1) * 4) := by rw [emptyRings_length]; omega
  have ho : c0.order = .le := rfl
  have ha := allocRings_empty false false k []
  simp only [List.append_nil] at ha
  simp only [polyHoles, allocGeom, hh, allocBody, ho, readU32_putU32, hkm, hg, if_false]
  simp only [emptyRings, allocSized_empty, readRing_empty, ha]
  exact Nat.zero_add _

theorem readRings_empty (z m : Bool) : ∀ (k : Nat) (r : List UInt8),
    readRings .le z m k (emptyRings k ++ r) = .ok (List.replicate k ⟨z, m, []⟩, r)
  | 0, r => by simp [readRings, emptyRings]
  | k + 1, r => by
    simp only [emptyRings, List.append_assoc, readRings, readRing_empty, readRings_empty z m k r, List.replicate_succ]

/-- … and it is accepted (empty shell, only empty holes) -/
theorem readGeom_polyHoles (k fuel : Nat) (o : Order) (hk : k + 1 < 4294967296) :
    readGeom arc (fuel + 1) o (polyHoles k) =
      .ok ((.polygon ⟨false, false, []⟩ (List.replicate k ⟨false, false, []⟩), 0), .le, []) := by
  have hh := readHeader_header c0 o false false 3 0 .polygon rfl sridFits_zero
    (putU32 .le (k + 1) ++ emptyRings (k + 1))
  have hkm : (k + 1) % 4294967296 = k + 1 := by omega
  have hg : ¬ ((emptyRings (k + 1)).length < (k + 1) * 4) := by rw [emptyRings_length]; omega
  have ho : c0.order = .le := rfl
  have hr := readRings_empty false false k []
  simp only [List.append_nil] at hr
  rw [readGeom_succ]
  simp only [polyHoles, hh, readBody, ho, readU32_putU32, hkm, hg, if_false]
  simp only [emptyRings, readRing_empty, hr]
  simp [c0]

end GeosModel.WKB
