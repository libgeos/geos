import GeosModel.Model.WKB.Spec
import GeosModel.Model.WKB.Resource
/-!
C11 for the WKB reader model: ONE invariant of the reader recursion, carried through every reader function once, says what
the three clauses need —

* **reject or well-formed**: whatever is returned satisfies every constructor invariant (`read_wf`);
* **depth**: an error is never "out of fuel" when the budget exceeds `input length / 5` — the fuel of `readGeom` is the
  recursion-depth budget, and every nesting level consumes at least its five-byte header (`readGeom_nofuel`, `read_fuel_ok`);
* **allocation**: the accounting of `Model/WKB/Resource.lean` is LINEAR in the input, for every input and every depth
  budget: `allocGeom arc fuel o bs ≤ 4 · bs.length` (`allocGeom_le`); a successful read is charged by what it consumed
  (`allocGeom_consumed`), so in particular it hands back a suffix no longer than its input.

Accounting (potential argument, 4 bytes of allocation per input byte):
* a coordinate sequence that is read successfully consumed exactly the bytes it allocated (`readCoords_spec`) plus
  its 4-byte size word; one that fails after its `minMemSize` guard allocated at most twice the bytes that were
  available (32 bytes per XYZM coordinate against the 16 the guard asks for) — and a failure ends the whole read;
* every `readGeometry` that succeeds consumed at least the 5-byte header, which pays (4 · 5 ≥ 16) for the slot its
  parent pushes for it: invariant `RdInv` — success: `alloc + slot + 4 · rest ≤ 4 · given`, failure: `alloc ≤ 4 · given`;
* every polygon hole that is read consumed at least its 4-byte size word, which pays (4 · 4 = 16) for its slot: this is
  the tight case, a polygon with `k` empty holes charges `16 k` on `13 + 4 k` bytes.

The witness families (depth unbounded, constant 4 attained) are in `Proofs/WKB/Depth.lean`; the WKT half of C11 is
`Proofs/Readers/WKTSafe.lean` and `Proofs/Readers/WKTDepth.lean`.
-/
namespace GeosModel.WKB
open GeosModel

variable {arc : ArcOracle}

theorem readByte_len {bs : List UInt8} {b : UInt8} {r : List UInt8} (h : readByte bs = .ok (b, r)) :
    r.length + 1 = bs.length := by
  cases bs with
  | nil => simp [readByte] at h
  | cons a t => simp only [readByte, Except.ok.injEq, Prod.mk.injEq] at h; rw [← h.2]; simp

theorem readU32_len {o : Order} {bs : List UInt8} {n : Nat} {r : List UInt8} (h : readU32 o bs = .ok (n, r)) :
    r.length + 4 = bs.length := by
  match bs, h with
  | a :: b :: c :: d :: t, h =>
    simp only [readU32, Except.ok.injEq, Prod.mk.injEq] at h; rw [← h.2]; simp

theorem readU32_err {o : Order} {bs : List UInt8} {e : Err} (h : readU32 o bs = .error e) : e = .eof := by
  unfold readU32 at h
  split at h
  · simp at h
  · simp only [Except.error.injEq] at h; exact h.symm

theorem readU64_len {o : Order} {bs : List UInt8} {n : UInt64} {r : List UInt8} (h : readU64 o bs = .ok (n, r)) :
    r.length + 8 = bs.length := by
  match bs, h with
  | a :: b :: c :: d :: e :: f :: g :: i :: t, h =>
    simp only [readU64, Except.ok.injEq, Prod.mk.injEq] at h; rw [← h.2]; simp

theorem readU64_err {o : Order} {bs : List UInt8} {e : Err} (h : readU64 o bs = .error e) : e = .eof := by
  unfold readU64 at h
  split at h
  · simp at h
  · simp only [Except.error.injEq] at h; exact h.symm

theorem optU64_len {o : Order} {c : Bool} {bs : List UInt8} {n : UInt64} {r : List UInt8}
    (h : (if c then readU64 o bs else .ok (nanBits, bs)) = .ok (n, r)) : r.length + 8 * toN c = bs.length := by
  cases c
  · simp only [Bool.false_eq_true, if_false, Except.ok.injEq, Prod.mk.injEq] at h; rw [← h.2]; rfl
  · exact readU64_len h

theorem optU64_err {o : Order} {c : Bool} {bs : List UInt8} {e : Err}
    (h : (if c then readU64 o bs else .ok (nanBits, bs)) = .error e) : e = .eof := by
  cases c
  · simp at h
  · exact readU64_err h

/-! ### coordinate sequences -/

/-- the coordinate loop returns `n` coordinates, consumes exactly what `CoordinateSequence(n, hasZ, hasM)` holds, and fails
only at the end of the input -/
theorem readCoords_spec (o : Order) (z m : Bool) : ∀ (n : Nat) (bs : List UInt8),
    match readCoords o z m n bs with
    | .ok (ps, r) => ps.length = n ∧ r.length + seqAlloc z m n = bs.length
    | .error e => e = .eof
  | 0, bs => by simp [readCoords, seqAlloc]
  | n + 1, bs => by
    simp only [readCoords]
    cases h1 : readU64 o bs with
    | error e => exact readU64_err h1
    | ok v1 =>
      obtain ⟨x, b1⟩ := v1
      simp only
      cases h2 : readU64 o b1 with
      | error e => exact readU64_err h2
      | ok v2 =>
        obtain ⟨y, b2⟩ := v2
        simp only
        cases h3 : (if z then readU64 o b2 else .ok (nanBits, b2)) with
        | error e => exact optU64_err h3
        | ok v3 =>
          obtain ⟨zv, b3⟩ := v3
          simp only
          cases h4 : (if m then readU64 o b3 else .ok (nanBits, b3)) with
          | error e => exact optU64_err h4
          | ok v4 =>
            obtain ⟨mv, b4⟩ := v4
            have ih := readCoords_spec o z m n b4
            simp only
            generalize readCoords o z m n b4 = res at ih ⊢
            obtain e | ⟨ps, b5⟩ := res
            · exact ih
            · have l1 := readU64_len h1; have l2 := readU64_len h2
              have l3 := optU64_len h3; have l4 := optU64_len h4
              refine ⟨by simp [ih.1], ?_⟩
              have e1 : seqAlloc z m (n + 1) = seqAlloc z m n + (16 + 8 * toN z + 8 * toN m) := by
                simp only [seqAlloc, Nat.mul_succ]; omega
              have := ih.2
              omega

theorem seqAlloc_le (z m : Bool) (n : Nat) : seqAlloc z m n ≤ 32 * n := by
  have : 8 * (2 + toN z + toN m) ≤ 32 := by cases z <;> cases m <;> decide
  exact Nat.mul_le_mul_right n this

theorem readCoordSeq_spec (o : Order) (z m : Bool) (n : Nat) (bs : List UInt8) :
    match readCoordSeq o z m n bs with
    | .ok (s, r) => s.pts.length = n ∧ r.length + seqAlloc z m n = bs.length
    | .error e => e ≠ .fuel := by
  have h := readCoords_spec o z m n bs
  simp only [readCoordSeq]
  by_cases hg : bs.length < n * 16
  · simp [hg]
  · simp only [hg, if_false]
    generalize readCoords o z m n bs = res at h ⊢
    obtain e | ⟨ps, r⟩ := res
    · simp [h]
    · exact h

/-- outcome of a sized-sequence reader with its allocation `a`: success = the sequence satisfies `Q` and exactly `a` bytes
plus the 4-byte size word were consumed; failure = at most twice the available bytes were requested, and it is not "fuel" -/
def SeqInv (Q : CSeq → Prop) (bs : List UInt8) (a : Nat) : Except Err (CSeq × List UInt8) → Prop
  | .ok (s, r) => Q s ∧ a + r.length + 4 = bs.length
  | .error e => a ≤ 2 * bs.length ∧ e ≠ .fuel

theorem readSizedSeq_inv (o : Order) (z m : Bool) (bs : List UInt8) :
    SeqInv (fun _ => True) bs (allocSized o z m bs) (readSizedSeq o z m bs) := by
  simp only [allocSized, readSizedSeq]
  cases h1 : readU32 o bs with
  | error e => simp [SeqInv, readU32_err h1]
  | ok v1 =>
    obtain ⟨n, b1⟩ := v1
    have l1 := readU32_len h1
    have h2 := readCoordSeq_spec o z m n b1
    have hs := seqAlloc_le z m n
    simp only
    split
    · simp [SeqInv]
    · generalize readCoordSeq o z m n b1 = res at h2 ⊢
      obtain e | ⟨s, r⟩ := res
      · exact ⟨by omega, h2⟩
      · exact ⟨trivial, by omega⟩

theorem readRing_inv (o : Order) (z m : Bool) (bs : List UInt8) :
    SeqInv (fun s => (lineOK s && ringOK s) = true) bs (allocSized o z m bs) (readRing o z m bs) := by
  have h := readSizedSeq_inv o z m bs
  simp only [readRing]
  generalize readSizedSeq o z m bs = res at h ⊢
  obtain e | ⟨s, r⟩ := res
  · exact h
  · simp only
    split
    · next hok => exact ⟨hok, h.2⟩
    · exact ⟨by have := h.2; omega, by simp⟩

theorem readRings_inv (o : Order) (z m : Bool) : ∀ (k : Nat) (bs : List UInt8),
    match readRings o z m k bs with
    | .ok (ss, r) => ss.all (fun r => lineOK r && ringOK r) = true ∧ allocRings o z m k bs + 4 * r.length ≤ 4 * bs.length
    | .error e => allocRings o z m k bs ≤ 4 * bs.length ∧ e ≠ .fuel
  | 0, bs => by simp [allocRings, readRings]
  | k + 1, bs => by
    have h1 := readRing_inv o z m bs
    simp only [allocRings, readRings, slot]
    generalize readRing o z m bs = res at h1 ⊢
    obtain e | ⟨s, b1⟩ := res
    · simp only; exact ⟨by have := h1.1; omega, h1.2⟩
    · have h2 := readRings_inv o z m k b1
      simp only
      generalize readRings o z m k b1 = res2 at h2 ⊢
      obtain e | ⟨ss, b2⟩ := res2
      · exact ⟨by have := h1.2; have := h2.1; omega, h2.2⟩
      · exact ⟨by simp [h1.1, h2.1], by have := h1.2; have := h2.2; omega⟩

/-! ### children -/

/-- **the invariant** of a nested-geometry reader `rd` with its allocation `al`: what it returns is well formed and has paid
for itself and for the slot its parent pushes; a failure stays within the 4-per-byte budget and is not "out of fuel" on
inputs shorter than `B` -/
def RdInv (arc : ArcOracle) (B : Nat) (rd : Order → List UInt8 → GRes) (al : Order → List UInt8 → Nat) : Prop :=
  ∀ o x, match rd o x with
    | .ok ((g, _), _, r) => WFG arc g = true ∧ al o x + slot + 4 * r.length ≤ 4 * x.length
    | .error e => al o x ≤ 4 * x.length ∧ (x.length < B → e ≠ .fuel)

/-- the same for a child reader that has also cast its result (`p`) -/
def ChildInv (arc : ArcOracle) (B : Nat) (p : G → Bool) (f : Order → List UInt8 → Except Err (G × Order × List UInt8))
    (al : Order → List UInt8 → Nat) : Prop :=
  ∀ o x, match f o x with
    | .ok (g, _, r) => (p g = true ∧ WFG arc g = true) ∧ al o x + slot + 4 * r.length ≤ 4 * x.length
    | .error e => al o x ≤ 4 * x.length ∧ (x.length < B → e ≠ .fuel)

variable {B : Nat} {rd : Order → List UInt8 → GRes} {al : Order → List UInt8 → Nat}

theorem asChild_inv (h : RdInv arc B rd al)
    (p : G → Bool) : ChildInv arc B p (fun o bs => asChild p (rd o bs)) al := by
  intro o x
  have := h o x
  simp only
  generalize rd o x = res at this ⊢
  obtain e | ⟨⟨g, s⟩, o1, r⟩ := res
  · exact this
  · simp only [asChild]
    by_cases hp : p g = true
    · rw [if_pos hp]; exact ⟨⟨hp, this.1⟩, this.2⟩
    · rw [if_neg hp]; exact ⟨by have := this.2; omega, fun _ => by simp⟩

theorem readN_inv {p : G → Bool} {f : Order → List UInt8 → Except Err (G × Order × List UInt8)}
    (hf : ChildInv arc B p f al) : ∀ (n : Nat) (o : Order) (x : List UInt8),
    match readN f n o x with
    | .ok (gs, _, r) => (gs.all p = true ∧ WFGs arc gs = true) ∧ allocN f al n o x + 4 * r.length ≤ 4 * x.length
    | .error e => allocN f al n o x ≤ 4 * x.length ∧ (x.length < B → e ≠ .fuel)
  | 0, o, x => by simp [readN, allocN, WFGs]
  | n + 1, o, x => by
    have h1 := hf o x
    simp only [readN, allocN]
    generalize f o x = res at h1 ⊢
    obtain e | ⟨g, o1, r1⟩ := res
    · simp only; exact h1
    · have h2 := readN_inv hf n o1 r1
      simp only
      generalize readN f n o1 r1 = res2 at h2 ⊢
      obtain e | ⟨gs, o2, r2⟩ := res2
      · exact ⟨by have := h1.2; have := h2.1; omega, fun hx => h2.2 (by have := h1.2; omega)⟩
      · exact ⟨⟨by simp [h1.1.1, h2.1.1], by simp [WFGs, h1.1.2, h2.1.2]⟩, by have := h1.2; have := h2.2; omega⟩

/-! ### one level -/

/-- outcome of reading a body (what follows the header) with allocation `a` -/
def BodyInv (arc : ArcOracle) (B : Nat) (bs : List UInt8) (a : Nat) : GRes → Prop
  | .ok ((g, _), _, r) => WFG arc g = true ∧ a + 4 * r.length ≤ 4 * bs.length
  | .error e => a ≤ 4 * bs.length ∧ (bs.length < B → e ≠ .fuel)

/-- a count word and its size guard in front of a body `k`: the invariant of `k` on what follows the count word is the invariant
of the whole on `bs` (the four bytes of the count word are not charged) -/
theorem counted_inv (o : Order) (unit : Nat) (a : Nat → List UInt8 → Nat) (k : Nat → List UInt8 → GRes) (bs : List UInt8)
    (hk : ∀ n b1, b1.length + 4 = bs.length → BodyInv arc B b1 (a n b1) (k n b1)) :
    BodyInv arc B bs
      (match readU32 o bs with
       | .error _ => 0
       | .ok (n, bs) => if bs.length < n * unit then 0 else a n bs)
      (match readU32 o bs with
       | .error e => .error e
       | .ok (n, bs) => if bs.length < n * unit then .error .tooSmall else k n bs) := by
  cases h1 : readU32 o bs with
  | error e => simp [BodyInv, readU32_err h1]
  | ok v1 =>
    obtain ⟨n, b1⟩ := v1
    have l1 := readU32_len h1
    have := hk n b1 l1
    simp only
    split
    · simp [BodyInv]
    · generalize k n b1 = res at this ⊢
      obtain e | ⟨⟨g, s⟩, o2, r⟩ := res
      · exact ⟨by have := this.1; omega, fun hx => this.2 (by omega)⟩
      · exact ⟨this.1, by have := this.2; omega⟩

/-- count, size guard, child loop, and a last step `k` that keeps the rest of the input: the typed collections (`k` = the
constructor) and the compound curve (`k` = `checkContig`, then the constructor) -/
theorem collBody_inv (hrd : RdInv arc B rd al)
    (p : G → Bool) (unit : Nat) (k : List G → Order → List UInt8 → GRes)
    (hk : ∀ gs o r, gs.all p = true → WFGs arc gs = true →
      match k gs o r with
      | .ok ((g, _), _, r') => WFG arc g = true ∧ r' = r
      | .error e => e ≠ .fuel)
    (h : Hdr) (bs : List UInt8) :
    BodyInv arc B bs (allocColl rd al p unit h bs)
      (match readU32 h.order bs with
       | .error e => .error e
       | .ok (n, bs) =>
         if bs.length < n * unit then .error .tooSmall else
         match readN (fun o bs => asChild p (rd o bs)) n h.order bs with
         | .error e => .error e
         | .ok (gs, o, bs) => k gs o bs) := by
  simp only [allocColl]
  refine counted_inv h.order unit _ _ bs (fun n b1 _ => ?_)
  have hN := readN_inv (asChild_inv hrd p) n h.order b1
  generalize readN (fun o bs => asChild p (rd o bs)) n h.order b1 = res at hN ⊢
  obtain e | ⟨gs, o2, r⟩ := res
  · exact hN
  · have := hk gs o2 r hN.1.1 hN.1.2
    simp only
    generalize k gs o2 r = res2 at this ⊢
    obtain e | ⟨⟨g, s⟩, o3, r'⟩ := res2
    · exact ⟨by have := hN.2; omega, fun _ => this⟩
    · exact ⟨this.1, by rw [this.2]; exact hN.2⟩

theorem readColl_inv (hrd : RdInv arc B rd al)
    (p : G → Bool) (unit : Nat) (mk : List G → G) (hmk : ∀ gs, gs.all p = true → WFGs arc gs = true → WFG arc (mk gs) = true)
    (h : Hdr) (bs : List UInt8) : BodyInv arc B bs (allocColl rd al p unit h bs) (readColl rd p unit mk h bs) :=
  collBody_inv hrd p unit (fun gs o bs => .ok ((mk gs, h.srid), o, bs)) (fun gs _ _ h1 h2 => ⟨hmk gs h1 h2, rfl⟩) h bs

theorem pointOfSeq_wf (s : CSeq) (h : s.pts.length = 1) : WFG arc (pointOfSeq s) = true := by
  unfold pointOfSeq
  split
  · split <;> simp [WFG, h]
  · simp [WFG, h]

theorem checkContig_err (gs : List G) (e : Err) (h : checkContig gs = .error e) : e ≠ .fuel := by
  induction gs with
  | nil => simp [checkContig] at h
  | cons a rest ih =>
    cases rest with
    | nil => simp [checkContig] at h
    | cons b rest =>
      simp only [checkContig] at h
      split at h
      · split at h
        · exact ih h
        · simp only [Except.error.injEq] at h; rw [← h]; simp
      · simp only [Except.error.injEq] at h; rw [← h]; simp

/-- a simple curve: sized sequence, then the constructor's check `ok` -/
theorem readCurve_inv (o : Order) (z m : Bool) (bs : List UInt8) (ok : CSeq → Bool) (mk : CSeq → G) (s0 : Int)
    (hmk : ∀ s, ok s = true → WFG arc (mk s) = true) :
    BodyInv arc B bs (allocSized o z m bs)
      (match readSizedSeq o z m bs with
       | .error e => .error e
       | .ok (s, bs) => if ok s then .ok ((mk s, s0), o, bs) else .error .construct) := by
  have ha := readSizedSeq_inv o z m bs
  generalize readSizedSeq o z m bs = res at ha ⊢
  obtain e | ⟨s, r⟩ := res
  · exact ⟨by have := ha.1; omega, fun _ => ha.2⟩
  · simp only
    split
    · next hok => exact ⟨hmk s hok, by have := ha.2; omega⟩
    · exact ⟨by have := ha.2; omega, fun _ => by simp⟩

theorem readBody_inv (hrd : RdInv arc B rd al)
    (h : Hdr) (bs : List UInt8) : BodyInv arc B bs (allocBody rd al h bs) (readBody arc rd h bs) := by
  simp only [readBody, allocBody]
  cases h.kind
  case point =>
    have h1 := readCoordSeq_spec h.order h.hasZ h.hasM 1 bs
    have hs := seqAlloc_le h.hasZ h.hasM 1
    simp only
    generalize readCoordSeq h.order h.hasZ h.hasM 1 bs = res at h1 ⊢
    obtain e | ⟨s, r⟩ := res
    · exact ⟨by split <;> omega, fun _ => h1⟩
    · have hg : ¬ bs.length < 16 := by have := h1.2; simp only [seqAlloc] at this; omega
      simp only [hg, if_false]
      exact ⟨pointOfSeq_wf s h1.1, by have := h1.2; omega⟩
  case lineString =>
    simp only
    exact readCurve_inv _ _ _ bs lineOK .lineString _ (fun s hs => by simpa [WFG] using hs)
  case circularString =>
    simp only
    exact readCurve_inv _ _ _ bs (circOK arc) .circularString _ (fun s hs => by simpa [WFG] using hs)
  case polygon =>
    simp only
    refine counted_inv h.order 4 _ _ bs (fun n b1 _ => ?_)
    cases n with
    | zero => simp only; exact ⟨by simp [WFG, lineOK, ringOK], by omega⟩
    | succ k =>
      have ha := readRing_inv h.order h.hasZ h.hasM b1
      simp only
      generalize readRing h.order h.hasZ h.hasM b1 = res at ha ⊢
      obtain e | ⟨sh, b2⟩ := res
      · simp only; exact ⟨by have := ha.1; omega, fun _ => ha.2⟩
      · have hb := readRings_inv h.order h.hasZ h.hasM k b2
        simp only
        generalize readRings h.order h.hasZ h.hasM k b2 = res2 at hb ⊢
        obtain e | ⟨hs, b3⟩ := res2
        · simp only; exact ⟨by have := ha.2; have := hb.1; omega, fun _ => hb.2⟩
        · simp only
          split
          · exact ⟨by have := ha.2; have := hb.2; omega, fun _ => by simp⟩
          · next hc =>
            refine ⟨?_, by have := ha.2; have := hb.2; omega⟩
            simp only [WFG, ha.1, hb.1, Bool.true_and, Bool.not_eq_true']
            simpa using hc
  case compoundCurve =>
    simp only
    refine collBody_inv hrd isSimpleCurve 9 _ (fun gs o r h1 h2 => ?_) h bs
    cases hcc : checkContig gs with
    | error e => exact checkContig_err gs e hcc
    | ok u => exact ⟨by simp [WFG, h1, h2, hcc, errOk], rfl⟩
  case curvePolygon =>
    simp only
    refine counted_inv h.order 4 _ _ bs (fun n b1 _ => ?_)
    cases n with
    | zero => simp only; exact ⟨by simp [WFG, WFGs, isCurve, lineOK, ringOK, gIsEmpty], by omega⟩
    | succ k =>
      have hsh := asChild_inv hrd isCurve h.order b1
      simp only at hsh ⊢
      generalize asChild isCurve (rd h.order b1) = res at hsh ⊢
      obtain e | ⟨sh, o2, b2⟩ := res
      · simp only; exact ⟨by have := hsh.1; omega, hsh.2⟩
      · have hN := readN_inv (asChild_inv hrd isCurve) k o2 b2
        simp only
        generalize readN (fun o bs => asChild isCurve (rd o bs)) k o2 b2 = res2 at hN ⊢
        obtain e | ⟨hs, o3, b3⟩ := res2
        · simp only
          exact ⟨by have := hsh.2; have := hN.1; omega, fun hx => hN.2 (by have := hsh.2; omega)⟩
        · simp only
          split
          · exact ⟨by have := hsh.2; have := hN.2; omega, fun _ => by simp⟩
          · next hc =>
            refine ⟨?_, by have := hsh.2; have := hN.2; omega⟩
            simp only [WFG, WFGs, List.all_cons, hsh.1.1, hsh.1.2, hN.1.1, hN.1.2, Bool.true_and, Bool.not_eq_true']
            simpa using hc
  case multiPoint | multiLineString | multiPolygon | multiCurve | multiSurface =>
    simp only
    exact readColl_inv hrd _ _ _ (fun gs h1 h2 => by simp [WFG, h1, h2]) h bs
  case collection =>
    simp only
    exact readColl_inv hrd _ 9 _ (fun gs _ h2 => by simp [WFG, h2]) h bs

/-- the header takes at least five bytes and never fails for lack of fuel -/
theorem readHeader_good (o : Order) (bs : List UInt8) :
    match readHeader o bs with
    | .ok (_, r) => r.length + 5 ≤ bs.length
    | .error e => e ≠ .fuel := by
  cases bs with
  | nil => simp [readHeader, readByte]
  | cons b b1 =>
    simp only [readHeader, readByte, List.length_cons]
    generalize (if b = 1 then Order.le else if b = 0 then Order.be else o) = o'
    cases h2 : readU32 o' b1 with
    | error e => simp [readU32_err h2]
    | ok v2 =>
      obtain ⟨t, b2⟩ := v2
      have l2 := readU32_len h2
      simp only
      rcases decodeType t with ⟨gt, z, m, _ | _⟩ <;> simp only
      · cases kindOfCode gt
        · simp
        · simp only; omega
      · cases h3 : readU32 o' b2 with
        | error e => simp [readU32_err h3]
        | ok v3 =>
          obtain ⟨v, b3⟩ := v3
          have l3 := readU32_len h3
          simp only
          cases kindOfCode gt
          · simp
          · simp only; omega

/-- **the invariant holds at every depth budget**; "out of fuel" needs at least five bytes per level -/
theorem readGeom_inv : ∀ (fuel : Nat), RdInv arc (5 * fuel) (readGeom arc fuel) (allocGeom arc fuel)
  | 0 => by intro o x; simp [readGeom, allocGeom]
  | fuel + 1 => by
    intro o x
    have hh := readHeader_good o x
    simp only [readGeom, allocGeom]
    generalize readHeader o x = res at hh ⊢
    obtain e | ⟨hd, b1⟩ := res
    · exact ⟨Nat.zero_le _, fun _ => hh⟩
    · have hb := readBody_inv (readGeom_inv fuel) hd b1
      simp only at hh ⊢
      generalize readBody arc (readGeom arc fuel) hd b1 = res2 at hb ⊢
      obtain e | ⟨⟨g, s⟩, o2, r⟩ := res2
      · exact ⟨by have := hb.1; omega, fun hx => hb.2 (by omega)⟩
      · exact ⟨hb.1, by have := hb.2; simp only [slot]; omega⟩

theorem read_wf (bs : List UInt8) (g : Geom) (h : read arc bs = .ok g) : WFG arc g.g = true := by
  have := readGeom_inv (arc := arc) (bs.length + 1) .le bs
  simp only [read] at h
  generalize readGeom arc (bs.length + 1) .le bs = res at this h
  obtain e | ⟨⟨g0, s0⟩, o0, b0⟩ := res
  · cases h
  · cases h; exact this.1

/-- **fuel = recursion-depth budget**: with more than `length / 5` levels allowed the reader never runs out -/
theorem readGeom_nofuel (fuel : Nat) (o : Order) (bs : List UInt8) (h : bs.length < 5 * fuel) :
    readGeom arc fuel o bs ≠ .error .fuel := by
  have := readGeom_inv (arc := arc) fuel o bs
  intro he
  rw [he] at this
  exact this.2 h rfl

theorem read_fuel_ok (bs : List UInt8) : read arc bs ≠ .error .fuel := by
  have := readGeom_nofuel (arc := arc) (bs.length + 1) .le bs (by omega)
  simp only [read]
  cases h : readGeom arc (bs.length + 1) .le bs with
  | error e => intro he; simp only [Except.error.injEq] at he; exact this (he ▸ h)
  | ok v => obtain ⟨⟨g, s⟩, o, b⟩ := v; simp

/-- a successful read is charged at most 4 bytes per byte it CONSUMED (minus the 16 its own slot costs its parent) -/
theorem allocGeom_consumed (fuel : Nat) (o o' : Order) (bs bs' : List UInt8) (r : G × Int)
    (h : readGeom arc fuel o bs = .ok (r, o', bs')) : allocGeom arc fuel o bs + 16 + 4 * bs'.length ≤ 4 * bs.length := by
  have := readGeom_inv (arc := arc) fuel o bs
  rw [h] at this
  exact this.2

theorem allocGeom_le (fuel : Nat) (o : Order) (bs : List UInt8) : allocGeom arc fuel o bs ≤ 4 * bs.length := by
  have := readGeom_inv (arc := arc) fuel o bs
  cases h : readGeom arc fuel o bs with
  | error e => rw [h] at this; exact this.1
  | ok v => obtain ⟨r, o2, b⟩ := v; have := allocGeom_consumed fuel o o2 bs b r h; omega

end GeosModel.WKB
