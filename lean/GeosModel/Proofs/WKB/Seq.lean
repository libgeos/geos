import GeosModel.Proofs.WKB.Bytes
/-! Ordinate-set and coordinate-sequence level lemmas for C09: `outOrd` in closed form, byte counts, what the reader returns
on the writer's sequences. -/
namespace GeosModel.WKB
open GeosModel

variable {arc : ArcOracle}

/-- `outOrd` in closed form: Z is kept from dimension 3 on, M from dimension 3 on, from 4 on when Z is there -/
theorem outOrd_eq (d : Nat) (z m : Bool) :
    outOrd d z m = (z && decide (3 ≤ d), m && decide (3 + toN z ≤ d)) := by
  cases z <;> cases m <;> simp [outOrd, toN]
  · split <;> simp [*]
  · split <;> simp [*]
  · by_cases h4 : 4 ≤ d
    · simp [h4, show 3 ≤ d by omega]
    · by_cases h3 : 3 ≤ d <;> simp [h3, h4]

theorem outOrd_four (z m : Bool) : outOrd 4 z m = (z, m) := by
  cases z <;> cases m <;> rfl

theorem outOrd_lt3 (d : Nat) (z m : Bool) (h : d < 3) : outOrd d z m = (false, false) := by
  simp [outOrd_eq, show ¬ 3 ≤ d by omega, show ¬ 3 + toN z ≤ d by omega]

theorem outOrd_fst_imp (d : Nat) (z m : Bool) (h : (outOrd d z m).1 = true) : z = true := by
  rw [outOrd_eq] at h; exact (Bool.and_eq_true_iff.1 h).1

theorem outOrd_snd_imp (d : Nat) (z m : Bool) (h : (outOrd d z m).2 = true) : m = true := by
  rw [outOrd_eq] at h; exact (Bool.and_eq_true_iff.1 h).1

theorem outOrd_idem (d : Nat) (z m : Bool) :
    outOrd d (outOrd d z m).1 (outOrd d z m).2 = outOrd d z m := by
  simp only [outOrd_eq]
  by_cases h3 : 3 ≤ d
  · simp [h3]
  · have h4 : ∀ b, ¬ 3 + toN b ≤ d := fun b => by omega
    simp [h3, h4]

/-! ### byte counts and reading back -/

theorem putU64_length (o : Order) (u : UInt64) : (putU64 o u).length = 8 := by
  cases o <;> simp [putU64]

theorem putU32_length (o : Order) (n : Nat) : (putU32 o n).length = 4 := by
  cases o <;> simp [putU32]

theorem coordBytes_length (o : Order) (z m : Bool) (p : Coord) :
    (coordBytes o z m p).length = 16 + 8 * toN z + 8 * toN m := by
  cases z <;> cases m <;> simp [coordBytes, putU64_length, toN]

theorem ptsBytes_length (o : Order) (z m : Bool) (ps : List Coord) :
    (ptsBytes o z m ps).length = ps.length * (16 + 8 * toN z + 8 * toN m) := by
  induction ps with
  | nil => simp [ptsBytes]
  | cons p ps ih => simp [ptsBytes, coordBytes_length, ih, Nat.add_mul]; omega

theorem ptsBytes_length_ge (o : Order) (z m : Bool) (ps : List Coord) :
    ps.length * 16 ≤ (ptsBytes o z m ps).length := by
  rw [ptsBytes_length]; exact Nat.mul_le_mul_left _ (by omega)

theorem readCoord_coordBytes (o : Order) (z m : Bool) (p : Coord) (n : Nat) (r : List UInt8) :
    readCoords o z m (n + 1) (coordBytes o z m p ++ r) =
      (match readCoords o z m n r with
       | .error e => .error e
       | .ok (ps, bs) => .ok (maskC z m p :: ps, bs)) := by
  cases z <;> cases m <;>
    simp [readCoords, coordBytes, List.append_assoc, readU64_putU64, maskC] <;>
    (rcases readCoords o _ _ n r with e | ⟨ps, bs⟩ <;> rfl)

theorem readCoords_ptsBytes (o : Order) (z m : Bool) (ps : List Coord) (r : List UInt8) :
    readCoords o z m ps.length (ptsBytes o z m ps ++ r) = .ok (ps.map (maskC z m), r) := by
  induction ps with
  | nil => simp [ptsBytes, readCoords]
  | cons p ps ih =>
    simp only [ptsBytes, List.length_cons, List.append_assoc, readCoord_coordBytes, ih, List.map_cons]

theorem readCoordSeq_ptsBytes (o : Order) (z m : Bool) (ps : List Coord) (r : List UInt8) :
    readCoordSeq o z m ps.length (ptsBytes o z m ps ++ r) = .ok (maskS z m ⟨z, m, ps⟩, r) := by
  have h := ptsBytes_length_ge o z m ps
  have : ¬ ((ptsBytes o z m ps ++ r).length < ps.length * 16) := by
    simp only [List.length_append]; omega
  simp only [readCoordSeq, this, if_false, readCoords_ptsBytes, maskS]

theorem maskS_mk (z m a b : Bool) (ps : List Coord) : maskS z m ⟨a, b, ps⟩ = maskS z m ⟨z, m, ps⟩ := rfl

theorem readSizedSeq_seqBytes (o : Order) (z m : Bool) (s : CSeq) (hs : s.pts.length < 4294967296)
    (r : List UInt8) :
    readSizedSeq o z m (seqBytes o z m s ++ r) = .ok (maskS z m s, r) := by
  have h := ptsBytes_length_ge o z m s.pts
  have hm : s.pts.length % 4294967296 = s.pts.length := by omega
  have : ¬ ((ptsBytes o z m s.pts ++ r).length < s.pts.length * 16) := by
    simp only [List.length_append]; omega
  simp only [readSizedSeq, seqBytes, List.append_assoc, readU32_putU32, hm, this, if_false,
    readCoordSeq_ptsBytes]
  rfl

/-! masking keeps X and Y, hence the constructors' checks -/

theorem maskS_length (z m : Bool) (s : CSeq) : (maskS z m s).pts.length = s.pts.length := by
  simp [maskS]

theorem eq2D_mask (z m z' m' : Bool) (a b : Coord) : Coord.eq2D (maskC z m a) (maskC z' m' b) = Coord.eq2D a b := rfl

theorem closedPts_map (z m : Bool) (ps : List Coord) : closedPts (ps.map (maskC z m)) = closedPts ps := by
  unfold closedPts
  cases h1 : ps.head? <;> cases h2 : ps.getLast? <;> simp [List.head?_map, List.getLast?_map, h1, h2, eq2D_mask]

theorem lineOK_maskS (z m : Bool) (s : CSeq) : lineOK (maskS z m s) = lineOK s := by
  simp [lineOK, maskS]

theorem xyOf_map_maskC (z m : Bool) (ps : List Coord) : xyOf (ps.map (maskC z m)) = xyOf ps := by
  simp [xyOf, List.map_map, Function.comp_def, maskC]

theorem circOK_maskS (z m : Bool) (s : CSeq) : circOK arc (maskS z m s) = circOK arc s := by
  simp [circOK, maskS, xyOf_map_maskC]

theorem ringOK_maskS (z m : Bool) (s : CSeq) : ringOK (maskS z m s) = ringOK s := by
  simp [ringOK, maskS, closedPts_map]

theorem readRing_seqBytes (o : Order) (z m : Bool) (s : CSeq) (hs : s.pts.length < 4294967296)
    (hok : (lineOK s && ringOK s) = true) (r : List UInt8) :
    readRing o z m (seqBytes o z m s ++ r) = .ok (maskS z m s, r) := by
  simp only [readRing, readSizedSeq_seqBytes o z m s hs, lineOK_maskS, ringOK_maskS, hok, if_true]

theorem readRings_seqsBytes (o : Order) (z m : Bool) (ss : List CSeq)
    (hs : ss.all (fun r => decide (r.pts.length < 4294967296)) = true)
    (hok : ss.all (fun r => lineOK r && ringOK r) = true) (r : List UInt8) :
    readRings o z m ss.length (seqsBytes o z m ss ++ r) = .ok (ss.map (maskS z m), r) := by
  induction ss with
  | nil => simp [readRings, seqsBytes]
  | cons s ss ih =>
    simp only [List.all_cons, Bool.and_eq_true, decide_eq_true_eq] at hs hok
    simp only [List.length_cons, readRings, seqsBytes, List.append_assoc,
      readRing_seqBytes o z m s hs.1 (by simpa using hok.1), ih hs.2 hok.2, List.map_cons]

theorem seqBytes_length_ge (o : Order) (z m : Bool) (s : CSeq) : 4 ≤ (seqBytes o z m s).length := by
  simp [seqBytes, putU32_length]

theorem seqsBytes_length_ge (o : Order) (z m : Bool) (ss : List CSeq) :
    ss.length * 4 ≤ (seqsBytes o z m ss).length := by
  induction ss with
  | nil => simp [seqsBytes]
  | cons s ss ih =>
    have := seqBytes_length_ge o z m s
    simp only [seqsBytes, List.length_cons, List.length_append]; omega

end GeosModel.WKB
