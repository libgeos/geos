import GeosModel.Proofs.WKB.Rewrite
/-! Top-level statements about `read`/`write` on `Geom` (C09), assembled from the inductions. -/
namespace GeosModel.WKB
open GeosModel

variable {arc : ArcOracle}

mutual
  theorem dep_le_length (c : Cfg) : ∀ (g : G) (e : Int), dep g ≤ (writeG c e g).length
    | .point _, e | .lineString _, e | .linearRing _, e | .circularString _, e | .polygon _ _, e | .compoundCurve _, e =>
      Nat.le_trans (by simp [dep]) (writeG_length_ge c e _)
    | .curvePolygon gs, e => by
      simp only [dep]
      split
      · have := writeG_length_ge c e (.curvePolygon gs); omega
      · rename_i h
        have h1 := depL_le_length c gs
        simp only [writeG, h, if_false, List.length_append, putU32_length, Bool.false_eq_true]
        exact Nat.le_trans (by omega) (Nat.add_le_add_right (header_length_ge c _ _ 10 e) _)
    | .multiPoint gs, e | .multiLineString gs, e | .multiPolygon gs, e | .multiCurve gs, e | .multiSurface gs, e
    | .collection gs, e => by
      have h1 := depL_le_length c gs
      simp only [dep, writeG, List.length_append]
      exact Nat.le_trans (by omega) (Nat.add_le_add_right (collHeader_length_ge c e _ gs) _)
  theorem depL_le_length (c : Cfg) : ∀ (gs : List G), depL gs ≤ 1 + (writeGs c gs).length
    | [] => by simp [depL, writeGs]
    | g :: gs => by
      have h1 := dep_le_length c g 0
      have h2 := depL_le_length c gs
      simp only [depL, writeGs, List.length_append]; omega
end

theorem sridOut_eq (c : Cfg) (srid : Int) :
    (if c.flavor = .ext then (if c.srid then srid else 0) else 0) = sridOut c srid := by
  unfold sridOut
  cases c.flavor <;> cases c.srid <;> simp

/-- what `read` returns on the bytes of `write`, for every configuration -/
theorem read_write (c : Cfg) (g : Geom) (hwf : WFG arc g.g = true) (hf : Fits g.g = true)
    (hs : sridFits g.srid = true) : read arc (write c g) = .ok (canon c g) := by
  have he : sridFits (if c.srid then g.srid else 0) = true := by
    cases c.srid <;> simp [hs, sridFits_zero]
  have hdep := dep_le_length c g.g (if c.srid then g.srid else 0)
  unfold read write
  have := readGeom_writeG c g.g hwf hf (writeG c (if c.srid then g.srid else 0) g.g).length .le
    (if c.srid then g.srid else 0) [] (by omega) he
  simp only [List.append_nil] at this
  simp only [this, canon, sridOut_eq]

theorem header_iso (c : Cfg) (oz om : Bool) (code : Nat) (e : Int) (h : c.flavor = .iso) :
    header c oz om code e = header c oz om code 0 := by
  simp [header, typeWord, h]

theorem writeG_iso_srid (c : Cfg) (h : c.flavor = .iso) (e : Int) (g : G) : writeG c e g = writeG c 0 g := by
  cases g <;> simp only [writeG, collHeader, header_iso c _ _ _ e h]

/-- re-writing the geometry returned by the round trip reproduces the bytes -/
theorem write_canon (c : Cfg) (g : Geom) (hwf : WFG arc g.g = true) (hn : NanPtCanon g.g = true) :
    write c (canon c g) = write c g := by
  unfold write canon
  simp only
  rw [writeG_canon c g.g hwf hn]
  cases hfl : c.flavor
  · cases hs : c.srid <;> simp [sridOut, hfl, hs]
  · rw [writeG_iso_srid c hfl, writeG_iso_srid c hfl (if c.srid = true then g.srid else 0)]

/-! ### at four output dimensions nothing is dropped from a canonical sequence -/

theorem maskC_canon (z m : Bool) (p : Coord) (h : Coord.canon z m p = true) : maskC z m p = p := by
  obtain ⟨x, y, pz, pm⟩ := p
  cases z <;> cases m <;> simp_all [Coord.canon, maskC]

theorem ownS4_canon (s : CSeq) (h : s.canon = true) : ownS 4 s = s := by
  obtain ⟨z, m, pts⟩ := s
  simp only [CSeq.canon, List.all_eq_true] at h
  simp only [ownS, outOrd_four, maskS, CSeq.mk.injEq, true_and]
  rw [List.map_congr_left (g := id) (fun p hp => maskC_canon z m p (h p hp))]
  simp

theorem pointOfSeq_canonical (s : CSeq) : dropDimsG 4 (pointOfSeq s) = pointOfSeq (ownS 4 s) :=
  dropDims_pointOfSeq 4 s

mutual
  theorem dropDims4_docG : ∀ (g : G), Plain g = true → dropDimsG 4 (docG g) = docG g
    | .point s, hp => by
      simp only [Plain] at hp
      simp only [docG, dropDims_pointOfSeq, ownS4_canon s hp]
    | .lineString s, hp | .linearRing s, hp | .circularString s, hp => by simp only [Plain] at hp; simp only [docG, dropDimsG, ownS4_canon s hp]
    | .polygon sh hs, hp => by
      simp only [Plain, Bool.and_eq_true, List.all_eq_true] at hp
      simp only [docG, dropDimsG, ownS4_canon sh hp.1.1.1, G.polygon.injEq, true_and]
      rw [List.map_congr_left (g := id) (fun r hr => ownS4_canon r (hp.1.1.2 r hr))]
      simp
    | .compoundCurve gs, hp => by
      simp only [Plain, Bool.and_eq_true] at hp
      simp only [docG, dropDimsG, dropDims4_docGs gs hp.1]
    | .curvePolygon gs, hp => by
      simp only [Plain, Bool.and_eq_true, Bool.or_eq_true, Bool.not_eq_true'] at hp
      simp only [docG]
      cases hE : gIsEmpty (.curvePolygon gs)
      · simp only [Bool.false_eq_true, if_false, dropDimsG, dropDims4_docGs gs hp.1]
      · simp only [if_true]
        rcases hp.2 with h | h
        · simp [hE] at h
        · -- as in `canonG_plain`: `h` is `false` unless `gs` is one linear ring
          match gs, hp.1, h with
          | [.linearRing s], hpl, _ =>
            simp only [PlainL, Plain, Bool.and_true] at hpl
            simp [dropDimsG, dropDimsGs, ownS4_canon s hpl]
    | .multiPoint gs, hp | .multiLineString gs, hp | .multiPolygon gs, hp | .collection gs, hp | .multiCurve gs, hp
    | .multiSurface gs, hp => by simp only [Plain] at hp; simp only [docG, dropDimsG, dropDims4_docGs gs hp]
  theorem dropDims4_docGs : ∀ (gs : List G), PlainL gs = true → dropDimsGs 4 (docGs gs) = docGs gs
    | [], _ => rfl
    | g :: gs, hp => by
      simp only [PlainL, Bool.and_eq_true] at hp
      simp only [docGs, dropDimsGs, dropDims4_docG g hp.1, dropDims4_docGs gs hp.2]
end

end GeosModel.WKB
