import GeosModel.Model.WKB.Cxx
/-!
Bit-level facts: C++ `|` / `&` on 32-bit values against the `+`, `/`, `%` arithmetic the hand-written model (`typeWord`,
`decodeType`) is written in.  Used by the bridge theorems of `Props/C09Gen.lean` and `Props/C11Gen.lean`, and (`intToU32_lt`) by the
header lemma of `Proofs/WKB/Bytes.lean`.  Core Lean only.
-/
namespace GeosModel.WKB

theorem and_two_pow_eq (x i : Nat) : x &&& 2 ^ i = if x.testBit i then 2 ^ i else 0 := by
  apply Nat.eq_of_testBit_eq
  intro j
  rw [Nat.testBit_and, Nat.testBit_two_pow]
  by_cases hj : i = j
  · subst hj
    by_cases hx : x.testBit i <;> simp [hx]
  · by_cases hx : x.testBit i <;> simp [hx, hj]

/-- `(x & (1 << i)) != 0` is the `i`-th binary digit of `x` -/
theorem and_two_pow_ne_zero (x i : Nat) : (x &&& 2 ^ i != 0) = (x / 2 ^ i % 2 == 1) := by
  rw [and_two_pow_eq, Nat.testBit_eq_decide_div_mod_eq]
  by_cases h : x / 2 ^ i % 2 = 1 <;> simp [h]

theorem and_bit31 (x : Nat) : (x &&& 2147483648 != 0) = (x / 2147483648 % 2 == 1) := and_two_pow_ne_zero x 31
theorem and_bit30 (x : Nat) : (x &&& 1073741824 != 0) = (x / 1073741824 % 2 == 1) := and_two_pow_ne_zero x 30
theorem and_bit29 (x : Nat) : (x &&& 536870912 != 0) = (x / 536870912 % 2 == 1) := and_two_pow_ne_zero x 29
theorem and_low16 (x : Nat) : x &&& 65535 = x % 65536 := Nat.and_two_pow_sub_one_eq_mod x 16

/-- `sfsqlHasZ != 0` for `int sfsqlHasZ = (typeInt & flag) != 0` -/
theorem flag_ne_zero (c : Bool) : ((if c = true then (1 : Int) else 0) != 0) = c := by cases c <;> rfl

theorem intToU32_lt (a : Int) : intToU32 a < 4294967296 := by unfold intToU32; omega

theorem intToU32_u32ToInt (n : Nat) (h : n < 4294967296) : intToU32 (u32ToInt n) = n := by
  unfold intToU32 u32ToInt; split <;> omega

/-- the 32-bit image of `a | b` is the bitwise or of the images -/
theorem intToU32_int32Or (a b : Int) : intToU32 (int32Or a b) = intToU32 a ||| intToU32 b := by
  unfold int32Or
  exact intToU32_u32ToInt _ (Nat.or_lt_two_pow (n := 32) (intToU32_lt a) (intToU32_lt b))

theorem intToU32_int32And (a b : Int) : intToU32 (int32And a b) = intToU32 a &&& intToU32 b := by
  unfold int32And
  exact intToU32_u32ToInt _ (Nat.lt_of_le_of_lt Nat.and_le_left (intToU32_lt a))

theorem intToU32_u32AsInt (n : Nat) : intToU32 (u32AsInt n) = n % 4294967296 := by
  unfold u32AsInt; exact intToU32_u32ToInt _ (Nat.mod_lt _ (by decide))

theorem intToU32_ofNat (n : Nat) : intToU32 (n : Int) = n % 4294967296 := by unfold intToU32; omega

/-- on an integer literal -/
theorem intToU32_lit (n : Nat) : intToU32 (no_index (OfNat.ofNat n)) = n % 4294967296 := intToU32_ofNat n

theorem intToU32_add (a b : Int) : intToU32 (a + b) = (intToU32 a + intToU32 b) % 4294967296 := by
  have ha : 0 ≤ a % 4294967296 := Int.emod_nonneg _ (by decide)
  have hb : 0 ≤ b % 4294967296 := Int.emod_nonneg _ (by decide)
  unfold intToU32
  rw [Int.add_emod, Int.toNat_emod (Int.add_nonneg ha hb) (by decide), Int.toNat_add ha hb]
  rfl

/-- a multiple of 2^k and a value below 2^k have no bit in common: `|` is `+` -/
theorem or_add (k n m : Nat) (hn : n % 2 ^ k = 0) (hm : m < 2 ^ k) : n ||| m = n + m := by
  have e : (n / 2 ^ k) <<< k = n := by
    rw [Nat.shiftLeft_eq]; exact Nat.div_mul_cancel (Nat.dvd_of_mod_eq_zero hn)
  have := Nat.shiftLeft_add_eq_or_of_lt hm (n / 2 ^ k)
  rw [e] at this; exact this.symm

/-- the flag bits of the type word lie above a type code below 2^29 (the side condition on a literal `F` is decidable) -/
theorem or_flags (x F : Nat) (h : x < 536870912) (hF : F % 536870912 = 0) : x ||| F = x + F := by
  rw [Nat.or_comm, or_add 29 F x hF h, Nat.add_comm]

/-! ### `ByteOrderValues::getUnsigned`: bytes masked, shifted and or-ed -/

theorem and_255 (x : Nat) (h : x < 256) : x &&& 255 = x := by
  have := Nat.and_two_pow_sub_one_eq_mod x 8
  simp only [Nat.reducePow, Nat.reduceSub] at this; rw [this]; omega

theorem shl32_24 (x : Nat) (h : x < 256) : shl32 x 24 = x * 16777216 := by
  unfold shl32; rw [Nat.shiftLeft_eq]; simp only [Nat.reducePow]; omega
theorem shl32_16 (x : Nat) (h : x < 256) : shl32 x 16 = x * 65536 := by
  unfold shl32; rw [Nat.shiftLeft_eq]; simp only [Nat.reducePow]; omega
theorem shl32_8 (x : Nat) (h : x < 256) : shl32 x 8 = x * 256 := by
  unfold shl32; rw [Nat.shiftLeft_eq]; simp only [Nat.reducePow]; omega

/-- four bytes masked, shifted and or-ed are the base-256 number they spell -/
theorem word_of_bytes (x3 x2 x1 x0 : Nat) (h3 : x3 < 256) (h2 : x2 < 256) (h1 : x1 < 256) (h0 : x0 < 256) :
    shl32 (x3 &&& 255) 24 ||| shl32 (x2 &&& 255) 16 ||| shl32 (x1 &&& 255) 8 ||| (x0 &&& 255)
      = x0 + 256 * x1 + 65536 * x2 + 16777216 * x3 := by
  rw [and_255 x3 h3, and_255 x2 h2, and_255 x1 h1, and_255 x0 h0, shl32_24 x3 h3, shl32_16 x2 h2, shl32_8 x1 h1,
    or_add 24 (x3 * 16777216) (x2 * 65536) (by omega) (by omega),
    or_add 16 (x3 * 16777216 + x2 * 65536) (x1 * 256) (by omega) (by omega),
    or_add 8 (x3 * 16777216 + x2 * 65536 + x1 * 256) x0 (by omega) (by omega)]
  omega

/-! `or_add` with literal moduli and the small term first -/
theorem or_add8' (n m : Nat) (hn : n % 256 = 0) (hm : m < 256) : m ||| n = n + m := by rw [Nat.or_comm]; exact or_add 8 n m hn hm
theorem or_add16' (n m : Nat) (hn : n % 65536 = 0) (hm : m < 65536) : m ||| n = n + m := by rw [Nat.or_comm]; exact or_add 16 n m hn hm
theorem or_add24' (n m : Nat) (hn : n % 16777216 = 0) (hm : m < 16777216) : m ||| n = n + m := by rw [Nat.or_comm]; exact or_add 24 n m hn hm

end GeosModel.WKB
