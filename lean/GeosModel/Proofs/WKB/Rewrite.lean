import GeosModel.Proofs.WKB.Canon
/-! Re-writing the re-read geometry reproduces the bytes (C09 `rewrite_fixpoint`). -/
namespace GeosModel.WKB
open GeosModel

variable {arc : ArcOracle}

/-- how the Z/M flags of a subtree (`z m`) relate to those of its round-tripped image (`z' m'`) at output dimension `d`.
The image of a single sequence has `(z', m') = outOrd d z m` (`Rel_base`), but that equation is not kept by the `||` over
siblings (at `d = 3` an XYM and an XYZ child together are XYZM and lose M, each alone keeps its own).  These five clauses are
what is kept (`Rel_or`) and still gives `outOrd d z' m' = outOrd d z m` (`Rel_outOrd`), which is all re-writing needs. -/
def Rel (d : Nat) (z m z' m' : Bool) : Prop :=
  z' = (z && decide (3 ≤ d)) ∧ (m' = true → m = true) ∧ (4 ≤ d → m' = m) ∧ (d ≤ 2 → m' = false)
    ∧ (d = 3 → z = false → m' = m)

theorem Rel_or (d : Nat) {z1 m1 z1' m1' z2 m2 z2' m2' : Bool} (h1 : Rel d z1 m1 z1' m1') (h2 : Rel d z2 m2 z2' m2') :
    Rel d (z1 || z2) (m1 || m2) (z1' || z2') (m1' || m2') := by
  obtain ⟨a1, b1, c1, d1, e1⟩ := h1
  obtain ⟨a2, b2, c2, d2, e2⟩ := h2
  refine ⟨?_, ?_, ?_, ?_, ?_⟩
  · subst a1 a2; cases z1 <;> cases z2 <;> simp
  · intro h; cases hm1 : m1' <;> cases hm2 : m2' <;> simp_all
  · intro h; rw [c1 h, c2 h]
  · intro h; rw [d1 h, d2 h]; rfl
  · intro h hz
    have hz1 : z1 = false := by cases z1 <;> simp_all
    have hz2 : z2 = false := by cases z2 <;> simp_all
    rw [e1 h hz1, e2 h hz2]

theorem Rel_base (d : Nat) (z m : Bool) : Rel d z m (outOrd d z m).1 (outOrd d z m).2 := by
  have hz : toN z ≤ 1 := by cases z <;> decide
  simp only [outOrd_eq]
  refine ⟨rfl, fun h => (Bool.and_eq_true_iff.1 h).1, fun h => ?_, fun h => ?_, fun h hz => ?_⟩
  · simp [show 3 + toN z ≤ d by omega]
  · simp [show ¬ 3 + toN z ≤ d by omega]
  · subst h hz; simp [toN]

theorem Rel_outOrd (d : Nat) {z m z' m' : Bool} (h : Rel d z m z' m') : outOrd d z' m' = outOrd d z m := by
  obtain ⟨a, b, c, e, f⟩ := h
  subst a
  simp only [outOrd_eq, Bool.and_assoc, Bool.and_self, Prod.mk.injEq, true_and]
  rcases (by omega : d ≤ 2 ∨ d = 3 ∨ 4 ≤ d) with h | h | h
  · have h4 : ∀ b, ¬ 3 + toN b ≤ d := fun b => by omega
    simp [h4]
  · subst h; cases z
    · simp [f rfl rfl, toN]
    · simp [toN]
  · have h4 : ∀ b, 3 + toN b ≤ d := fun b => by cases b <;> simp [toN] <;> omega
    simp [h4, c h]

/-! ### flags of the round-tripped tree -/

/-- `p` looks at the flags only -/
theorem anySeq_pointOfSeq (p : CSeq → Bool) (s : CSeq) (hp : p ⟨s.hasZ, s.hasM, []⟩ = p s) :
    anySeq p (pointOfSeq s) = p s := by
  unfold pointOfSeq; split
  · split <;> simp [anySeq, hp]
  · simp [anySeq]

/-! a flag `p` that every sequence masked to `(z, m)` answers with `b` (`hasZ`: `b = z`, `hasM`: `b = m`) -/

theorem any_maskS (z m : Bool) (p : CSeq → Bool) (b : Bool) (hp : ∀ s, p (maskS z m s) = b) (hs : List CSeq) :
    (b || (hs.map (maskS z m)).any p) = b := by
  induction hs with
  | nil => simp
  | cons h hs ih => cases b <;> simp_all

theorem anySeqs_canonSec (z m : Bool) (p : CSeq → Bool) (b : Bool) (hp : ∀ s, p (maskS z m s) = b) (gs : List G)
    (hk : gs.all isSimpleCurve = true) : anySeqs p (gs.map (canonSec z m)) = (b && !gs.isEmpty) := by
  induction gs with
  | nil => simp [anySeqs]
  | cons g gs ih =>
    simp only [List.all_cons, Bool.and_eq_true] at hk
    have : anySeq p (canonSec z m g) = b := by
      rw [anySeq_simple p _ (by rw [isSimpleCurve_canonSec]; exact hk.1), seqOf_canonSec z m g hk.1, hp]
    simp only [List.map_cons, anySeqs, this, ih hk.2]
    cases b <;> simp

mutual
  theorem flags_canon (d : Nat) : ∀ (g : G), WFG arc g = true →
      Rel d (anySeq (·.hasZ) g) (anySeq (·.hasM) g) (anySeq (·.hasZ) (canonG d g)) (anySeq (·.hasM) (canonG d g))
    | .point s, _ => by
      simp only [canonG, anySeq_pointOfSeq (·.hasZ) _ rfl, anySeq_pointOfSeq (·.hasM) _ rfl, anySeq]; exact Rel_base d _ _
    | .lineString s, _ | .linearRing s, _ | .circularString s, _ => by simp only [canonG, anySeq]; exact Rel_base d _ _
    | .polygon sh hs, _ => by
      simp only [canonG]
      split
      · simp only [anySeq, List.any_nil, Bool.or_false]; exact Rel_base d _ _
      · simp only [anySeq, maskS, any_maskS _ _ (·.hasZ) _ (fun _ => rfl), any_maskS _ _ (·.hasM) _ (fun _ => rfl)]
        exact Rel_base d _ _
    | .compoundCurve gs, hwf => by
      simp only [WFG, Bool.and_eq_true] at hwf
      simp only [canonG, anySeq, anySeqs_canonSec _ _ (·.hasZ) _ (fun _ => rfl) gs hwf.1.1,
        anySeqs_canonSec _ _ (·.hasM) _ (fun _ => rfl) gs hwf.1.1]
      cases gs with
      | nil => simp [anySeqs, Rel]
      | cons g rest => simp only [List.isEmpty_cons, Bool.not_false, Bool.and_true]; exact Rel_base d _ _
    | .curvePolygon gs, hwf => by
      simp only [WFG, Bool.and_eq_true] at hwf
      simp only [canonG]
      split
      · simp only [anySeq, anySeqs, Bool.or_false]; exact Rel_base d _ _
      · simp only [anySeq]; exact flags_canons d gs hwf.1.2
    | .multiPoint gs, hwf | .multiLineString gs, hwf | .multiPolygon gs, hwf | .multiCurve gs, hwf
    | .multiSurface gs, hwf => by
      simp only [WFG, Bool.and_eq_true] at hwf
      simp only [canonG, anySeq]; exact flags_canons d gs hwf.2
    | .collection gs, hwf => by
      simp only [WFG] at hwf
      simp only [canonG, anySeq]; exact flags_canons d gs hwf
  theorem flags_canons (d : Nat) : ∀ (gs : List G), WFGs arc gs = true →
      Rel d (anySeqs (·.hasZ) gs) (anySeqs (·.hasM) gs) (anySeqs (·.hasZ) (canonGs d gs)) (anySeqs (·.hasM) (canonGs d gs))
    | [], _ => by simp [canonGs, anySeqs, Rel]
    | g :: gs, hwf => by
      simp only [WFGs, Bool.and_eq_true] at hwf
      simp only [canonGs, anySeqs]
      exact Rel_or d (flags_canon d g hwf.1) (flags_canons d gs hwf.2)
end

theorem coordBytes_maskC (o : Order) (z m : Bool) (p : Coord) : coordBytes o z m (maskC z m p) = coordBytes o z m p := by
  cases z <;> cases m <;> simp [coordBytes, maskC]

theorem ptsBytes_maskC (o : Order) (z m : Bool) (ps : List Coord) :
    ptsBytes o z m (ps.map (maskC z m)) = ptsBytes o z m ps := by
  induction ps with
  | nil => rfl
  | cons p ps ih => simp [ptsBytes, coordBytes_maskC, ih]

theorem seqBytes_maskS (o : Order) (z m : Bool) (s : CSeq) : seqBytes o z m (maskS z m s) = seqBytes o z m s := by
  simp [seqBytes, maskS, ptsBytes_maskC]

theorem seqsBytes_maskS (o : Order) (z m : Bool) (ss : List CSeq) :
    seqsBytes o z m (ss.map (maskS z m)) = seqsBytes o z m ss := by
  induction ss with
  | nil => rfl
  | cons s ss ih => simp [seqsBytes, seqBytes_maskS, ih]

theorem writeSection_canonSec (c : Cfg) (z m : Bool) (g : G) (hk : isSimpleCurve g = true) :
    writeSection c z m (canonSec z m g) = writeSection c z m g := by
  refine simpleCurve_cases g hk ?_ ?_ ?_ <;> intro s <;> simp [canonSec, writeSection, seqBytes_maskS]

theorem writeSections_canonSec (c : Cfg) (z m : Bool) (gs : List G) (hk : gs.all isSimpleCurve = true) :
    writeSections c z m (gs.map (canonSec z m)) = writeSections c z m gs := by
  induction gs with
  | nil => rfl
  | cons g gs ih =>
    simp only [List.all_cons, Bool.and_eq_true] at hk
    simp [writeSections, writeSection_canonSec c z m g hk.1, ih hk.2]

theorem canonGs_length (d : Nat) (gs : List G) : (canonGs d gs).length = gs.length := by
  induction gs with
  | nil => rfl
  | cons g gs ih => simp [canonGs, ih]

theorem collHeader_canon (c : Cfg) (e : Int) (code : Nat) (gs : List G) (hwf : WFGs arc gs = true) :
    collHeader c e code (canonGs c.dims gs) = collHeader c e code gs := by
  simp only [collHeader, Rel_outOrd c.dims (flags_canons c.dims gs hwf), canonGs_length]

mutual
  theorem writeG_canon (c : Cfg) : ∀ (g : G), WFG arc g = true → NanPtCanon g = true → ∀ (e : Int),
      writeG c e (canonG c.dims g) = writeG c e g
    | .point s, hwf, hn, e => by
      simp only [WFG, decide_eq_true_eq] at hwf
      simp only [NanPtCanon] at hn
      simp only [canonG]
      cases hp : s.pts with
      | nil =>
        simp [pointOfSeq, ownS, maskS, hp, writeG, outOrd_idem]
      | cons p ps =>
        obtain rfl := point_tail hwf hp
        simp only [hp, List.all_cons, List.all_nil, Bool.and_true, Bool.or_eq_true, Bool.not_eq_true',
          decide_eq_true_eq] at hn
        by_cases hnan : (isNaNBits p.x && isNaNBits p.y) = true
        · have hpc : p = nanCoord := by
            rcases hn with h | h
            · simp [hnan] at h
            · exact h
          subst hpc
          simp [pointOfSeq, ownS, maskS, hp, writeG, outOrd_idem, maskC, nanCoord, isNaNBits_nan, ptsBytes]
        · simp [pointOfSeq, ownS, maskS, hp, writeG, outOrd_idem, maskC, hnan, ptsBytes]
          have := coordBytes_maskC c.order (outOrd c.dims s.hasZ s.hasM).1 (outOrd c.dims s.hasZ s.hasM).2 p
          simpa [maskC] using this
    | .lineString s, _, _, e | .linearRing s, _, _, e | .circularString s, _, _, e => by
      simp only [canonG, writeG, ownS, maskS, outOrd_idem]
      exact congrArg _ (seqBytes_maskS c.order _ _ s)
    | .polygon sh hs, _, _, e => by
      simp only [canonG]
      generalize hzm : outOrd c.dims (sh.hasZ || hs.any (·.hasZ)) (sh.hasM || hs.any (·.hasM)) = zm
      have hid : outOrd c.dims zm.1 zm.2 = zm := by rw [← hzm, outOrd_idem]
      cases hE : sh.pts.isEmpty
      · have hne : (maskS zm.1 zm.2 sh).pts.isEmpty = false := by simpa [maskS] using hE
        have f1 : (maskS zm.1 zm.2 sh).hasZ = zm.1 := rfl
        have f2 : (maskS zm.1 zm.2 sh).hasM = zm.2 := rfl
        simp only [Bool.false_eq_true, if_false, writeG, hne, f1, f2, any_maskS _ _ (·.hasZ) _ (fun _ => rfl), any_maskS _ _ (·.hasM) _ (fun _ => rfl), hid, hzm, List.length_map,
          seqBytes_maskS, seqsBytes_maskS, hE]
      · simp [writeG, hid, hzm, hE]
    | .compoundCurve gs, hwf, _, e => by
      simp only [WFG, Bool.and_eq_true] at hwf
      simp only [canonG, writeG, anySeqs_canonSec _ _ (·.hasZ) _ (fun _ => rfl) gs hwf.1.1,
        anySeqs_canonSec _ _ (·.hasM) _ (fun _ => rfl) gs hwf.1.1,
        List.length_map]
      cases gs with
      | nil => simp [anySeqs, writeSections]
      | cons g rest =>
        simp only [List.isEmpty_cons, Bool.not_false, Bool.and_true, outOrd_idem,
          writeSections_canonSec c _ _ (g :: rest) hwf.1.1]
    | .curvePolygon gs, hwf, hn, e => by
      simp only [WFG, Bool.and_eq_true] at hwf
      simp only [NanPtCanon] at hn
      simp only [canonG]
      cases hE : gIsEmpty (.curvePolygon gs)
      · have hfl := Rel_outOrd c.dims (flags_canons c.dims gs hwf.1.2)
        have hE' : gIsEmpty (.curvePolygon (canonGs c.dims gs)) = false := by
          cases gs with
          | nil => simp [gIsEmpty] at hE
          | cons sh hs =>
            simp only [List.all_cons, Bool.and_eq_true] at hwf
            simp only [gIsEmpty] at hE
            simp only [canonGs, gIsEmpty, gIsEmpty_canonG_curve c.dims sh hwf.1.1.1, hE]
        simp only [Bool.false_eq_true, if_false, writeG, hfl, hE', hE, canonGs_length,
          writeGs_canon c gs hwf.1.2 hn]
      · simp [writeG, anySeqs, anySeq, outOrd_idem, gIsEmpty, hE]
    | .multiPoint gs, hwf, hn, e | .multiLineString gs, hwf, hn, e | .multiPolygon gs, hwf, hn, e | .multiCurve gs, hwf, hn, e
    | .multiSurface gs, hwf, hn, e => by
      simp only [WFG, Bool.and_eq_true] at hwf; simp only [NanPtCanon] at hn
      simp only [canonG, writeG, collHeader_canon c e _ gs hwf.2, writeGs_canon c gs hwf.2 hn]
    | .collection gs, hwf, hn, e => by
      simp only [WFG] at hwf; simp only [NanPtCanon] at hn
      simp only [canonG, writeG, collHeader_canon c e _ gs hwf, writeGs_canon c gs hwf hn]
  theorem writeGs_canon (c : Cfg) : ∀ (gs : List G), WFGs arc gs = true → NanPtCanonL gs = true →
      writeGs c (canonGs c.dims gs) = writeGs c gs
    | [], _, _ => rfl
    | g :: gs, hwf, hn => by
      simp only [WFGs, Bool.and_eq_true] at hwf
      simp only [NanPtCanonL, Bool.and_eq_true] at hn
      simp only [canonGs, writeGs, writeG_canon c g hwf.1 hn.1 0, writeGs_canon c gs hwf.2 hn.2]
end

end GeosModel.WKB
