import GeosModel.Model.WKB.Spec
import GeosModel.Proofs.WKB.Bits
/-! Byte-level lemmas for C09: fixed-width values, type word, header, HEX layer. -/
namespace GeosModel.WKB
open GeosModel

theorem byteAt_toNat (n k : Nat) : (byteAt n k).toNat = n / 256 ^ k % 256 := by
  simp [byteAt]

/-- the bytes of `n` are its base-256 digits: the `k`-th one extends `n % 256 ^ k` to `n % 256 ^ (k + 1)` -/
theorem mod_byte_succ (n k : Nat) : n % 256 ^ (k + 1) = n % 256 ^ k + 256 ^ k * (byteAt n k).toNat := by
  rw [byteAt_toNat, Nat.mod_pow_succ]

theorem getU32_le (n : Nat) : getU32 .le (byteAt n 0) (byteAt n 1) (byteAt n 2) (byteAt n 3) = n % 4294967296 := by
  rw [show 4294967296 = 256 ^ (3 + 1) from rfl, mod_byte_succ, mod_byte_succ, mod_byte_succ, mod_byte_succ]
  simp only [getU32, Nat.pow_zero, Nat.mod_one, Nat.reducePow]
  omega

theorem getU32_be (n : Nat) : getU32 .be (byteAt n 3) (byteAt n 2) (byteAt n 1) (byteAt n 0) = n % 4294967296 :=
  getU32_le n

theorem getU64N_le (n : Nat) (h : n < 2 ^ 64) :
    getU64N .le (byteAt n 0) (byteAt n 1) (byteAt n 2) (byteAt n 3) (byteAt n 4) (byteAt n 5) (byteAt n 6) (byteAt n 7) = n := by
  have e : n % 256 ^ (7 + 1) = n := Nat.mod_eq_of_lt h
  rw [mod_byte_succ, mod_byte_succ, mod_byte_succ, mod_byte_succ, mod_byte_succ, mod_byte_succ, mod_byte_succ, mod_byte_succ] at e
  simp only [Nat.pow_zero, Nat.mod_one, Nat.reducePow] at e
  simp only [getU64N]
  omega

theorem getU64N_be (n : Nat) (h : n < 2 ^ 64) :
    getU64N .be (byteAt n 7) (byteAt n 6) (byteAt n 5) (byteAt n 4) (byteAt n 3) (byteAt n 2) (byteAt n 1) (byteAt n 0) = n :=
  getU64N_le n h

theorem readU64_putU64 (o : Order) (u : UInt64) (r : List UInt8) :
    readU64 o (putU64 o u ++ r) = .ok (u, r) := by
  have h := u.toNat_lt
  cases o
  · simp only [putU64, readU64, List.cons_append, List.nil_append, getU64, getU64N_be _ h, UInt64.ofNat_toNat]
  · simp only [putU64, readU64, List.cons_append, List.nil_append, getU64, getU64N_le _ h, UInt64.ofNat_toNat]

theorem readU32_putU32 (o : Order) (n : Nat) (r : List UInt8) :
    readU32 o (putU32 o n ++ r) = .ok (n % 4294967296, r) := by
  cases o
  · simp only [putU32, readU32, List.cons_append, List.nil_append, getU32_be]
  · simp only [putU32, readU32, List.cons_append, List.nil_append, getU32_le]

theorem u32ToInt_intToU32 (e : Int) (h : sridFits e = true) : u32ToInt (intToU32 e) = e := by
  simp [sridFits] at h
  unfold u32ToInt intToU32
  split <;> omega

theorem order_of_byte (o o' : Order) :
    (if o.byte = 1 then Order.le else if o.byte = 0 then Order.be else o') = o := by
  cases o <;> rfl

/-! ### the type word: the flags sit in digits of their own -/

theorem toN_le_one (b : Bool) : toN b ≤ 1 := by cases b <;> decide
theorem ite_eq_toN_mul (b : Bool) (k : Nat) : (if b = true then k else 0) = toN b * k := by cases b <;> simp [toN]
theorem toN_beq_one (b : Bool) : (toN b == 1) = b := by cases b <;> rfl

/-- the flag bits of the extended flavour lie above the type code and apart from each other -/
theorem ext_digits (code a b s t : Nat) (ht : t = code + a * 2147483648 + b * 1073741824 + s * 536870912)
    (hc : code < 1000) (ha : a ≤ 1) (hb : b ≤ 1) (hs : s ≤ 1) :
    t % 65536 = code ∧ t / 2147483648 % 2 = a ∧ t / 1073741824 % 2 = b ∧ t / 536870912 % 2 = s := by
  omega

/-- the ISO flavour keeps the type code in the last three decimal digits and the flags in the fourth -/
theorem iso_digits (code a b t : Nat) (ht : t = code + a * 1000 + b * 2000) (hc : code < 1000) (ha : a ≤ 1) (hb : b ≤ 1) :
    t % 65536 % 1000 = code ∧ t % 65536 / 1000 = a + 2 * b ∧ t / 2147483648 = 0 ∧ t / 1073741824 = 0 ∧ t / 536870912 = 0 := by
  rw [Nat.mod_eq_of_lt (by omega : t < 65536)]
  omega

theorem decodeType_typeWord (f : Flavor) (oz om : Bool) (code : Nat) (e : Int) (hc : code < 1000) :
    decodeType (typeWord f oz om code e) = (code, oz, om, decide (f = .ext ∧ e ≠ 0)) := by
  cases f
  · obtain ⟨h1, h2, h3, h4⟩ :=
      ext_digits code (toN oz) (toN om) (toN (decide (e ≠ 0))) _ rfl hc (toN_le_one _) (toN_le_one _) (toN_le_one _)
    have hs : (if e ≠ 0 then 536870912 else 0) = toN (decide (e ≠ 0)) * 536870912 := by
      rw [← ite_eq_toN_mul]; simp
    simp only [decodeType, typeWord, ite_eq_toN_mul, hs, h1, h2, h3, h4, toN_beq_one, Nat.mod_eq_of_lt hc,
      Nat.div_eq_of_lt hc]
    simp
  · obtain ⟨h1, h2, h3, h4, h5⟩ := iso_digits code (toN oz) (toN om) _ rfl hc (toN_le_one _) (toN_le_one _)
    simp only [decodeType, typeWord, ite_eq_toN_mul, h1, h2, h3, h4, h5]
    cases oz <;> cases om <;> simp [toN]

theorem typeWord_lt (f : Flavor) (oz om : Bool) (code : Nat) (e : Int) (hc : code < 536870912) :
    typeWord f oz om code e < 4294967296 := by
  have := toN_le_one oz
  have := toN_le_one om
  cases f <;> simp only [typeWord, ite_eq_toN_mul]
  · split <;> omega
  · omega

theorem kindOfCode_lt {code : Nat} {k : Kind} (h : kindOfCode code = some k) : code < 13 := by
  rcases Nat.lt_or_ge code 13 with h' | h'
  · exact h'
  · simp (disch := omega) only [kindOfCode, if_neg] at h
    cases h

theorem readHeader_header (c : Cfg) (o' : Order) (oz om : Bool) (code : Nat) (e : Int) (k : Kind)
    (hk : kindOfCode code = some k) (he : sridFits e = true) (r : List UInt8) :
    readHeader o' (header c oz om code e ++ r)
      = .ok (⟨k, oz, om, if c.flavor = .ext then e else 0, c.order⟩, r) := by
  have hc := kindOfCode_lt hk
  have hmod := Nat.mod_eq_of_lt (typeWord_lt c.flavor oz om code e (by omega))
  unfold header readHeader
  simp only [List.cons_append, readByte, order_of_byte, List.append_assoc, readU32_putU32, hmod,
    decodeType_typeWord _ _ _ _ _ (by omega : code < 1000)]
  by_cases hx : c.flavor = .ext ∧ e ≠ 0
  · simp only [hx, decide_true, and_self, ne_eq, not_false_eq_true, if_true, readU32_putU32, Nat.mod_eq_of_lt (intToU32_lt e),
      u32ToInt_intToU32 e he, hk]
  · simp only [hx, decide_false, if_false, List.nil_append, hk]
    by_cases hf : c.flavor = .ext
    · have : e = 0 := Decidable.byContradiction fun h0 => hx ⟨hf, h0⟩
      simp [hf, this]
    · simp [hf]

theorem hexVal_hexDigit : ∀ n, n < 16 → hexVal (hexDigit n) = some n := by decide

theorem hexDecode_hexEncode (bs : List UInt8) : hexDecode (hexEncode bs) = some bs := by
  induction bs with
  | nil => rfl
  | cons b bs ih =>
    have hb := b.toNat_lt
    have h1 : b.toNat / 16 < 16 := by omega
    have h2 : b.toNat % 16 < 16 := by omega
    simp only [hexEncode, hexDecode, hexVal_hexDigit _ h1, hexVal_hexDigit _ h2, ih]
    have : b.toNat / 16 * 16 + b.toNat % 16 = b.toNat := by omega
    simp [this]

end GeosModel.WKB
