import GeosModel.Proofs.WKB.Main
/-! Facts about `canon`, `dropDims` and `docSpec` (C09): masking, lower output dimensions, plain inputs. -/
namespace GeosModel.WKB
open GeosModel

variable {arc : ArcOracle}

/-! ### masking -/

theorem maskC_maskC (z m z' m' : Bool) (hz : z' = true → z = true) (hm : m' = true → m = true) (p : Coord) :
    maskC z' m' (maskC z m p) = maskC z' m' p := by
  cases z' <;> cases m' <;> simp_all [maskC]

theorem maskS_maskS (z m z' m' : Bool) (hz : z' = true → z = true) (hm : m' = true → m = true) (s : CSeq) :
    maskS z' m' (maskS z m s) = maskS z' m' s := by
  simp only [maskS, List.map_map, CSeq.mk.injEq, true_and]
  apply List.map_congr_left
  intro p _
  exact maskC_maskC z m z' m' hz hm p

theorem ownS_maskS (d : Nat) (z m : Bool) (s : CSeq) :
    ownS d (maskS z m s) = maskS (outOrd d z m).1 (outOrd d z m).2 s := by
  simp only [ownS]
  exact maskS_maskS z m _ _ (outOrd_fst_imp d z m) (outOrd_snd_imp d z m) s

theorem ownS_ownS4 (d : Nat) (s : CSeq) : ownS d (ownS 4 s) = ownS d s := by
  have : ownS 4 s = maskS s.hasZ s.hasM s := by simp [ownS, outOrd_four]
  rw [this, ownS_maskS]; rfl

theorem ownS_empty (d : Nat) (z m : Bool) : ownS d ⟨z, m, []⟩ = ⟨(outOrd d z m).1, (outOrd d z m).2, []⟩ := by
  simp [ownS, maskS]

/-! ### lower output dimension = dropping ordinates from the 4-dimensional result -/

theorem dropDims_pointOfSeq (d : Nat) (s : CSeq) : dropDimsG d (pointOfSeq s) = pointOfSeq (ownS d s) := by
  unfold pointOfSeq
  cases hp : s.pts with
  | nil => simp [ownS, maskS, hp, dropDimsG]
  | cons p ps =>
    by_cases hn : (isNaNBits p.x && isNaNBits p.y) = true
    · simp [ownS, maskS, hp, dropDimsG, maskC, hn]
    · simp [ownS, maskS, hp, dropDimsG, maskC, hn]

theorem dropDims_canonSec (d : Nat) (z m : Bool) (g : G) (h : isSimpleCurve g = true) :
    dropDimsG d (canonSec z m g) = canonSec (outOrd d z m).1 (outOrd d z m).2 g := by
  refine simpleCurve_cases g h ?_ ?_ ?_ <;> intro s <;> simp [canonSec, dropDimsG, ownS_maskS]

theorem dropDims_canonSecs (d : Nat) (z m : Bool) (gs : List G) (h : gs.all isSimpleCurve = true) :
    dropDimsGs d (gs.map (canonSec z m)) = gs.map (canonSec (outOrd d z m).1 (outOrd d z m).2) := by
  induction gs with
  | nil => rfl
  | cons g gs ih =>
    simp only [List.all_cons, Bool.and_eq_true] at h
    simp [dropDimsGs, dropDims_canonSec d z m g h.1, ih h.2]

mutual
  theorem dropDims_canonG4 (d : Nat) : ∀ (g : G), WFG arc g = true → dropDimsG d (canonG 4 g) = canonG d g
    | .point s, _ => by simp only [canonG, dropDims_pointOfSeq, ownS_ownS4]
    | .lineString s, _ | .linearRing s, _ | .circularString s, _ => by simp only [canonG, dropDimsG, ownS_ownS4]
    | .polygon sh hs, _ => by
      simp only [canonG, outOrd_four]
      split
      · simp [dropDimsG, ownS_empty]
      · simp [dropDimsG, ownS_maskS, List.map_map, Function.comp_def]
    | .compoundCurve gs, hwf => by
      simp only [WFG, Bool.and_eq_true] at hwf
      simp only [canonG, outOrd_four, dropDimsG, dropDims_canonSecs d _ _ gs hwf.1.1]
    | .curvePolygon gs, hwf => by
      simp only [WFG, Bool.and_eq_true] at hwf
      simp only [canonG, outOrd_four]
      split
      · simp [dropDimsG, dropDimsGs, ownS_empty]
      · simp only [dropDimsG, dropDims_canonGs4 d gs hwf.1.2]
    | .multiPoint gs, hwf | .multiLineString gs, hwf | .multiPolygon gs, hwf | .multiCurve gs, hwf
    | .multiSurface gs, hwf => by
      simp only [WFG, Bool.and_eq_true] at hwf
      simp only [canonG, dropDimsG, dropDims_canonGs4 d gs hwf.2]
    | .collection gs, hwf => by
      simp only [WFG] at hwf
      simp only [canonG, dropDimsG, dropDims_canonGs4 d gs hwf]
  theorem dropDims_canonGs4 (d : Nat) : ∀ (gs : List G), WFGs arc gs = true → dropDimsGs d (canonGs 4 gs) = canonGs d gs
    | [], _ => rfl
    | g :: gs, hwf => by
      simp only [WFGs, Bool.and_eq_true] at hwf
      simp only [canonGs, dropDimsGs, dropDims_canonG4 d g hwf.1, dropDims_canonGs4 d gs hwf.2]
end

/-! ### on plain inputs the code returns exactly what the property promises -/

theorem sameFlags_iff (a b : CSeq) : sameFlags a b = true ↔ a.hasZ = b.hasZ ∧ a.hasM = b.hasM := by
  simp [sameFlags]

theorem any_flag_same (p : CSeq → Bool) (f : CSeq) (hs : List CSeq) (h : ∀ r ∈ hs, p r = p f) :
    (p f || hs.any p) = p f := by
  induction hs with
  | nil => simp
  | cons r rs ih =>
    have h1 := h r (by simp)
    have h2 := ih (fun x hx => h x (by simp [hx]))
    simp only [List.any_cons, h1]
    cases hp : p f <;> simp_all

theorem anySeq_simple (p : CSeq → Bool) (g : G) (h : isSimpleCurve g = true) : anySeq p g = p (seqOf g) := by
  refine simpleCurve_cases g h ?_ ?_ ?_ <;> intro s <;> rfl

theorem anySeqs_same (p : CSeq → Bool) (f : CSeq) (gs : List G) (hk : gs.all isSimpleCurve = true)
    (h : ∀ g ∈ gs, p (seqOf g) = p f) : (p f || anySeqs p gs) = p f := by
  induction gs with
  | nil => simp [anySeqs]
  | cons g gs ih =>
    simp only [List.all_cons, Bool.and_eq_true] at hk
    have h1 := h g (by simp)
    have h2 := ih hk.2 (fun x hx => h x (by simp [hx]))
    simp only [anySeqs, anySeq_simple p g hk.1, h1]
    cases hp : p f <;> simp_all

theorem canonSec_plain (d : Nat) (f : CSeq) (g : G) (hk : isSimpleCurve g = true)
    (hf : sameFlags f (seqOf g) = true) :
    canonSec (outOrd d f.hasZ f.hasM).1 (outOrd d f.hasZ f.hasM).2 g = dropDimsG d (docG g) := by
  rw [sameFlags_iff] at hf
  -- with the flags of `f` equal to the section's own, masking to `outOrd d f.hasZ f.hasM` is `ownS d` of the section
  revert hf
  refine simpleCurve_cases g hk ?_ ?_ ?_ <;> intro s hf <;> simp_all [canonSec, docG, dropDimsG, ownS, seqOf]

theorem canonSecs_plain (d : Nat) (f : CSeq) (gs : List G) (hk : gs.all isSimpleCurve = true)
    (hf : gs.all (fun g => sameFlags f (seqOf g)) = true) :
    gs.map (canonSec (outOrd d f.hasZ f.hasM).1 (outOrd d f.hasZ f.hasM).2) = dropDimsGs d (docGs gs) := by
  induction gs with
  | nil => rfl
  | cons g gs ih =>
    simp only [List.all_cons, Bool.and_eq_true] at hk hf
    simp only [List.map_cons, docGs, dropDimsGs, canonSec_plain d f g hk.1 hf.1, ih hk.2 hf.2]

theorem sameFlags_refl (a : CSeq) : sameFlags a a = true := by simp [sameFlags]

mutual
  theorem canonG_plain (d : Nat) : ∀ (g : G), Plain g = true → WFG arc g = true → canonG d g = dropDimsG d (docG g)
    | .point s, _, _ => by simp only [canonG, docG, dropDims_pointOfSeq]
    | .lineString s, _, _ | .linearRing s, _, _ | .circularString s, _, _ => by simp only [canonG, docG, dropDimsG]
    | .polygon sh hs, hp, _ => by
      simp only [Plain, Bool.and_eq_true, Bool.or_eq_true, Bool.not_eq_true', List.all_eq_true] at hp
      obtain ⟨⟨⟨_, _⟩, hsame⟩, hemp⟩ := hp
      have hz : (sh.hasZ || hs.any (·.hasZ)) = sh.hasZ :=
        any_flag_same (·.hasZ) sh hs (fun r hr => ((sameFlags_iff sh r).1 (hsame r hr)).1.symm)
      have hm : (sh.hasM || hs.any (·.hasM)) = sh.hasM :=
        any_flag_same (·.hasM) sh hs (fun r hr => ((sameFlags_iff sh r).1 (hsame r hr)).2.symm)
      simp only [canonG, hz, hm, docG, dropDimsG]
      cases hE : sh.pts.isEmpty
      · simp only [Bool.false_eq_true, if_false, G.polygon.injEq]
        refine ⟨rfl, ?_⟩
        apply List.map_congr_left
        intro r hr
        have := (sameFlags_iff sh r).1 (hsame r hr)
        simp [ownS, this.1, this.2]
      · have hh : hs = [] := by
          rcases hemp with h | h
          · simp [hE] at h
          · simpa using h
        subst hh
        have : sh.pts = [] := by simpa using hE
        simp [ownS, maskS, this]
    | .compoundCurve gs, hp, hwf => by
      simp only [WFG, Bool.and_eq_true] at hwf
      simp only [Plain, Bool.and_eq_true] at hp
      obtain ⟨⟨hk, _⟩, _⟩ := hwf
      cases gs with
      | nil => simp [canonG, docG, docGs, dropDimsG, dropDimsGs]
      | cons g rest =>
        have hsame := hp.2
        simp only at hsame
        simp only [List.all_cons, Bool.and_eq_true] at hk
        have hz : anySeqs (·.hasZ) (g :: rest) = (seqOf g).hasZ := by
          simp only [anySeqs, anySeq_simple _ g hk.1]
          exact anySeqs_same (·.hasZ) (seqOf g) rest hk.2 (fun x hx => by
            have := (sameFlags_iff _ _).1 (List.all_eq_true.1 hsame x hx); exact this.1.symm)
        have hm : anySeqs (·.hasM) (g :: rest) = (seqOf g).hasM := by
          simp only [anySeqs, anySeq_simple _ g hk.1]
          exact anySeqs_same (·.hasM) (seqOf g) rest hk.2 (fun x hx => by
            have := (sameFlags_iff _ _).1 (List.all_eq_true.1 hsame x hx); exact this.2.symm)
        simp only [canonG, hz, hm, docG, dropDimsG]
        rw [canonSecs_plain d (seqOf g) (g :: rest) (by simp [hk.1, hk.2])
          (by simp only [List.all_cons, sameFlags_refl, Bool.true_and]; exact hsame)]
    | .curvePolygon gs, hp, hwf => by
      simp only [WFG, Bool.and_eq_true] at hwf
      simp only [Plain, Bool.and_eq_true, Bool.or_eq_true, Bool.not_eq_true'] at hp
      simp only [canonG, docG]
      cases hE : gIsEmpty (.curvePolygon gs)
      · simp only [Bool.false_eq_true, if_false, dropDimsG, canonGs_plain d gs hp.1 hwf.1.2]
      · simp only [if_true]
        rcases hp.2 with h | h
        · simp [hE] at h
        · -- `Plain` of an empty curve polygon says `gs` is one empty linear ring: the `match` in `h` is `false` on every other shape
          match gs, h with
          | [.linearRing s], h =>
            have : s.pts = [] := by simpa using h
            simp [dropDimsG, dropDimsGs, anySeqs, anySeq, ownS, maskS, this]
    | .multiPoint gs, hp, hwf | .multiLineString gs, hp, hwf | .multiPolygon gs, hp, hwf | .multiCurve gs, hp, hwf
    | .multiSurface gs, hp, hwf => by
      simp only [WFG, Bool.and_eq_true] at hwf; simp only [Plain] at hp
      simp only [canonG, docG, dropDimsG, canonGs_plain d gs hp hwf.2]
    | .collection gs, hp, hwf => by
      simp only [WFG] at hwf; simp only [Plain] at hp
      simp only [canonG, docG, dropDimsG, canonGs_plain d gs hp hwf]
  theorem canonGs_plain (d : Nat) : ∀ (gs : List G), PlainL gs = true → WFGs arc gs = true →
      canonGs d gs = dropDimsGs d (docGs gs)
    | [], _, _ => rfl
    | g :: gs, hp, hwf => by
      simp only [WFGs, Bool.and_eq_true] at hwf
      simp only [PlainL, Bool.and_eq_true] at hp
      simp only [canonGs, docGs, dropDimsGs, canonG_plain d g hp.1 hwf.1, canonGs_plain d gs hp.2 hwf.2]
end

end GeosModel.WKB
