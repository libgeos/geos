import GeosModel.Proofs.WKB.RoundTrip
/-!
The induction behind C09: reading the bytes written for a tree gives its canonical form,
`readGeom arc (fuel + 1) o' (writeG c e g ++ r) = ok ((canonG c.dims g, …), c.order, r)` (`readGeom_writeG`), together with the same
for an element list (`readN_writeGs`), by mutual structural recursion on `G` / `List G`.

* The statement carries an arbitrary suffix `r` and an arbitrary incoming byte order `o'` because that is what the induction
  hypothesis has to say about a child: it is read from the middle of its parent's bytes, in whatever order the previous header
  left in the stream, and must hand back exactly the bytes after it and the order the writer uses throughout.
* The depth budget is `dep g ≤ fuel + 1`.  `dep` adds up over the children instead of taking their maximum: the induction only
  needs some budget that every child's share fits into, and a sum is still below the number of bytes written (`depL_le_length`
  in `Proofs/WKB/Top.lean`), which is what `read` supplies.
* Line strings, rings and circular strings are `readGeom_line` / `readGeom_circ`; a compound curve reads its sections through
  `readN_writeSections`; the six typed collections are instances of `readGeom_coll` (type code, child cast, size unit, length
  bound and the lemma that `canonG` keeps the cast differ); polygon and curve polygon are done here.
-/
namespace GeosModel.WKB
open GeosModel

variable {arc : ArcOracle}

/-- `readCoordinateSequence(1)` on one written coordinate (a point's payload) -/
theorem readCoordSeq_one (o : Order) (z m : Bool) (p : Coord) (r : List UInt8) :
    readCoordSeq o z m 1 (coordBytes o z m p ++ r) = .ok (⟨z, m, [maskC z m p]⟩, r) := by
  simpa [ptsBytes, maskS] using readCoordSeq_ptsBytes o z m [p] r

mutual
  theorem readGeom_writeG (c : Cfg) : ∀ (g : G), WFG arc g = true → Fits g = true →
      ∀ (fuel : Nat) (o' : Order) (e : Int) (r : List UInt8), dep g ≤ fuel + 1 → sridFits e = true →
      readGeom arc (fuel + 1) o' (writeG c e g ++ r)
        = .ok ((canonG c.dims g, if c.flavor = .ext then e else 0), c.order, r)
    | .point s, hwf, _, fuel, o', e, r, _, he => by
      simp only [WFG, decide_eq_true_eq] at hwf
      simp only [readGeom, writeG, List.append_assoc,
        readHeader_header c o' _ _ 1 e .point rfl he, readBody, canonG, ownS]
      cases hp : s.pts with
      | nil => simp [readCoordSeq_one, pointOfSeq, maskS, maskC, nanCoord, isNaNBits_nan, hp]
      | cons p ps =>
        obtain rfl := point_tail hwf hp
        simp [ptsBytes, readCoordSeq_one, maskS, hp]
    | .lineString s, hwf, hf, fuel, o', e, r, _, he => by
      simp only [WFG] at hwf; simp only [Fits, decide_eq_true_eq] at hf
      simpa [writeG, canonG, ownS] using readGeom_line c fuel o' _ _ e he s hf hwf r
    | .linearRing s, hwf, hf, fuel, o', e, r, _, he => by
      simp only [WFG, Bool.and_eq_true] at hwf; simp only [Fits, decide_eq_true_eq] at hf
      simpa [writeG, canonG, ownS] using readGeom_line c fuel o' _ _ e he s hf hwf.1 r
    | .circularString s, hwf, hf, fuel, o', e, r, _, he => by
      simp only [WFG] at hwf; simp only [Fits, decide_eq_true_eq] at hf
      simpa [writeG, canonG, ownS] using readGeom_circ c fuel o' _ _ e he s hf hwf r
    | .polygon sh hs, hwf, hf, fuel, o', e, r, _, he => by
      simp only [WFG, Bool.and_eq_true, Bool.not_eq_true'] at hwf
      simp only [Fits, Bool.and_eq_true, decide_eq_true_eq] at hf
      obtain ⟨⟨hsh, hhs⟩, hemp⟩ := hwf
      obtain ⟨⟨fsh, fhs⟩, fn⟩ := hf
      simp only [readGeom, writeG, List.append_assoc,
        readHeader_header c o' _ _ 3 e .polygon rfl he, readBody, canonG]
      generalize outOrd c.dims (sh.hasZ || hs.any (·.hasZ)) (sh.hasM || hs.any (·.hasM)) = zm
      cases hE : sh.pts.isEmpty
      · -- shell not empty
        have hm : (hs.length + 1) % 4294967296 = hs.length + 1 := by omega
        have l1 := seqBytes_length_ge c.order zm.1 zm.2 sh
        have l2 := seqsBytes_length_ge c.order zm.1 zm.2 hs
        have hg : ¬ ((seqBytes c.order zm.1 zm.2 sh ++ (seqsBytes c.order zm.1 zm.2 hs ++ r)).length
            < (hs.length + 1) * 4) := by
          simp only [List.length_append]; omega
        have hne : (maskS zm.1 zm.2 sh).pts.isEmpty = false := by simpa [maskS] using hE
        simp only [Bool.false_eq_true, if_false, List.append_assoc, readU32_putU32, hm, hg,
          readRing_seqBytes c.order _ _ sh fsh (by simp [hsh.1, hsh.2]),
          readRings_seqsBytes c.order _ _ hs (by simpa using fhs) (by simpa using hhs), hne, Bool.false_and]
      · -- empty shell: zero rings
        simp [readU32_putU32]
    | .compoundCurve gs, hwf, hf, fuel, o', e, r, hd, he => by
      simp only [WFG, Bool.and_eq_true] at hwf
      simp only [Fits, Bool.and_eq_true, decide_eq_true_eq] at hf
      obtain ⟨⟨hk, hwfs⟩, hct⟩ := hwf
      obtain ⟨fn, fl⟩ := hf
      simp only [dep] at hd
      cases fuel with
      | zero => omega
      | succ f =>
        have hm : gs.length % 4294967296 = gs.length := by omega
        have hg : ∀ z m, ¬ ((writeSections c z m gs ++ r).length < gs.length * 9) := fun z m => by
          have := writeSections_length_ge c z m gs hk
          simp only [List.length_append]; omega
        have hcc := errOk_ok hct
        rw [readGeom_succ]
        simp only [writeG, List.append_assoc,
          readHeader_header c o' _ _ 9 e .compoundCurve rfl he, readBody, canonG,
          readU32_putU32, hm, hg, if_false, readN_writeSections c f _ _ gs hk hwfs fl r,
          checkContig_canonSec _ _ gs hk, hcc]
    | .curvePolygon gs, hwf, hf, fuel, o', e, r, hd, he => by
      simp only [WFG, Bool.and_eq_true] at hwf
      simp only [Fits, Bool.and_eq_true, decide_eq_true_eq] at hf
      obtain ⟨⟨hk, hwfs⟩, hsh⟩ := hwf
      simp only [dep] at hd
      have hpos := depL_pos gs
      rw [readGeom_succ]
      simp only [writeG, List.append_assoc,
        readHeader_header c o' _ _ 10 e .curvePolygon rfl he, readBody, canonG]
      cases hE : gIsEmpty (.curvePolygon gs)
      · -- not empty
        simp only [hE, Bool.false_eq_true, if_false] at hd
        cases fuel with
        | zero => omega
        | succ f =>
          have hlen := writeGs_length_ge c gs
          cases gs with
          | nil => simp [gIsEmpty] at hE
          | cons sh hs =>
            have hm : (hs.length + 1) % 4294967296 = hs.length + 1 := by
              simp only [List.length_cons] at hf; omega
            have hg : ¬ ((writeGs c (sh :: hs) ++ r).length < (hs.length + 1) * 4) := by
              simp only [List.length_cons] at hlen
              simp only [List.length_append]; omega
            simp only [gIsEmpty] at hE
            simp only [List.all_cons, Bool.and_eq_true] at hk
            simp only [WFGs, Bool.and_eq_true] at hwfs
            simp only [FitsL, Bool.and_eq_true] at hf
            simp only [depL] at hd
            have hp := depL_pos hs
            -- the shell, then the holes
            have h1 := readGeom_writeG c sh hwfs.1 hf.2.1 f c.order 0 (writeGs c hs ++ r) (by omega) sridFits_zero
            have h2 := readN_writeGs c hs hwfs.2 hf.2.2 f isCurve r (by omega)
              (all_canon_of_all c.dims isCurve (isCurve_canonG c.dims) hs hk.2)
            simp only [Bool.false_eq_true, if_false, List.append_assoc, List.length_cons, readU32_putU32, hm, hg]
            simp only [writeGs, List.append_assoc, h1, asChild_ok, isCurve_canonG c.dims sh hk.1, if_true, h2, canonGs,
              gIsEmpty_canonG_curve c.dims sh hk.1, hE, Bool.false_and, Bool.false_eq_true, if_false]
      · -- empty: zero rings
        simp [readU32_putU32]
    | .multiPoint gs, hwf, hf, fuel, o', e, r, hd, he => by
      simp only [WFG, Bool.and_eq_true] at hwf
      simp only [Fits, Bool.and_eq_true, decide_eq_true_eq] at hf
      simp only [writeG, canonG]
      exact readGeom_coll c fuel o' e he 4 .multiPoint rfl isPoint 21 .multiPoint (fun _ _ _ hk => by simp only [readBody, hk]) gs r hf.1
        (writeGs_points_length_ge c gs hwf.1) hd (fun f hf' => readN_writeGs c gs hwf.2 hf.2 f _ r hf' (all_canon_of_all c.dims _ (isPoint_canonG c.dims) gs hwf.1))
    | .multiLineString gs, hwf, hf, fuel, o', e, r, hd, he => by
      simp only [WFG, Bool.and_eq_true] at hwf
      simp only [Fits, Bool.and_eq_true, decide_eq_true_eq] at hf
      simp only [writeG, canonG]
      exact readGeom_coll c fuel o' e he 5 .multiLineString rfl isLineString 9 .multiLineString (fun _ _ _ hk => by simp only [readBody, hk]) gs r hf.1
        (writeGs_length_ge c gs) hd (fun f hf' => readN_writeGs c gs hwf.2 hf.2 f _ r hf' (all_canon_of_all c.dims _ (isLineString_canonG c.dims) gs hwf.1))
    | .multiPolygon gs, hwf, hf, fuel, o', e, r, hd, he => by
      simp only [WFG, Bool.and_eq_true] at hwf
      simp only [Fits, Bool.and_eq_true, decide_eq_true_eq] at hf
      simp only [writeG, canonG]
      exact readGeom_coll c fuel o' e he 6 .multiPolygon rfl isPolygon 9 .multiPolygon (fun _ _ _ hk => by simp only [readBody, hk]) gs r hf.1
        (writeGs_length_ge c gs) hd (fun f hf' => readN_writeGs c gs hwf.2 hf.2 f _ r hf' (all_canon_of_all c.dims _ (isPolygon_canonG c.dims) gs hwf.1))
    | .collection gs, hwf, hf, fuel, o', e, r, hd, he => by
      simp only [WFG] at hwf
      simp only [Fits, Bool.and_eq_true, decide_eq_true_eq] at hf
      simp only [writeG, canonG]
      exact readGeom_coll c fuel o' e he 7 .collection rfl (fun _ => true) 9 .collection (fun _ _ _ hk => by simp only [readBody, hk]) gs r hf.1
        (writeGs_length_ge c gs) hd (fun f hf' => readN_writeGs c gs hwf hf.2 f _ r hf' (by simp))
    | .multiCurve gs, hwf, hf, fuel, o', e, r, hd, he => by
      simp only [WFG, Bool.and_eq_true] at hwf
      simp only [Fits, Bool.and_eq_true, decide_eq_true_eq] at hf
      simp only [writeG, canonG]
      exact readGeom_coll c fuel o' e he 11 .multiCurve rfl isCurve 9 .multiCurve (fun _ _ _ hk => by simp only [readBody, hk]) gs r hf.1
        (writeGs_length_ge c gs) hd (fun f hf' => readN_writeGs c gs hwf.2 hf.2 f _ r hf' (all_canon_of_all c.dims _ (isCurve_canonG c.dims) gs hwf.1))
    | .multiSurface gs, hwf, hf, fuel, o', e, r, hd, he => by
      simp only [WFG, Bool.and_eq_true] at hwf
      simp only [Fits, Bool.and_eq_true, decide_eq_true_eq] at hf
      simp only [writeG, canonG]
      exact readGeom_coll c fuel o' e he 12 .multiSurface rfl isSurface 9 .multiSurface (fun _ _ _ hk => by simp only [readBody, hk]) gs r hf.1
        (writeGs_length_ge c gs) hd (fun f hf' => readN_writeGs c gs hwf.2 hf.2 f _ r hf' (all_canon_of_all c.dims _ (isSurface_canonG c.dims) gs hwf.1))
  theorem readN_writeGs (c : Cfg) : ∀ (gs : List G), WFGs arc gs = true → FitsL gs = true →
      ∀ (fuel : Nat) (p : G → Bool) (r : List UInt8), depL gs ≤ fuel + 1 →
      gs.all (fun g => p (canonG c.dims g)) = true →
      readN (fun o bs => asChild p (readGeom arc (fuel + 1) o bs)) gs.length c.order (writeGs c gs ++ r)
        = .ok (canonGs c.dims gs, c.order, r)
    | [], _, _, _, _, _, _, _ => by simp [readN, writeGs, canonGs]
    | g :: gs, hwf, hf, fuel, p, r, hd, hp => by
      simp only [WFGs, Bool.and_eq_true] at hwf
      simp only [FitsL, Bool.and_eq_true] at hf
      simp only [List.all_cons, Bool.and_eq_true] at hp
      simp only [depL] at hd
      have h1 := depL_pos gs
      have hg := readGeom_writeG c g hwf.1 hf.1 fuel c.order 0 (writeGs c gs ++ r) (by omega) sridFits_zero
      have hgs := readN_writeGs c gs hwf.2 hf.2 fuel p r (by omega) hp.2
      simp only [List.length_cons, readN, writeGs, List.append_assoc, hg, asChild_ok, hp.1, if_true, hgs, canonGs]
end

end GeosModel.WKB
