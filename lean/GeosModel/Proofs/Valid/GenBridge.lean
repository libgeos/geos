import GeosModel.Base.Cxx
import GeosModel.Model.Valid.PairRule
import GeosModel.Model.Valid.SimplePair
import GeosModel.Proofs.Kernel.Basic
import GeosModel.Proofs.Valid.RuleOrder
/-!
# Helpers of the translator-tie bridges of C05 (Props/C05Gen*.lean)

* `xy`, `pt`, `oi`: regenerated C++ sees a coordinate as `Cxx.XY R`, the hand-written models of `Model/Valid` use `Kernel.Pt` (the
  carrier `Int`); `oi` is `Orientation::index` on regenerated coordinates (`Kernel.orient`: its exactness on the grid is C07's subject).
* The simp lemmas that evaluate `Except` binds of regenerated code.
* `LIExact`, `LISimpleExact`: what the bridges of `findInvalidIntersection` and of `IsSimpleOp`'s `findIntersection` assume about the
  abstract `algorithm::LineIntersector` (its observers report the exact classification `Kernel.segRel`), with the instances `LIv`, `LIw`
  showing that the assumptions can be met.  `meet` is the list of common end points both models inspect.
* What a regenerated sequence or `for` loop of `IsValidOp`'s checks computes, in terms of `Valid.runRules`.
-/
namespace GeosModel.ValidGen
open GeosModel GeosModel.Kernel GeosModel.Valid

/-- a `Kernel.Pt` as regenerated code sees it -/
def xy (p : Pt) : Cxx.XY Int := ⟨p.x, p.y⟩
/-- `Orientation::index` on regenerated coordinates -/
def oi (a b c : Cxx.XY Int) : Int := orient ⟨a.x, a.y⟩ ⟨b.x, b.y⟩ ⟨c.x, c.y⟩

@[simp] theorem xy_x (p : Pt) : (xy p).x = p.x := rfl
@[simp] theorem xy_y (p : Pt) : (xy p).y = p.y := rfl
@[simp] theorem oi_xy (a b c : Pt) : oi (xy a) (xy b) (xy c) = orient a b c := rfl
theorem xy_inj {a b : Pt} : xy a = xy b ↔ a = b := by
  cases a; cases b; simp [xy]

@[simp] theorem ok_bind {ε α β} (a : α) (f : α → Except ε β) : (Except.ok a >>= f) = f a := rfl
@[simp] theorem error_bind {ε α β} (e : ε) (f : α → Except ε β) : (Except.error e >>= f) = Except.error e := rfl
@[simp] theorem pure_eq_ok {ε α} (a : α) : (pure a : Except ε α) = Except.ok a := rfl
@[simp] theorem map_ok {ε α β} (f : α → β) (a : α) : (f <$> (Except.ok a : Except ε α)) = Except.ok (f a) := rfl
@[simp] theorem throw_eq_error {ε α} (e : ε) : (throw e : Except ε α) = Except.error e := rfl

/-- a regenerated coordinate as a `Kernel.Pt` -/
def pt (c : Cxx.XY Int) : Pt := ⟨c.x, c.y⟩
@[simp] theorem pt_xy (p : Pt) : pt (xy p) = p := rfl

/-- the common end points of two segments that meet: `Valid.meetPts` (ring segments) and `LSeg.meet` (line segments) are this
expression on the four end points -/
def meet (a b c d : Pt) : List Pt := (([c, d].filter (onSegment a b)) ++ ([a, b].filter (onSegment c d))).eraseDups
theorem meetPts_eq (s t : RSeg) : meetPts s t = meet s.p s.q t.p t.q := rfl
theorem lmeet_eq (s t : LSeg) : s.meet t = meet s.p s.q t.p t.q := rfl

/-- what the bridge of `findInvalidIntersection` assumes about the abstract `algorithm::LineIntersector`: after
`computeIntersection(a, b, c, d)` its observers report the exact classification `Kernel.segRel` of the two segments, and
for a single non-proper intersection `getIntersection(0)` is the common end point.  (That the real intersector does so on
the grid is C02's subject; `LIv` below is an instance, so the assumption is satisfiable.) -/
structure LIExact {LI : Type} (liCompute : LI → Cxx.XY Int → Cxx.XY Int → Cxx.XY Int → Cxx.XY Int → LI)
    (liHas liProper : LI → Bool) (liNum : LI → Nat) (liGet : LI → Nat → Cxx.XY Int) : Prop where
  has : ∀ l a b c d, liHas (liCompute l (xy a) (xy b) (xy c) (xy d)) = (segRel a b c d != SegRel.disjoint)
  proper : ∀ l a b c d, liProper (liCompute l (xy a) (xy b) (xy c) (xy d)) = (segRel a b c d == SegRel.point true)
  num : ∀ l a b c d, decide (liNum (liCompute l (xy a) (xy b) (xy c) (xy d)) ≥ 2) = (segRel a b c d == SegRel.overlap)
  get : ∀ l a b c d x, segRel a b c d = SegRel.point false → meet a b c d = [x] →
    liGet (liCompute l (xy a) (xy b) (xy c) (xy d)) 0 = xy x

/-- an exact line intersector: the classification and the common end points -/
structure LIv where
  rel : SegRel := .disjoint
  pts : List Pt := []

def LIv.compute (_ : LIv) (a b c d : Cxx.XY Int) : LIv := ⟨segRel (pt a) (pt b) (pt c) (pt d), meet (pt a) (pt b) (pt c) (pt d)⟩
def LIv.num (l : LIv) : Nat := match l.rel with | .disjoint => 0 | .point _ => 1 | .overlap => 2
def LIv.get (l : LIv) (i : Nat) : Cxx.XY Int := xy (l.pts.getD i default)

theorem LIv.exact : LIExact LIv.compute (fun l => l.rel != .disjoint) (fun l => l.rel == .point true) LIv.num LIv.get := by
  refine ⟨fun _ _ _ _ _ => rfl, fun _ _ _ _ _ => rfl, ?_, ?_⟩
  · intro l a b c d
    show decide (LIv.num ⟨segRel a b c d, _⟩ ≥ 2) = _
    generalize segRel a b c d = r
    cases r <;> rfl
  · intro l a b c d x _ hm
    simp [LIv.compute, LIv.get, hm]

/-- what the bridge of `IsSimpleOp`'s `findIntersection` assumes about the abstract `algorithm::LineIntersector` (see `LIExact`);
`isInteriorIntersection()` for a single intersection point is "not an end point of both segments", `getEndpoint(i, 0)` is the first
end point of input segment `i` -/
structure LISimpleExact {LI : Type} (liCompute : LI → Cxx.XY Int → Cxx.XY Int → Cxx.XY Int → Cxx.XY Int → LI)
    (liHas liInterior : LI → Bool) (liNum : LI → Nat) (liGet : LI → Nat → Cxx.XY Int) (liEnd : LI → Nat → Nat → Cxx.XY Int) : Prop where
  has : ∀ l a b c d, liHas (liCompute l (xy a) (xy b) (xy c) (xy d)) = (segRel a b c d != SegRel.disjoint)
  interiorProper : ∀ l a b c d, segRel a b c d = SegRel.point true → liInterior (liCompute l (xy a) (xy b) (xy c) (xy d)) = true
  interiorTouch : ∀ l a b c d x, segRel a b c d = SegRel.point false → meet a b c d = [x] →
    liInterior (liCompute l (xy a) (xy b) (xy c) (xy d)) = (!(x == a || x == b) || !(x == c || x == d))
  num : ∀ l a b c d, decide (liNum (liCompute l (xy a) (xy b) (xy c) (xy d)) ≥ 2) = (segRel a b c d == SegRel.overlap)
  get : ∀ l a b c d x, segRel a b c d = SegRel.point false → meet a b c d = [x] →
    liGet (liCompute l (xy a) (xy b) (xy c) (xy d)) 0 = xy x
  end0 : ∀ l a b c d, liEnd (liCompute l (xy a) (xy b) (xy c) (xy d)) 0 0 = xy a
  end1 : ∀ l a b c d, liEnd (liCompute l (xy a) (xy b) (xy c) (xy d)) 1 0 = xy c

/-- an exact line intersector that also remembers its input -/
structure LIw where
  rel : SegRel := .disjoint
  pts : List Pt := []
  a : Pt := default
  b : Pt := default
  c : Pt := default
  d : Pt := default

def LIw.compute (_ : LIw) (a b c d : Cxx.XY Int) : LIw :=
  ⟨segRel (pt a) (pt b) (pt c) (pt d), meet (pt a) (pt b) (pt c) (pt d), pt a, pt b, pt c, pt d⟩
def LIw.num (l : LIw) : Nat := match l.rel with | .disjoint => 0 | .point _ => 1 | .overlap => 2
def LIw.get (l : LIw) (i : Nat) : Cxx.XY Int := xy (l.pts.getD i default)
def LIw.interior (l : LIw) : Bool :=
  match l.rel with
  | .point true => true
  | _ => l.pts.any fun x => !(x == l.a || x == l.b) || !(x == l.c || x == l.d)
def LIw.endpoint (l : LIw) (seg pti : Nat) : Cxx.XY Int :=
  xy (if seg = 0 then (if pti = 0 then l.a else l.b) else (if pti = 0 then l.c else l.d))

theorem LIw.exact : LISimpleExact LIw.compute (fun l => l.rel != .disjoint) LIw.interior LIw.num LIw.get LIw.endpoint := by
  refine ⟨fun _ _ _ _ _ => rfl, ?_, ?_, ?_, ?_, fun _ _ _ _ _ => rfl, fun _ _ _ _ _ => rfl⟩
  · intro l a b c d h
    simp [LIw.compute, LIw.interior, h]
  · intro l a b c d x h hm
    simp [LIw.compute, LIw.interior, h, hm]
  · intro l a b c d
    show decide (LIw.num ⟨segRel a b c d, _, _, _, _, _⟩ ≥ 2) = _
    generalize segRel a b c d = r
    cases r <;> rfl
  · intro l a b c d x _ hm
    simp [LIw.compute, LIw.get, hm]

/-! ### regenerated sequences and loops of checks (`IsValidOp`) -/

variable {E : Type}

theorem runRules_cons (r : Unit → Option E) (rs : List (Unit → Option E)) :
    runRules (r :: rs) = match r () with | some e => (false, some e) | none => runRules rs := by
  unfold runRules; rw [firstErr]; cases r () <;> rfl

theorem runRules_append (a b : List (Unit → Option E)) :
    runRules (a ++ b) = match firstErr a with | some e => (false, some e) | none => runRules b := by
  unfold runRules; rw [firstErr_append]; cases firstErr a <;> rfl

/-- the shape of the loop-free `isValid` overloads: checks run one after the other on the error slot, each followed by
`if (hasInvalidError()) return false;` -/
def checkSeq : List (Option E → Option E) → Option E → Bool × Option E
  | [], v => (true, v)
  | c :: cs, v => if (c v).isSome then (false, c v) else checkSeq cs (c v)

/-- started with a clean slot, every check of the sequence sees a clean slot -/
theorem checkSeq_eq (cs : List (Option E → Option E)) : checkSeq cs none = runRules (cs.map fun c _ => c none) := by
  induction cs with
  | nil => rfl
  | cons c cs ih =>
    rw [List.map_cons, runRules_cons, ← ih, checkSeq]
    cases c none <;> rfl

/-- a regenerated `for` loop of checks followed by the rest `K` of the function: the first error of the checks ends the function,
no error hands a clean slot to `K` -/
theorem loop_then {R : Type} (n : Nat) (chk : Nat → List (Unit → Option E))
    (F : Nat → Option (Bool × Option E) × Option E → Id (ForInStep (Option (Bool × Option E) × Option E)))
    (K : Option (Bool × Option E) × Option E → Id R) (ret : E → R) (r : R)
    (hF : ∀ i, F i (none, none) = match firstErr (chk i) with
      | some e => pure (ForInStep.done (some (false, some e), some e))
      | none => pure (ForInStep.yield (none, none)))
    (hE : ∀ e, K (some (false, some e), some e) = ret e) (hK : K (none, none) = r) :
    (forIn [:n] (none, none) F >>= K).run = match firstErr ((List.range n).flatMap chk) with | some e => ret e | none => r := by
  have hr : forIn [:n] (none, none) F = forIn (List.range n) (none, none) F := by simp [List.range_eq_range']
  rw [hr, forIn_checks chk (fun e => (false, some e)) F hF]
  cases firstErr ((List.range n).flatMap chk) with
  | some e => exact hE e
  | none => exact hK

end GeosModel.ValidGen
