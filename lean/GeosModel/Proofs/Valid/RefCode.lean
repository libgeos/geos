import GeosModel.Model.Valid.Ref
/-!
# The code of the reference's intersection rule (C05 SPEC)

What `pairRule` and `areaIntersections` (Model/Valid/Ref.lean) report as a CODE, apart from the locations:
`pairRule_code`: the code of `pairRule` is a function (`ruleCode`) of how the two segments meet, whether they are adjacent segments of
one ring, and for each meeting point whether the two passes through it cross (`crossIn`);
`areaIntersections_codes`: the codes of the whole intersection stage are the codes of the failing pairs (`badCodes`), each once.
Every statement about codes — invariance (RefInv.lean), agreement with the analyzer of `IsValidOp` (ProcessAll.lean) — goes through these two.
-/
namespace GeosModel.Valid
open GeosModel.Kernel GeosModel.Relate

/-- the code of the intersection rule from what it reads of the two segments: how they meet, whether they belong to one ring and
are adjacent there, and for each meeting point whether the two passes through it cross -/
def ruleCode (flag : Bool) (rel : SegRel) (same adj : Bool) (cross : List Bool) : Option Nat :=
  match rel with
  | .disjoint => none
  | .point true => some eSelfIntersection
  | .overlap => some eSelfIntersection
  | .point false =>
    if same && adj then none
    else if same && !flag then some eRingSelfIntersection
    else match cross with
      | [c] => if c then some eSelfIntersection else none
      | _ => none

/-- the passes of `s` and `t` through `x` cross -/
def crossIn (s t : RSeg) (x : Pt) : Bool :=
  match s.pass x, t.pass x with
  | some (a0, a1), some (b0, b1) => crossAt x a0 a1 b0 b1
  | _, _ => false

/-- the code of `pairRule` depends on the two segments only through `segRel`, the ring indices and `crossIn` at the meeting points:
every invariance of the code comes down to these -/
theorem pairRule_code (flag : Bool) (s t : RSeg) :
    (pairRule flag s t).map (·.1) =
      ruleCode flag (segRel s.p s.q t.p t.q) (s.rid == t.rid) (adjacentIdx s.m s.k t.k) ((meetPts s t).map (crossIn s t)) := by
  unfold pairRule ruleCode
  rcases segRel s.p s.q t.p t.q with _ | proper | _
  · rfl
  · cases proper
    · dsimp only
      cases s.rid == t.rid && adjacentIdx s.m s.k t.k
      · cases s.rid == t.rid && !flag
        · rcases meetPts s t with _ | ⟨x, _ | ⟨y, r⟩⟩
          · rfl
          · simp only [List.map_cons, List.map_nil, crossIn]
            rcases s.pass x with _ | ⟨a0, a1⟩
            · rfl
            · rcases t.pass x with _ | ⟨b0, b1⟩
              · rfl
              · exact apply_ite (Option.map _) (crossAt x a0 a1 b0 b1 = true) _ _
          · rfl
        · rfl
      · rfl
    · rfl
  · rfl

theorem pairsOf_map {α β} (f : α → β) : ∀ l : List α, pairsOf (l.map f) = (pairsOf l).map fun p => (f p.1, f p.2)
  | [] => rfl
  | a :: r => by
    simp only [List.map_cons, pairsOf, List.map_append, List.map_map, pairsOf_map f r]
    rfl

/-- the codes of the pairs of `segs` that break the intersection rule, in the order of the enumeration -/
def badCodes (flag : Bool) (segs : List RSeg) : List Nat :=
  (pairsOf segs).filterMap fun st => (pairRule flag st.1 st.2).map (·.1)

theorem areaIntersections_codes (flag : Bool) (segs : List RSeg) :
    (areaIntersections flag segs).map (·.codes) =
      if (badCodes flag segs).isEmpty then none else some (badCodes flag segs).eraseDups := by
  have e : badCodes flag segs = ((pairsOf segs).filterMap fun (s, t) => pairRule flag s t).map (·.1) := List.map_filterMap.symm
  rw [e, List.isEmpty_map]
  unfold areaIntersections
  dsimp only
  split <;> rfl

end GeosModel.Valid
