import GeosModel.Proofs.Valid.RefCode
import GeosModel.Proofs.Kernel.Basic
import GeosModel.Proofs.Valid.NodeTopo
/-!
# Invariance lemmas for the reference validity evaluator (C05 SPEC, partial)

Translation invariance of everything the intersection rule (`pairRule`, `areaIntersections`) is made of: `segRel`, the angular
specification (`upper`, `angLt`, `cyc`, `crossAt`), `meetPts`, `RSeg.pass`; hence of the codes of the rule
(`pairRule_shift_code`, `badCodes_shift`, through RefCode.lean).
Then the vocabulary of the other symmetries: `latticeSym` (the eight lattice symmetries — WedgeDet.lean proves the invariance of
`isCrossing` / `isInteriorSegment` under them) and the equivalence `SameUpToSymmetry` of the full invariance statement, which is NOT proved.
-/
namespace GeosModel.Valid
open GeosModel.Kernel GeosModel.Relate

theorem shift_beq (t a b : Pt) : (t.shift a == t.shift b) = (a == b) :=
  Bool.eq_iff_iff.mpr (by rw [beq_iff_eq, beq_iff_eq, Pt.ext_iff', Pt.ext_iff']; simp only [Pt.shift, Int.add_left_inj])

theorem shift_bne (t a b : Pt) : (t.shift a != t.shift b) = (a != b) := by
  simp only [bne, shift_beq]

theorem upper_shift (t o p : Pt) : upper (t.shift o) (t.shift p) = upper o p := by
  unfold upper Pt.shift
  simp only [gt_iff_lt, Int.add_lt_add_iff_right, Int.add_left_inj]

theorem angLt_shift (t o p q : Pt) : angLt (t.shift o) (t.shift p) (t.shift q) = angLt o p q := by
  unfold angLt; rw [upper_shift, upper_shift, det_shift]

theorem cyc_shift (t o u d v : Pt) : cyc (t.shift o) (t.shift u) (t.shift d) (t.shift v) = cyc o u d v := by
  unfold cyc; simp only [angLt_shift]

theorem crossAt_shift (t o a0 a1 b0 b1 : Pt) :
    crossAt (t.shift o) (t.shift a0) (t.shift a1) (t.shift b0) (t.shift b1) = crossAt o a0 a1 b0 b1 := by
  unfold crossAt; simp only [cyc_shift]

theorem filter_shift (t : Pt) (f g : Pt → Bool) (h : ∀ x, f (t.shift x) = g x) (l : List Pt) :
    (l.map t.shift).filter f = (l.filter g).map t.shift := by
  rw [List.filter_map]; exact congrArg (fun p => (l.filter p).map _) (funext h)

theorem eraseDups_shift (t : Pt) : ∀ l : List Pt, (l.map t.shift).eraseDups = l.eraseDups.map t.shift
  | [] => rfl
  | a :: r => by
    rw [List.map_cons, List.eraseDups_cons, List.eraseDups_cons, List.map_cons,
      filter_shift t _ (fun b => !b == a) (fun x => by rw [shift_beq]), eraseDups_shift t (r.filter _)]
termination_by l => l.length
decreasing_by exact Nat.lt_succ_of_le (List.length_filter_le _ _)

def RSeg.shift (t : Pt) (s : RSeg) : RSeg := { s with prev := t.shift s.prev, p := t.shift s.p, q := t.shift s.q }

theorem segCands_shift (t p1 p2 q1 q2 : Pt) :
    segCands (t.shift p1) (t.shift p2) (t.shift q1) (t.shift q2) = (segCands p1 p2 q1 q2).map t.shift := by
  unfold segCands
  rw [List.map_append, ← filter_shift t (onSegment (t.shift p1) (t.shift p2)) _ (onSegment_shift t p1 p2),
    ← filter_shift t (onSegment (t.shift q1) (t.shift q2)) _ (onSegment_shift t q1 q2)]
  rfl

theorem segRel_shift (t p1 p2 q1 q2 : Pt) :
    segRel (t.shift p1) (t.shift p2) (t.shift q1) (t.shift q2) = segRel p1 p2 q1 q2 := by
  have h := segCands_shift t p1 p2 q1 q2
  unfold segCands at h
  unfold segRel
  simp only [orient_shift, onSegment_shift]
  rw [h, eraseDups_shift, List.length_map]

theorem meetPts_shift (t : Pt) (s u : RSeg) : meetPts (RSeg.shift t s) (RSeg.shift t u) = (meetPts s u).map t.shift :=
  (congrArg List.eraseDups (segCands_shift t s.p s.q u.p u.q)).trans (eraseDups_shift t _)

theorem pass_shift (t : Pt) (s : RSeg) (x : Pt) :
    (RSeg.shift t s).pass (t.shift x) = (s.pass x).map fun c => (t.shift c.1, t.shift c.2) := by
  unfold RSeg.pass RSeg.shift
  simp only [shift_beq]
  cases x == s.p <;> cases x == s.q <;> rfl

theorem crossIn_shift (t : Pt) (s u : RSeg) (x : Pt) : crossIn (RSeg.shift t s) (RSeg.shift t u) (t.shift x) = crossIn s u x := by
  unfold crossIn
  rw [pass_shift, pass_shift]
  rcases s.pass x with _ | ⟨a0, a1⟩
  · rfl
  · rcases u.pass x with _ | ⟨b0, b1⟩
    · rfl
    · exact crossAt_shift t x a0 a1 b0 b1

theorem pairRule_shift_code (flag : Bool) (t : Pt) (s u : RSeg) :
    (pairRule flag (RSeg.shift t s) (RSeg.shift t u)).map (·.1) = (pairRule flag s u).map (·.1) := by
  rw [pairRule_code, pairRule_code, meetPts_shift, List.map_map]
  exact congrArg₂ (ruleCode flag · (s.rid == u.rid) (adjacentIdx s.m s.k u.k) ·) (segRel_shift t s.p s.q u.p u.q)
    (List.map_congr_left fun x _ => crossIn_shift t s u x)

theorem badCodes_shift (flag : Bool) (t : Pt) (segs : List RSeg) :
    badCodes flag (segs.map (RSeg.shift t)) = badCodes flag segs := by
  unfold badCodes
  rw [pairsOf_map, List.filterMap_map]
  exact congrArg (List.filterMap · _) (funext fun st => pairRule_shift_code flag t st.1 st.2)

/-- the eight lattice symmetries -/
def latticeSym (k : Nat) (p : Pt) : Pt :=
  match k % 8 with
  | 0 => p | 1 => ⟨-p.y, p.x⟩ | 2 => ⟨-p.x, -p.y⟩ | 3 => ⟨p.y, -p.x⟩
  | 4 => ⟨-p.x, p.y⟩ | 5 => ⟨p.x, -p.y⟩ | 6 => ⟨p.y, p.x⟩ | _ => ⟨-p.y, -p.x⟩

/-! ### the equivalence of the full (unproved) invariance statement -/

/-- same closed ring up to the choice of start vertex and direction -/
inductive RingEquiv : List Pt → List Pt → Prop
  | refl (r) : RingEquiv r r
  | rot (r) : RingEquiv r (rotate1 r)
  | rev (r) : RingEquiv r r.reverse
  | trans {a b c} : RingEquiv a b → RingEquiv b c → RingEquiv a c

def SeqEquiv (f : Pt → Pt) (isRing : Bool) (a b : VSeq) : Prop :=
  a.bad = none ∧ b.bad = none ∧ if isRing then RingEquiv (a.pts.map f) b.pts else (a.pts.map f = b.pts ∨ (a.pts.map f).reverse = b.pts)

/-- same polygon up to ring start / direction and the order of the holes -/
def PolyEquiv (f : Pt → Pt) (a b : List VSeq) : Prop :=
  match a, b with
  | sa :: ha, sb :: hb => SeqEquiv f true sa sb ∧ ∃ hb', hb.Perm hb' ∧ List.Forall₂ (SeqEquiv f true) ha hb'
  | [], [] => True
  | _, _ => False

/-- `g'` is `g` mapped by a lattice symmetry and a translation, with rings rotated / reversed, lines reversed, and
holes / elements permuted (collections: elements in any order, recursively) -/
inductive SameUpToSymmetryBy (f : Pt → Pt) : VG → VG → Prop
  | point (a b) : SeqEquiv f false a b → SameUpToSymmetryBy f (.point a) (.point b)
  | line (a b) : SeqEquiv f false a b → SameUpToSymmetryBy f (.line a) (.line b)
  | ring (a b) : SeqEquiv f true a b → SameUpToSymmetryBy f (.ring a) (.ring b)
  | polygon (a b) : PolyEquiv f a b → SameUpToSymmetryBy f (.polygon a) (.polygon b)
  | multiPoint (a b b') : b.Perm b' → List.Forall₂ (SeqEquiv f false) a b' → SameUpToSymmetryBy f (.multiPoint a) (.multiPoint b)
  | multiLine (a b b') : b.Perm b' → List.Forall₂ (SeqEquiv f false) a b' → SameUpToSymmetryBy f (.multiLine a) (.multiLine b)
  | multiPolygon (a b b') : b.Perm b' → List.Forall₂ (PolyEquiv f) a b' → SameUpToSymmetryBy f (.multiPolygon a) (.multiPolygon b)
  | collection (a b b') : b.Perm b' → List.Forall₂ (SameUpToSymmetryBy f) a b' → SameUpToSymmetryBy f (.collection a) (.collection b)

def SameUpToSymmetry (g g' : VG) : Prop :=
  ∃ (k : Nat) (t : Pt), SameUpToSymmetryBy (fun p => t.shift (latticeSym k p)) g g'

end GeosModel.Valid
