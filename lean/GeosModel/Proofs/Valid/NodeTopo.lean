import GeosModel.Model.Valid.NodeTopo
import GeosModel.Proofs.Kernel.Basic
import Mathlib.Tactic.Ring
import Mathlib.Tactic.Linarith
/-!
# Lemmas about the model of `PolygonNodeTopology` (C05 core)

In the order of the ideas: `compareAngle` in normal form (quadrants, then the orientation index) and its agreement with the
half-plane specification `angLt`; `compareAngle o · ·` is a total preorder on the directions from `o` (transitivity inside a
quadrant cone needs the three-vector identity `(u × w) f(v) = (u × v) f(w) + (v × w) f(u)`), with `= 0` meaning "same ray"; the
results as signs `S3`, on which `isCrossing`, `isInteriorSegment` and the wedge specification become finite tables.
Products of coordinates are made atoms and tied to the signs of their factors by `mulSign`, after which `omega` decides.
-/
namespace GeosModel.Valid
open GeosModel.Kernel

/-- the sign of a product from the signs of the factors, as one case distinction that `omega` can use once `x * y` is an atom -/
theorem mulSign (x y : Int) :
    (0 < x ∧ 0 < y ∧ 0 < x * y) ∨ (0 < x ∧ y < 0 ∧ x * y < 0) ∨ (x < 0 ∧ 0 < y ∧ x * y < 0) ∨
    (x < 0 ∧ y < 0 ∧ 0 < x * y) ∨ (x = 0 ∧ x * y = 0) ∨ (y = 0 ∧ x * y = 0) := by
  rcases Int.lt_trichotomy x 0 with hx | hx | hx
  · rcases Int.lt_trichotomy y 0 with hy | hy | hy
    · exact .inr (.inr (.inr (.inl ⟨hx, hy, Int.mul_pos_of_neg_of_neg hx hy⟩)))
    · exact .inr (.inr (.inr (.inr (.inr ⟨hy, hy ▸ Int.mul_zero x⟩))))
    · exact .inr (.inr (.inl ⟨hx, hy, Int.mul_neg_of_neg_of_pos hx hy⟩))
  · exact .inr (.inr (.inr (.inr (.inl ⟨hx, hx ▸ Int.zero_mul y⟩))))
  · rcases Int.lt_trichotomy y 0 with hy | hy | hy
    · exact .inr (.inl ⟨hx, hy, Int.mul_neg_of_pos_of_neg hx hy⟩)
    · exact .inr (.inr (.inr (.inr (.inr ⟨hy, hy ▸ Int.mul_zero x⟩))))
    · exact .inl ⟨hx, hy, Int.mul_pos hx hy⟩

/-! ### normal forms -/

/-- the C++ spells the orientation index out case by case: `compareAngle` is the quadrants, then `Orientation::index` -/
theorem compareAngle_orient (o p q : Pt) :
    compareAngle o p q =
      if quadrant o p > quadrant o q then 1 else if quadrant o p < quadrant o q then -1 else orient o q p := by
  have h : (if orient o q p == 1 then (1 : Int) else if orient o q p == -1 then -1 else 0) = orient o q p := by
    rcases Int.lt_trichotomy (det o q p) 0 with h | h | h
    · rw [orient_eq_neg_one.mpr h]; rfl
    · rw [orient_eq_zero.mpr h]; rfl
    · rw [orient_eq_one.mpr h]; rfl
  unfold compareAngle
  simp only [h]

/-- the same with the orientation index spelt out on the determinant -/
theorem compareAngle_nf (o p q : Pt) :
    compareAngle o p q =
      if quadrant o p > quadrant o q then 1 else if quadrant o p < quadrant o q then -1
      else if 0 < det o q p then 1 else if det o q p < 0 then -1 else 0 := by
  rw [compareAngle_orient]
  rcases Int.lt_trichotomy (det o q p) 0 with h | h | h
  · rw [orient_eq_neg_one.mpr h, if_neg (show ¬ 0 < det o q p by omega), if_pos h]
  · rw [orient_eq_zero.mpr h, h]; rfl
  · rw [orient_eq_one.mpr h, if_pos h]

/-- `isAngleGreater` is `compareAngle = 1` (the C++ has two copies of the same logic) -/
theorem isAngleGreater_iff (o p q : Pt) : isAngleGreater o p q = true ↔ compareAngle o p q = 1 := by
  show (if quadrant o p > quadrant o q then true else if quadrant o p < quadrant o q then false else orient o q p == 1) = true ↔ _
  rw [compareAngle_orient]
  split_ifs <;> simp

theorem compareAngle_range (o p q : Pt) : compareAngle o p q = -1 ∨ compareAngle o p q = 0 ∨ compareAngle o p q = 1 := by
  rw [compareAngle_nf]; split_ifs <;> simp

theorem compareAngle_antisymm (o p q : Pt) : compareAngle o q p = - compareAngle o p q := by
  rw [compareAngle_orient, compareAngle_orient, orient_swap23 o q p]
  split_ifs <;> omega

theorem compareAngle_self (o p : Pt) : compareAngle o p p = 0 := by
  have := compareAngle_antisymm o p p; omega

theorem compareAngle_eq_neg_one (o p q : Pt) :
    compareAngle o p q = -1 ↔ (quadrant o p < quadrant o q ∨ (quadrant o p = quadrant o q ∧ det o q p < 0)) := by
  have key := compareAngle_orient o p q
  have := @orient_eq_neg_one o q p
  split_ifs at key <;> omega

theorem compareAngle_eq_zero (o p q : Pt) :
    compareAngle o p q = 0 ↔ (quadrant o p = quadrant o q ∧ det o q p = 0) := by
  have key := compareAngle_orient o p q
  have := @orient_eq_zero o q p
  split_ifs at key <;> omega

theorem det_vec (o p q : Pt) : det o p q = (p.x - o.x) * (q.y - o.y) - (p.y - o.y) * (q.x - o.x) := rfl

/-! ### agreement with the half-plane specification -/

theorem upper_iff (o p : Pt) : upper o p = true ↔ (p.y - o.y > 0 ∨ (p.y - o.y = 0 ∧ p.x - o.x > 0)) := by
  unfold upper; simp only [Bool.or_eq_true, Bool.and_eq_true, decide_eq_true_eq]; omega

theorem ne_iff_vec (o p : Pt) : p ≠ o ↔ (p.x - o.x ≠ 0 ∨ p.y - o.y ≠ 0) := by
  rw [Ne, Pt.ext_iff']; omega

theorem angLt_iff (o p q : Pt) : angLt o p q = true ↔
    ((upper o p = true ∧ upper o q = false) ∨ (upper o p = upper o q ∧ det o p q > 0)) := by
  unfold angLt; simp

/-- the quadrant and the half turn of a non-zero vector: the upper half turn is quadrant 0 and the part of quadrant 1 off the x-axis -/
theorem quadrant_half_cases (x y : Int) (h : x ≠ 0 ∨ y ≠ 0) :
    (quadrantD x y = 0 ∧ (y > 0 ∨ (y = 0 ∧ x > 0)) ∧ x ≥ 0 ∧ y ≥ 0) ∨ (quadrantD x y = 1 ∧ (y > 0 ∨ (y = 0 ∧ x > 0)) ∧ x < 0 ∧ y > 0) ∨
    (quadrantD x y = 1 ∧ ¬ (y > 0 ∨ (y = 0 ∧ x > 0)) ∧ x < 0 ∧ y = 0) ∨ (quadrantD x y = 2 ∧ ¬ (y > 0 ∨ (y = 0 ∧ x > 0)) ∧ x < 0 ∧ y < 0) ∨
    (quadrantD x y = 3 ∧ ¬ (y > 0 ∨ (y = 0 ∧ x > 0)) ∧ x ≥ 0 ∧ y < 0) := by
  unfold quadrantD; split_ifs <;> omega

/-- the agreement on bare integer vectors: in each of the 5 × 5 classes the quadrants and the half turns are known, and what is left
is the sign of the cross product -/
theorem cmp_core (px py qx qy : Int) (hp : px ≠ 0 ∨ py ≠ 0) (hq : qx ≠ 0 ∨ qy ≠ 0) :
    (quadrantD px py < quadrantD qx qy ∨ (quadrantD px py = quadrantD qx qy ∧ qx * py - qy * px < 0)) ↔
    (((py > 0 ∨ (py = 0 ∧ px > 0)) ∧ ¬ (qy > 0 ∨ (qy = 0 ∧ qx > 0))) ∨
     (((py > 0 ∨ (py = 0 ∧ px > 0)) ↔ (qy > 0 ∨ (qy = 0 ∧ qx > 0))) ∧ px * qy - py * qx > 0)) := by
  have s1 := mulSign qx py
  have s2 := mulSign qy px
  rw [Int.mul_comm px qy, Int.mul_comm py qx]
  generalize qx * py = A at *
  generalize qy * px = B at *
  rcases quadrant_half_cases px py hp with ⟨h3, hu, h1, h2⟩ | ⟨h3, hu, h1, h2⟩ | ⟨h3, hu, h1, h2⟩ | ⟨h3, hu, h1, h2⟩ | ⟨h3, hu, h1, h2⟩ <;>
  rcases quadrant_half_cases qx qy hq with ⟨k3, hv, k1, k2⟩ | ⟨k3, hv, k1, k2⟩ | ⟨k3, hv, k1, k2⟩ | ⟨k3, hv, k1, k2⟩ | ⟨k3, hv, k1, k2⟩ <;>
  simp only [h3, k3, hu, hv, true_and, false_and, and_false, and_true, not_true, not_false_iff, iff_self, iff_false, iff_true,
    or_false, false_or] <;>
  omega

/-- **agreement**: for non-zero directions, `compareAngle o p q = -1` exactly when `o → p` comes strictly before
`o → q` in the half-plane/cross-product specification of the counter-clockwise order -/
theorem compareAngle_lt_iff (o p q : Pt) (hp : p ≠ o) (hq : q ≠ o) :
    compareAngle o p q = -1 ↔ angLt o p q = true := by
  rw [compareAngle_eq_neg_one, angLt_iff, det_vec, det_vec]
  unfold quadrant
  rw [cmp_core _ _ _ _ ((ne_iff_vec o p).mp hp) ((ne_iff_vec o q).mp hq), ← upper_iff, ← upper_iff]
  cases upper o p <;> cases upper o q <;> simp

/-! ### the quadrant cones -/

/-- a linear functional that is positive on every non-zero vector of the (half-open) quadrant of `(dx, dy)` -/
def qf (k : Nat) (dx dy : Int) : Int :=
  if k = 0 then dx + dy else if k = 1 then -dx + dy else if k = 2 then -dx - dy else dx - dy

theorem qf_pos (dx dy : Int) (h : dx ≠ 0 ∨ dy ≠ 0) : 0 < qf (quadrantD dx dy) dx dy := by
  rcases quadrant_half_cases dx dy h with ⟨h3, _, _, _⟩ | ⟨h3, _, _, _⟩ | ⟨h3, _, _, _⟩ | ⟨h3, _, _, _⟩ | ⟨h3, _, _, _⟩ <;>
    rw [h3] <;> simp [qf] <;> omega

/-- the three-vector identity, for any linear functional `a x + b y` (cross products written as `Kernel.det` has them) -/
theorem cross3 (a b ux uy vx vy wx wy : Int) :
    (a * vx + b * vy) * (wx * uy - wy * ux) =
      (vx * uy - vy * ux) * (a * wx + b * wy) + (wx * vy - wy * vx) * (a * ux + b * uy) := by ring

theorem qf_lin (k : Nat) : ∃ a b : Int, ∀ x y, qf k x y = a * x + b * y := by
  unfold qf
  by_cases h0 : k = 0
  · exact ⟨1, 1, fun x y => by simp [h0]⟩
  by_cases h1 : k = 1
  · exact ⟨-1, 1, fun x y => by simp [h1]⟩
  by_cases h2 : k = 2
  · exact ⟨-1, -1, fun x y => by simp [h2]; ring⟩
  · exact ⟨1, -1, fun x y => by simp [h0, h1, h2]; ring⟩

theorem cone_le_trans (k : Nat) (ux uy vx vy wx wy : Int)
    (fu : 0 < qf k ux uy) (fv : 0 < qf k vx vy) (fw : 0 < qf k wx wy)
    (h1 : vx * uy - vy * ux ≤ 0) (h2 : wx * vy - wy * vx ≤ 0) : wx * uy - wy * ux ≤ 0 := by
  obtain ⟨a, b, hl⟩ := qf_lin k
  rw [hl] at fu fv fw
  refine Int.nonpos_of_mul_nonpos_right ?_ fv
  rw [cross3]
  exact Int.add_nonpos (Int.mul_nonpos_of_nonpos_of_nonneg h1 fw.le) (Int.mul_nonpos_of_nonpos_of_nonneg h2 fu.le)

theorem cone_eq_trans (k : Nat) (ux uy vx vy wx wy : Int)
    (fv : 0 < qf k vx vy)
    (h1 : vx * uy - vy * ux = 0) (h2 : wx * vy - wy * vx = 0) : wx * uy - wy * ux = 0 := by
  obtain ⟨a, b, hl⟩ := qf_lin k
  rw [hl] at fv
  have id := cross3 a b ux uy vx vy wx wy
  rw [h1, h2, Int.zero_mul, Int.zero_mul, Int.add_zero] at id
  exact (Int.mul_eq_zero.mp id).resolve_left (Int.ne_of_gt fv)

/-! ### transitivity of `compareAngle` -/

theorem compareAngle_le_zero (o p q : Pt) :
    compareAngle o p q ≤ 0 ↔ (quadrant o p < quadrant o q ∨ (quadrant o p = quadrant o q ∧ det o q p ≤ 0)) := by
  have key := compareAngle_orient o p q
  have := @orient_pos o q p
  split_ifs at key <;> omega

theorem compareAngle_le_trans (o p q r : Pt) (hp : p ≠ o) (hq : q ≠ o) (hr : r ≠ o)
    (h1 : compareAngle o p q ≤ 0) (h2 : compareAngle o q r ≤ 0) : compareAngle o p r ≤ 0 := by
  rw [compareAngle_le_zero] at *
  rcases h1 with h1 | ⟨e1, d1⟩ <;> rcases h2 with h2 | ⟨e2, d2⟩
  · left; omega
  · left; omega
  · left; omega
  · refine .inr ⟨e1.trans e2, ?_⟩
    have fp := qf_pos _ _ ((ne_iff_vec o p).mp hp)
    have fr := qf_pos _ _ ((ne_iff_vec o r).mp hr)
    unfold quadrant at e1 e2
    rw [e1] at fp
    rw [← e2] at fr
    rw [det_vec] at d1 d2 ⊢
    exact cone_le_trans _ _ _ _ _ _ _ fp (qf_pos _ _ ((ne_iff_vec o q).mp hq)) fr d1 d2

/-- transitivity of "incomparable" (`compareAngle = 0`): together with `compareAngle_trans`, `compareAngle_antisymm`
and `compareAngle_range` this makes `compareAngle o · · = -1` a strict weak order on the directions from `o` -/
theorem compareAngle_eq_trans (o p q r : Pt) (hq : q ≠ o)
    (h1 : compareAngle o p q = 0) (h2 : compareAngle o q r = 0) : compareAngle o p r = 0 := by
  rw [compareAngle_eq_zero] at *
  obtain ⟨e1, d1⟩ := h1
  obtain ⟨e2, d2⟩ := h2
  rw [det_vec] at d1 d2 ⊢
  exact ⟨e1.trans e2, cone_eq_trans _ _ _ _ _ _ _ (qf_pos _ _ ((ne_iff_vec o q).mp hq)) d1 d2⟩

/-- all mixed transitivity facts about three directions, in the form used by the table lemmas: each is the transitivity of
"not after" for one of the six orders of `p`, `q`, `r`, read through antisymmetry -/
theorem compareAngle_compat (o p q r : Pt) (hp : p ≠ o) (hq : q ≠ o) (hr : r ≠ o) :
    (compareAngle o p q ≤ 0 → compareAngle o q r ≤ 0 → compareAngle o p r ≤ 0) ∧
    (compareAngle o p q < 0 → compareAngle o q r ≤ 0 → compareAngle o p r < 0) ∧
    (compareAngle o p q ≤ 0 → compareAngle o q r < 0 → compareAngle o p r < 0) ∧
    (compareAngle o p q ≥ 0 → compareAngle o q r ≥ 0 → compareAngle o p r ≥ 0) ∧
    (compareAngle o p q > 0 → compareAngle o q r ≥ 0 → compareAngle o p r > 0) ∧
    (compareAngle o p q ≥ 0 → compareAngle o q r > 0 → compareAngle o p r > 0) := by
  have w1 := compareAngle_le_trans o p q r hp hq hr
  have w2 := compareAngle_le_trans o q r p hq hr hp
  have w3 := compareAngle_le_trans o r p q hr hp hq
  have w4 := compareAngle_le_trans o r q p hr hq hp
  have w5 := compareAngle_le_trans o p r q hp hr hq
  have w6 := compareAngle_le_trans o q p r hq hp hr
  simp only [compareAngle_antisymm o p q, compareAngle_antisymm o q r, compareAngle_antisymm o p r] at w2 w3 w4 w5 w6
  generalize compareAngle o p q = x at *
  generalize compareAngle o q r = y at *
  generalize compareAngle o p r = z at *
  refine ⟨w1, ?_, ?_, ?_, ?_, ?_⟩ <;> intro h1 h2 <;> omega

theorem compareAngle_trans (o p q r : Pt) (hp : p ≠ o) (hq : q ≠ o) (hr : r ≠ o)
    (h1 : compareAngle o p q = -1) (h2 : compareAngle o q r = -1) : compareAngle o p r = -1 := by
  have := (compareAngle_compat o p q r hp hq hr).2.1 (by omega) (by omega)
  have := compareAngle_range o p r
  omega

/-! ### `compareAngle = 0` is "same ray" -/

theorem sameDir_iff (o p q : Pt) : sameDir o p q = true ↔ (det o p q = 0 ∧ dot o p q > 0) := by
  unfold sameDir; simp

theorem normSq_pos (x y : Int) (h : x ≠ 0 ∨ y ≠ 0) : 0 < x * x + y * y := by
  rcases h with h | h
  · have := mul_self_pos.mpr h; have := mul_self_nonneg y; linarith
  · have := mul_self_pos.mpr h; have := mul_self_nonneg x; linarith

theorem quadrantD_scale (x y t : Int) (ht : 0 < t) : quadrantD (x * t) (y * t) = quadrantD x y := by
  unfold quadrantD
  simp only [ge_iff_le, Int.mul_nonneg_iff_of_pos_right ht]

theorem collinear_quadrant (px py qx qy : Int) (hp : px ≠ 0 ∨ py ≠ 0) (hq : qx ≠ 0 ∨ qy ≠ 0)
    (hd : qx * py - qy * px = 0) : quadrantD px py = quadrantD qx qy ↔ 0 < px * qx + py * qy := by
  -- `|p|² q = (p · q) p`
  have i1 : qx * (px * px + py * py) = px * (px * qx + py * qy) + py * (qx * py - qy * px) := by ring
  have i2 : qy * (px * px + py * py) = py * (px * qx + py * qy) - px * (qx * py - qy * px) := by ring
  rw [hd, Int.mul_zero] at i1 i2
  rw [Int.add_zero] at i1
  rw [Int.sub_zero] at i2
  constructor
  · -- a linear functional that is positive on the common quadrant is positive on both vectors
    intro h
    obtain ⟨a, b, hl⟩ := qf_lin (quadrantD qx qy)
    have fp := qf_pos px py hp
    have fq := qf_pos qx qy hq
    rw [h, hl] at fp
    rw [hl] at fq
    have e : (a * px + b * py) * (px * qx + py * qy) = (a * qx + b * qy) * (px * px + py * py) := by
      rw [Int.add_mul, Int.add_mul, Int.mul_assoc, Int.mul_assoc, Int.mul_assoc, Int.mul_assoc, i1, i2]
    exact (pos_iff_pos_of_mul_pos (e ▸ Int.mul_pos fq (normSq_pos px py hp))).mp fp
  · intro h
    rw [← quadrantD_scale qx qy _ (normSq_pos px py hp), i1, i2, quadrantD_scale px py _ h]

theorem compareAngle_eq_zero_iff (o p q : Pt) (hp : p ≠ o) (hq : q ≠ o) :
    compareAngle o p q = 0 ↔ sameDir o p q = true := by
  rw [compareAngle_eq_zero, sameDir_iff, det_swap23 o q p, Int.neg_eq_zero, and_comm]
  refine and_congr_right fun hz => ?_
  rw [det_vec] at hz
  exact collinear_quadrant _ _ _ _ ((ne_iff_vec o p).mp hp) ((ne_iff_vec o q).mp hq) hz

/-! ### sign tables

A result of `compareAngle` is `-1`, `0` or `1`: a sign `S3`.  The C++ functions built on `compareAngle` and the wedge specification are
both functions of a few such signs, so what is to be proved about them is finite.  Two forms recur below:
* "the function is its table" (`crossBody_eq`, `isBetween_eq`, `cyc01_eq`, ...): each comparison result is written as the value of
  its sign (`toInt_compareAngle`, or `compareAngle_range` for a single one), the signs are generalised, and every combination is closed
  by evaluation;
* "two tables agree on the patterns a strict weak order allows" (`crossT_eq_spec`, `interiorT_eq_spec`, ...): `S3.all` quantifies over
  the signs, `decide` checks all patterns, `S3.all_spec` instantiates and `S3.of_table` reads the row; the actual comparisons satisfy the
  side condition by `compatB_actual`. -/

inductive S3 where
  | neg | zero | pos
deriving DecidableEq, Repr

namespace S3
def ofInt (c : Int) : S3 := if c < 0 then .neg else if c = 0 then .zero else .pos
def flip : S3 → S3
  | .neg => .pos | .zero => .zero | .pos => .neg
def le0 : S3 → Bool | .pos => false | _ => true
def ge0 : S3 → Bool | .neg => false | _ => true
def toInt : S3 → Int | .neg => -1 | .zero => 0 | .pos => 1
def all (f : S3 → Bool) : Bool := f .neg && f .zero && f .pos
theorem all_spec {f : S3 → Bool} (h : all f = true) (s : S3) : f s = true := by
  unfold all at h; simp only [Bool.and_eq_true] at h; cases s <;> simp [h]
theorem flip_flip (s : S3) : s.flip.flip = s := by cases s <;> rfl
/-- reading one row of a table `!condition || (left == right)` -/
theorem of_table {c a b : Bool} (h : (!c || (a == b)) = true) (k : c = true) : a = b := by
  subst k; simpa using h
/-- `ab = cmp a b`, `bc = cmp b c`, `ac = cmp a c` are compatible with a strict weak order -/
def compat (ab bc ac : S3) : Bool :=
  (!(ab.le0 && bc.le0) || ac.le0) && (!(ab == .neg && bc.le0) || ac == .neg) && (!(ab.le0 && bc == .neg) || ac == .neg) &&
  (!(ab.ge0 && bc.ge0) || ac.ge0) && (!(ab == .pos && bc.ge0) || ac == .pos) && (!(ab.ge0 && bc == .pos) || ac == .pos)
end S3

theorem ofInt_neg_one : S3.ofInt (-1) = .neg := rfl
theorem ofInt_zero : S3.ofInt 0 = .zero := rfl
theorem ofInt_one : S3.ofInt 1 = .pos := rfl

theorem ofInt_eq_pos (x : Int) : S3.ofInt x = .pos ↔ 0 < x := by
  unfold S3.ofInt; split_ifs <;> simp <;> omega

theorem ofInt_eq_neg (x : Int) : S3.ofInt x = .neg ↔ x < 0 := by
  unfold S3.ofInt; split_ifs <;> simp <;> omega

theorem ofInt_eq_zero (x : Int) : S3.ofInt x = .zero ↔ x = 0 := by
  unfold S3.ofInt; split_ifs <;> simp <;> omega

theorem ofInt_neg (x : Int) : S3.ofInt (-x) = (S3.ofInt x).flip := by
  unfold S3.ofInt
  rcases Int.lt_trichotomy x 0 with h | h | h
  · rw [if_pos h, if_neg (by omega), if_neg (by omega)]; rfl
  · subst h; rfl
  · rw [if_pos (by omega), if_neg (by omega), if_neg (by omega)]; rfl

theorem ofInt_compareAngle_swap (o p q : Pt) : S3.ofInt (compareAngle o q p) = (S3.ofInt (compareAngle o p q)).flip := by
  rw [compareAngle_antisymm, ofInt_neg]

/-- a comparison result is the value of its sign -/
theorem toInt_compareAngle (o p q : Pt) : (S3.ofInt (compareAngle o p q)).toInt = compareAngle o p q := by
  rcases compareAngle_range o p q with h | h | h <;> rw [h] <;> rfl

theorem compat_actual (o p q r : Pt) (hp : p ≠ o) (hq : q ≠ o) (hr : r ≠ o) :
    S3.compat (S3.ofInt (compareAngle o p q)) (S3.ofInt (compareAngle o q r)) (S3.ofInt (compareAngle o p r)) = true := by
  have h := compareAngle_compat o p q r hp hq hr
  have r1 := compareAngle_range o p q
  have r2 := compareAngle_range o q r
  have r3 := compareAngle_range o p r
  generalize compareAngle o p q = x at *
  generalize compareAngle o q r = y at *
  generalize compareAngle o p r = z at *
  rcases r1 with rfl | rfl | rfl <;> rcases r2 with rfl | rfl | rfl <;> rcases r3 with rfl | rfl | rfl <;> revert h <;> decide

/-- all the compatibility facts available for `b` against the corner `(a0, a1)` -/
def compatB (x p0 p1 : S3) : Bool :=
  S3.compat p0 x p1 && S3.compat p1 x.flip p0 && S3.compat p0.flip p1 x

theorem compatB_actual (o a0 a1 b : Pt) (h0 : a0 ≠ o) (h1 : a1 ≠ o) (hb : b ≠ o) :
    compatB (S3.ofInt (compareAngle o a0 a1)) (S3.ofInt (compareAngle o b a0)) (S3.ofInt (compareAngle o b a1)) = true := by
  unfold compatB
  have c1 := compat_actual o b a0 a1 hb h0 h1
  have c2 := compat_actual o b a1 a0 hb h1 h0
  have c3 := compat_actual o a0 b a1 h0 hb h1
  rw [ofInt_compareAngle_swap o a0 a1] at c2
  rw [ofInt_compareAngle_swap o b a0] at c3
  simp [c1, c2, c3]

/-! ### `isCrossing` -/

/-- `compareBetween` on signs -/
def cbT (c0 c1 : S3) : S3 :=
  if c0 = .zero then .zero else if c1 = .zero then .zero else if c0 = .pos ∧ c1 = .neg then .pos else .neg

/-- the part of `isCrossing` after `aLo`/`aHi` are chosen, on signs (`l0 = cmp b0 aLo`, `h0 = cmp b0 aHi`, ...) -/
def crossBodyT (l0 h0 l1 h1 : S3) : Bool :=
  let c0 := cbT l0 h0
  if c0 = .zero then false
  else
    let c1 := cbT l1 h1
    if c1 = .zero then false else decide (c0 ≠ c1)

/-- `isCrossing` as a function of the signs `x = cmp a0 a1`, `p0 = cmp b0 a0`, `p1 = cmp b0 a1`, `q0 = cmp b1 a0`, `q1 = cmp b1 a1` -/
def crossT (x p0 p1 q0 q1 : S3) : Bool :=
  if x = .pos then crossBodyT p1 p0 q1 q0 else crossBodyT p0 p1 q0 q1

theorem isAngleGreater_eq (o p q : Pt) : isAngleGreater o p q = decide (compareAngle o p q = 1) := by
  rw [Bool.eq_iff_iff, isAngleGreater_iff, decide_eq_true_eq]

/-- the part of `isCrossing` after `aLo`/`aHi` are chosen -/
def crossBody (n aLo aHi b0 b1 : Pt) : Bool :=
  let compBetween0 := compareBetween n b0 aLo aHi
  if compBetween0 == 0 then false
  else
    let compBetween1 := compareBetween n b1 aLo aHi
    if compBetween1 == 0 then false
    else compBetween0 != compBetween1

theorem isCrossing_unfold (n a0 a1 b0 b1 : Pt) :
    isCrossing n a0 a1 b0 b1 = if isAngleGreater n a0 a1 then crossBody n a1 a0 b0 b1 else crossBody n a0 a1 b0 b1 := by
  unfold isCrossing crossBody
  cases isAngleGreater n a0 a1 <;> rfl

theorem crossBody_eq (n lo hi b0 b1 : Pt) :
    crossBody n lo hi b0 b1 = crossBodyT (S3.ofInt (compareAngle n b0 lo)) (S3.ofInt (compareAngle n b0 hi))
      (S3.ofInt (compareAngle n b1 lo)) (S3.ofInt (compareAngle n b1 hi)) := by
  unfold crossBody compareBetween
  rw [← toInt_compareAngle n b0 lo, ← toInt_compareAngle n b0 hi, ← toInt_compareAngle n b1 lo, ← toInt_compareAngle n b1 hi]
  generalize S3.ofInt (compareAngle n b0 lo) = p0, S3.ofInt (compareAngle n b0 hi) = p1,
    S3.ofInt (compareAngle n b1 lo) = q0, S3.ofInt (compareAngle n b1 hi) = q1
  cases p0 <;> cases p1 <;> cases q0 <;> cases q1 <;> rfl

theorem isCrossing_eq_crossT (n a0 a1 b0 b1 : Pt) :
    isCrossing n a0 a1 b0 b1 =
      crossT (S3.ofInt (compareAngle n a0 a1)) (S3.ofInt (compareAngle n b0 a0)) (S3.ofInt (compareAngle n b0 a1))
        (S3.ofInt (compareAngle n b1 a0)) (S3.ofInt (compareAngle n b1 a1)) := by
  rw [isCrossing_unfold, isAngleGreater_eq, crossBody_eq, crossBody_eq]
  unfold crossT
  rcases compareAngle_range n a0 a1 with h | h | h <;> rw [h] <;> rfl

/-- `cyc o a0 b a1` on signs (`x = cmp a0 a1`, `p0 = cmp b a0`, `p1 = cmp b a1`) -/
def cyc01T (x p0 p1 : S3) : Bool :=
  (decide (p0 = .pos) && decide (p1 = .neg)) || (decide (p1 = .neg) && decide (x = .pos)) || (decide (x = .pos) && decide (p0 = .pos))
/-- `cyc o a1 b a0` on signs: the same sweep with the arms exchanged -/
def cyc10T (x p0 p1 : S3) : Bool := cyc01T x.flip p1 p0

def crossSpecT (x p0 p1 q0 q1 : S3) : Bool :=
  (cyc01T x p0 p1 && cyc10T x q0 q1) || (cyc10T x p0 p1 && cyc01T x q0 q1)

theorem angLt_eq (o p q : Pt) (hp : p ≠ o) (hq : q ≠ o) : angLt o p q = decide (compareAngle o p q = -1) := by
  rw [Bool.eq_iff_iff, decide_eq_true_eq, compareAngle_lt_iff o p q hp hq]

theorem cyc01_eq (o a0 a1 b : Pt) (h0 : a0 ≠ o) (h1 : a1 ≠ o) (hb : b ≠ o) :
    cyc o a0 b a1 = cyc01T (S3.ofInt (compareAngle o a0 a1)) (S3.ofInt (compareAngle o b a0)) (S3.ofInt (compareAngle o b a1)) := by
  unfold cyc cyc01T
  rw [angLt_eq o a0 b h0 hb, angLt_eq o b a1 hb h1, angLt_eq o a1 a0 h1 h0,
    compareAngle_antisymm o b a0, compareAngle_antisymm o a0 a1]
  rw [← toInt_compareAngle o a0 a1, ← toInt_compareAngle o b a0, ← toInt_compareAngle o b a1]
  generalize S3.ofInt (compareAngle o a0 a1) = x, S3.ofInt (compareAngle o b a0) = p0, S3.ofInt (compareAngle o b a1) = p1
  cases x <;> cases p0 <;> cases p1 <;> rfl

theorem cyc10_eq (o a0 a1 b : Pt) (h0 : a0 ≠ o) (h1 : a1 ≠ o) (hb : b ≠ o) :
    cyc o a1 b a0 = cyc10T (S3.ofInt (compareAngle o a0 a1)) (S3.ofInt (compareAngle o b a0)) (S3.ofInt (compareAngle o b a1)) := by
  rw [cyc01_eq o a1 a0 b h1 h0 hb, ofInt_compareAngle_swap]; rfl

theorem crossAt_eq_specT (o a0 a1 b0 b1 : Pt) (h0 : a0 ≠ o) (h1 : a1 ≠ o) (hb0 : b0 ≠ o) (hb1 : b1 ≠ o) :
    crossAt o a0 a1 b0 b1 =
      crossSpecT (S3.ofInt (compareAngle o a0 a1)) (S3.ofInt (compareAngle o b0 a0)) (S3.ofInt (compareAngle o b0 a1))
        (S3.ofInt (compareAngle o b1 a0)) (S3.ofInt (compareAngle o b1 a1)) := by
  unfold crossAt crossSpecT
  rw [cyc01_eq o a0 a1 b0 h0 h1 hb0, cyc10_eq o a0 a1 b1 h0 h1 hb1, cyc10_eq o a0 a1 b0 h0 h1 hb0, cyc01_eq o a0 a1 b1 h0 h1 hb1]

/-- the finite heart of `isCrossing_eq_crossAt`: on every sign pattern compatible with a strict weak order the C++ decision
table equals the wedge specification -/
theorem crossT_eq_spec : S3.all (fun x => S3.all fun p0 => S3.all fun p1 => S3.all fun q0 => S3.all fun q1 =>
    !(compatB x p0 p1 && compatB x q0 q1) || (crossT x p0 p1 q0 q1 == crossSpecT x p0 p1 q0 q1)) = true := by
  decide

/-- **the C++ `isCrossing` decides the wedge specification `crossAt`** -/
theorem isCrossing_eq_crossAt (n a0 a1 b0 b1 : Pt) (h0 : a0 ≠ n) (h1 : a1 ≠ n) (hb0 : b0 ≠ n) (hb1 : b1 ≠ n) :
    isCrossing n a0 a1 b0 b1 = crossAt n a0 a1 b0 b1 := by
  rw [isCrossing_eq_crossT, crossAt_eq_specT n a0 a1 b0 b1 h0 h1 hb0 hb1]
  exact S3.of_table (S3.all_spec (S3.all_spec (S3.all_spec (S3.all_spec (S3.all_spec crossT_eq_spec _) _) _) _) _)
    (by rw [compatB_actual n a0 a1 b0 h0 h1 hb0, compatB_actual n a0 a1 b1 h0 h1 hb1]; rfl)

/-! ### isInteriorSegment -/

/-- `isBetween` on signs -/
def betweenT (lo hi : S3) : Bool := if !(decide (lo = .pos)) then false else !(decide (hi = .pos))

/-- `isInteriorSegment` on signs (`x = cmp a0 a1`, `p0 = cmp b a0`, `p1 = cmp b a1`) -/
def interiorT (x p0 p1 : S3) : Bool :=
  if x = .pos then !betweenT p1 p0 else betweenT p0 p1

def interiorSpecT (x p0 p1 : S3) : Bool := cyc01T x p0 p1 || (decide (p1 = .zero) && !decide (x = .zero))

theorem interiorT_eq_spec : S3.all (fun x => S3.all fun p0 => S3.all fun p1 =>
    !(compatB x p0 p1) || (interiorT x p0 p1 == interiorSpecT x p0 p1)) = true := by
  decide

theorem isBetween_eq (n b lo hi : Pt) :
    isBetween n b lo hi = betweenT (S3.ofInt (compareAngle n b lo)) (S3.ofInt (compareAngle n b hi)) := by
  unfold isBetween
  simp only [isAngleGreater_eq]
  rw [← toInt_compareAngle n b lo, ← toInt_compareAngle n b hi]
  generalize S3.ofInt (compareAngle n b lo) = p0, S3.ofInt (compareAngle n b hi) = p1
  cases p0 <;> cases p1 <;> rfl

theorem isInteriorSegment_unfold (n a0 a1 b : Pt) :
    isInteriorSegment n a0 a1 b = if isAngleGreater n a0 a1 then !isBetween n b a1 a0 else isBetween n b a0 a1 := by
  unfold isInteriorSegment
  cases isAngleGreater n a0 a1 <;> simp

theorem isInteriorSegment_eq_T (n a0 a1 b : Pt) :
    isInteriorSegment n a0 a1 b =
      interiorT (S3.ofInt (compareAngle n a0 a1)) (S3.ofInt (compareAngle n b a0)) (S3.ofInt (compareAngle n b a1)) := by
  rw [isInteriorSegment_unfold, isAngleGreater_eq, isBetween_eq, isBetween_eq]
  unfold interiorT
  rcases compareAngle_range n a0 a1 with h | h | h <;> rw [h] <;> rfl

/-- the two directions are the same ray, in terms of the specification order -/
def angEq (o p q : Pt) : Bool := !angLt o p q && !angLt o q p

theorem angEq_eq (o p q : Pt) (hp : p ≠ o) (hq : q ≠ o) : angEq o p q = decide (compareAngle o p q = 0) := by
  unfold angEq
  rw [angLt_eq o p q hp hq, angLt_eq o q p hq hp, compareAngle_antisymm o p q]
  rcases compareAngle_range o p q with h | h | h <;> rw [h] <;> rfl

/-- specification of "the segment `o → b` points into the sweep from `a0` (exclusive) counter-clockwise to `a1` (inclusive)" -/
def interiorAt (o a0 a1 b : Pt) : Bool := cyc o a0 b a1 || (angEq o b a1 && !angEq o a0 a1)

theorem isInteriorSegment_eq_interiorAt (n a0 a1 b : Pt) (h0 : a0 ≠ n) (h1 : a1 ≠ n) (hb : b ≠ n) :
    isInteriorSegment n a0 a1 b = interiorAt n a0 a1 b := by
  rw [isInteriorSegment_eq_T]
  unfold interiorAt
  rw [cyc01_eq n a0 a1 b h0 h1 hb, angEq_eq n b a1 hb h1, angEq_eq n a0 a1 h0 h1]
  rw [S3.of_table (S3.all_spec (S3.all_spec (S3.all_spec interiorT_eq_spec _) _) _) (compatB_actual n a0 a1 b h0 h1 hb)]
  unfold interiorSpecT
  rcases compareAngle_range n a0 a1 with h | h | h <;> rcases compareAngle_range n b a1 with h' | h' | h' <;>
    rw [h, h'] <;> rfl

end GeosModel.Valid
