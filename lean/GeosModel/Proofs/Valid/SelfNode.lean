import GeosModel.Model.Valid.SelfNode
import GeosModel.Proofs.Valid.ProcessAll
import GeosModel.Proofs.Valid.RingNested
/-!
# The self-touch bookkeeping of the self-touching-ring mode (C05)

About `Model/Valid/SelfNode.lean`, for the statements of Props/C05: the analyzer with bookkeeping records the code of
`processAll` and, in presentation order, what each pair contributes (`foldl_processSelf`: nothing is dropped);
`findInteriorSelfNode` answers "some" exactly when SOME recorded entry is not exterior (`findInteriorSelfNode_isSome_iff`), so the
answer (as a boolean) does not depend on the order of the recorded entries nor on how often one occurs
(`findInteriorSelfNode_isSome_congr`, from which `C05.interiorSelfNode_order_irrelevant` follows).
-/
namespace GeosModel.Valid
open GeosModel.Kernel

/-- what one presented pair contributes to the ring's self-node list -/
def recorded (flag : Bool) (p : RSeg × RSeg) : Option SelfNode :=
  if p.1.rid == p.2.rid && p.1.k == p.2.k then none else selfTouchOf flag p.1 p.2

theorem processSelf_eq (flag : Bool) (st : SelfState) (p : RSeg × RSeg) :
    processSelf flag st p.1 p.2 = ⟨processIntersections flag st.code p.1 p.2, st.selfNodes ++ (recorded flag p).toList⟩ := by
  unfold processSelf processIntersections recorded
  cases p.1.rid == p.2.rid && p.1.k == p.2.k
  · cases selfTouchOf flag p.1 p.2
    · exact congrArg (SelfState.mk _) (List.append_nil _).symm
    · rfl
  · exact congrArg (SelfState.mk _) (List.append_nil _).symm

/-- the code is that of `processAll`'s fold, and nothing is dropped: one entry per presented pair that reaches `addSelfTouch`, in order -/
theorem foldl_processSelf (flag : Bool) (pairs : List (RSeg × RSeg)) (st : SelfState) :
    pairs.foldl (fun st p => processSelf flag st p.1 p.2) st =
      ⟨pairs.foldl (fun code p => processIntersections flag code p.1 p.2) st.code, st.selfNodes ++ pairs.filterMap (recorded flag)⟩ := by
  induction pairs generalizing st with
  | nil => exact congrArg (SelfState.mk _) (List.append_nil _).symm
  | cons a rest ih =>
    rw [List.foldl_cons, ih, processSelf_eq, List.foldl_cons, List.filterMap_cons, List.append_assoc]
    cases recorded flag a <;> rfl

/-- the emptiness test of the C++ changes nothing -/
theorem findInteriorSelfNode_eq (r : RingState) :
    r.findInteriorSelfNode = (r.selfNodes.find? fun n => !n.isExterior r.isInteriorOnRight).map (·.nodePt) := by
  unfold RingState.findInteriorSelfNode
  cases r.selfNodes <;> rfl

theorem findInteriorSelfNode_isSome_iff (r : RingState) :
    r.findInteriorSelfNode.isSome = true ↔ ∃ n ∈ r.selfNodes, n.isExterior r.isInteriorOnRight = false := by
  simp only [findInteriorSelfNode_eq, Option.isSome_map, List.find?_isSome, Bool.not_eq_true']

/-- **order and multiplicity of the recorded entries do not matter** for whether an interior self node is found -/
theorem findInteriorSelfNode_isSome_congr (r r' : RingState) (hs : r.isShell = r'.isShell) (hp : r.pts = r'.pts)
    (hm : ∀ n, n ∈ r.selfNodes ↔ n ∈ r'.selfNodes) :
    r.findInteriorSelfNode.isSome = r'.findInteriorSelfNode.isSome := by
  have hi : r.isInteriorOnRight = r'.isInteriorOnRight := by unfold RingState.isInteriorOnRight; rw [hs, hp]
  rw [Bool.eq_iff_iff, findInteriorSelfNode_isSome_iff, findInteriorSelfNode_isSome_iff, hi]
  exact exists_congr fun n => and_congr_left' (hm n)

/-- "either of the other edges could be used to test" (comment in `PolygonRingSelfNode::isExterior`): for a recorded entry —
the passes do not cross — whose second pass is off the arms of a proper first corner, testing `e11` instead of `e10`
gives the same answer -/
theorem isExterior_other_edge (n : SelfNode) (r : Bool)
    (h0 : n.e00 ≠ n.nodePt) (h1 : n.e01 ≠ n.nodePt) (hb0 : n.e10 ≠ n.nodePt) (hb1 : n.e11 ≠ n.nodePt)
    (hx : compareAngle n.nodePt n.e00 n.e01 ≠ 0)
    (hp0 : compareAngle n.nodePt n.e10 n.e00 ≠ 0) (hp1 : compareAngle n.nodePt n.e10 n.e01 ≠ 0)
    (hq0 : compareAngle n.nodePt n.e11 n.e00 ≠ 0) (hq1 : compareAngle n.nodePt n.e11 n.e01 ≠ 0)
    (hc : isCrossing n.nodePt n.e00 n.e01 n.e10 n.e11 = false) :
    ({ n with e10 := n.e11 } : SelfNode).isExterior r = n.isExterior r := by
  have he := isCrossing_eq_sides n.nodePt n.e00 n.e01 n.e10 n.e11 h0 h1 hb0 hb1 hx hp0 hp1 hq0 hq1
  rw [hc, eq_comm, bne_eq_false_iff_eq] at he
  unfold SelfNode.isExterior
  rw [he]

end GeosModel.Valid
