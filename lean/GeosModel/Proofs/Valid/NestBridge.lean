import GeosModel.Proofs.Valid.GenBridge
import GeosModel.Model.Valid.RingNested
/-!
# Loop lemmas and index-walk lemmas for the translator tie of `PolygonTopologyAnalyzer::isRingNested` (Props/C05GenNest.lean)

Regenerated `while` loops over a ring are `for _ in [0:fuel]` loops on an (index, vertex) state that `break` when the condition
fails: they compute an index walk (`forIn_walk`); regenerated search loops are `for` loops that `return` at the first hit
(`List.findSome?`, `forIn_first`).  The rest relates these index walks to the list recursions of Model/Valid/RingNested.lean.
No theorem about GEOS here.
-/
namespace GeosModel.ValidGen
open GeosModel GeosModel.Kernel GeosModel.Valid GeosModel.RayCount

/-- the sequence accessor of the bridges: `getAt<CoordinateXY>(i)` on a list of points (an index past the end is undefined
behaviour in the C++; here the default point) -/
def sAt (s : List Pt) (i : Nat) : Cxx.XY Int := xy (s.getD i default)

theorem pt_sAt (s : List Pt) (i : Nat) : pt (sAt s i) = s.getD i default := rfl

theorem range_size (n : Nat) : ([:n] : Std.Legacy.Range).size = n := Nat.div_one n

/-- a regenerated loop `while (c i ring[i]) i = next i` on the state (index, vertex), run with fuel `n`, ends at the index
reached by `walk` — any function with the two equations of such a loop (`walkPrev`, `walkNext`, `walkNE`) -/
theorem forIn_walk {ε : Type} (ring : List Pt) (c : Nat → Pt → Bool) (next : Nat → Nat) (walk : Nat → Nat → Nat)
    (h0 : ∀ i, walk 0 i = i) (hs : ∀ n i, walk (n + 1) i = if c i (ring.getD i default) then walk n (next i) else i)
    (F : Nat → Nat × Cxx.XY Int → Except ε (ForInStep (Nat × Cxx.XY Int)))
    (hF : ∀ x s, F x s = if c s.1 (pt s.2) then .ok (.yield (next s.1, sAt ring (next s.1))) else .ok (.done s))
    (n i : Nat) : forIn [:n] (i, sAt ring i) F = .ok (walk n i, sAt ring (walk n i)) := by
  have h : ∀ (l : List Nat) i, forIn l (i, sAt ring i) F = .ok (walk l.length i, sAt ring (walk l.length i)) := by
    intro l
    induction l with
    | nil => intro i; rw [List.forIn_nil, List.length_nil, h0]; rfl
    | cons x xs ih =>
      intro i
      rw [List.forIn_cons, hF, List.length_cons, hs, pt_sAt]
      split
      · exact ih _
      · rfl
  rw [Std.Legacy.Range.forIn_eq_forIn_range', h, List.length_range', range_size]

theorem forIn_first {ρ ε : Type} (found : Nat → Option ρ) (F : Nat → Option ρ × Unit → Except ε (ForInStep (Option ρ × Unit)))
    (hF : ∀ i s, F i s = match found i with
      | some r => Except.ok (ForInStep.done (some r, ()))
      | none => Except.ok (ForInStep.yield (none, ())))
    (n : Nat) : forIn [:n] (none, ()) F = Except.ok ((List.range' 0 n).findSome? found, ()) := by
  have h : ∀ l : List Nat, forIn l (none, ()) F = Except.ok (l.findSome? found, ()) := by
    intro l
    induction l with
    | nil => rfl
    | cons x xs ih =>
      rw [List.forIn_cons, hF, List.findSome?_cons]
      cases found x with
      | some r => rfl
      | none => exact ih
  rw [Std.Legacy.Range.forIn_eq_forIn_range', h, range_size]

/-- the search loop of `intersectingSegIndex`, reading the vertices through an accessor `g` that agrees with `l` from offset `k`,
is the model's list recursion -/
theorem findSome_intersectingSegIndex (pt : Pt) (g : Nat → Pt) : ∀ (l : List Pt) (k : Nat),
    (∀ j, j < l.length → g (k + j) = l.getD j default) →
    (List.range' k (l.length - 1)).findSome? (fun i =>
        if isOnSegment pt (g i) (g (i + 1)) then some (if pt == g (i + 1) then i + 1 else i) else none)
      = intersectingSegIndex pt k l
  | [], _, _ => rfl
  | [_], _, _ => rfl
  | a :: b :: r, k, h => by
    have ha : g k = a := h 0 (Nat.succ_pos _)
    have hb : g (k + 1) = b := h 1 (Nat.succ_lt_succ (Nat.succ_pos _))
    have ih := findSome_intersectingSegIndex pt g (b :: r) (k + 1) fun j hj => by
      rw [Nat.add_right_comm]; exact h (j + 1) (Nat.succ_lt_succ hj)
    rw [intersectingSegIndex, ← ih, List.length_cons, List.length_cons, Nat.add_sub_cancel, Nat.add_sub_cancel,
      List.range'_succ, List.findSome?_cons, ha, hb]
    cases isOnSegment pt a b <;> rfl

/-- `findNonEqualVertex` as the recursion the C++ loop runs: a vertex is skipped while it equals `p` and is not the last -/
theorem findNonEqualVertex_cons (x a b : Pt) (r : List Pt) (p : Pt) :
    findNonEqualVertex (x :: a :: b :: r) p = if a == p then findNonEqualVertex (a :: b :: r) p else a := by
  unfold findNonEqualVertex
  simp only [List.drop_succ_cons, List.drop_zero, List.dropLast_cons_cons, List.find?_cons, List.getLast?_cons_cons, bne]
  cases a == p <;> rfl

/-- the index walk of `findNonEqualVertex`: from `i`, advance while the vertex equals `p` and `i < n − 1` -/
def walkNE (ring : List Pt) (p : Pt) : Nat → Nat → Nat
  | 0, i => i
  | fuel + 1, i => if (ring.getD i default == p && decide (i < ring.length - 1)) then walkNE ring p fuel (i + 1) else i

/-- started at the offset `k` of the last part `a :: r` of a ring, with enough fuel, the walk stops on the vertex
`findNonEqualVertex` finds, and the loop condition is false there (`x` stands for the vertex before `a`: `findNonEqualVertex` never
reads the head of its list, see `findNonEqualVertex_cons`) -/
theorem walkNE_spec (ring : List Pt) (p : Pt) : ∀ (fuel : Nat) (r : List Pt) (x a : Pt) (k : Nat), r.length < fuel →
    (∀ j, j ≤ r.length → ring.getD (k + j) default = (a :: r).getD j default) → ring.length = k + r.length + 1 →
    ring.getD (walkNE ring p fuel k) default = findNonEqualVertex (x :: a :: r) p ∧
    (ring.getD (walkNE ring p fuel k) default == p && decide (walkNE ring p fuel k < ring.length - 1)) = false
  | 0, _, _, _, _, h, _, _ => absurd h (Nat.not_lt_zero _)
  | fuel + 1, [], x, a, k, _, hg, hn => by
    have hk : decide (k < ring.length - 1) = false := by rw [hn]; exact decide_eq_false (Nat.lt_irrefl k)
    rw [walkNE, hk, Bool.and_false, if_neg Bool.false_ne_true, hk, Bool.and_false]
    exact ⟨hg 0 (Nat.le_refl _), rfl⟩
  | fuel + 1, b :: r, x, a, k, hf, hg, hn => by
    have ha : ring.getD k default = a := hg 0 (Nat.zero_le _)
    have hk : decide (k < ring.length - 1) = true := by
      rw [hn]; exact decide_eq_true (Nat.lt_add_of_pos_right (Nat.succ_pos _))
    rw [walkNE, ha, hk, Bool.and_true, findNonEqualVertex_cons]
    cases hp : a == p
    · rw [if_neg Bool.false_ne_true, if_neg Bool.false_ne_true, ha, hp]; exact ⟨rfl, rfl⟩
    · rw [if_pos rfl, if_pos rfl]
      exact walkNE_spec ring p fuel r a b (k + 1) (Nat.lt_of_succ_lt_succ hf)
        (fun j hj => by rw [Nat.add_right_comm]; exact hg (j + 1) (Nat.succ_le_succ hj)) (by rw [hn, List.length_cons]; omega)

theorem findNonEqualVertex_eq_walk (ring : List Pt) (p : Pt) (h : 2 ≤ ring.length) :
    ring.getD (walkNE ring p ring.length 1) default = findNonEqualVertex ring p ∧
    (ring.getD (walkNE ring p ring.length 1) default == p && decide (walkNE ring p ring.length 1 < ring.length - 1)) = false :=
  match ring, h with
  | x :: a :: r, _ => walkNE_spec (x :: a :: r) p _ r x a 1 (Nat.lt_succ_of_lt (Nat.lt_succ_self _))
      (fun j _ => by rw [Nat.add_comm]; rfl) (Nat.add_comm _ _)

end GeosModel.ValidGen
