import GeosModel.Model.Valid.NestedTester
import GeosModel.Proofs.Kernel.IndexedLocateCorrect
/-!
# `IndexedNestedPolygonTester`: every hole and every candidate is looked at (C05)

About `Model/Valid/NestedTester.lean`, for the statements of Props/C05.  When no `isRingNested` call throws:
* the loop over the holes is `any` over the holes (`holesLoop_eq_any`), so it does not depend on their order (`holesLoop_perm`;
  the point locations do not either: `locateIndexed_perm`, by C07's `visit_perm`);
* `isNested` answers "nested" exactly when SOME element has a hit among the others, and "not nested" otherwise
  (`isNestedLoop_noThrow` from the start of the list); having such a hit does not depend on the order of the elements (`HasHit.perm`).
-/
namespace GeosModel.Valid
open GeosModel.Kernel GeosModel.RayCount

/-- no `isRingNested(shell, hole)` call that the loop can reach throws -/
def HolesNoThrow (shell : List Pt) (holes : List (List Pt)) : Prop :=
  ∀ h ∈ holes, envCovers h shell = true → (isRingNested shell h).isSome = true

/-- the shell lies in this hole, as far as the loop is concerned -/
def inHole (shell hole : List Pt) : Bool := envCovers hole shell && (isRingNested shell hole == some true)

theorem holesLoop_eq_any (shell : List Pt) (holes : List (List Pt)) (hn : HolesNoThrow shell holes) :
    holesLoop shell holes = some (holes.any (inHole shell)) := by
  induction holes with
  | nil => rfl
  | cons h hs ih =>
    have ih' := ih fun x hx => hn x (List.mem_cons_of_mem _ hx)
    rw [holesLoop, List.any_cons, inHole]
    cases he : envCovers h shell
    · exact ih'
    · have := hn h List.mem_cons_self he
      rcases hr : isRingNested shell h with _ | _ | _
      · rw [hr] at this; cases this
      · exact ih'
      · rfl

theorem holesLoop_perm (shell : List Pt) (holes holes' : List (List Pt)) (hp : holes.Perm holes')
    (hn : HolesNoThrow shell holes) : holesLoop shell holes = holesLoop shell holes' := by
  rw [holesLoop_eq_any shell holes hn, holesLoop_eq_any shell holes' fun h hm => hn h (hp.mem_iff.mpr hm), PolyLocate.perm_any _ hp]

theorem locateIndexed_perm (p : Pt) {rings rings' : List (List Pt)} (hp : rings.Perm rings') :
    PolyLocate.locateIndexed p rings = PolyLocate.locateIndexed p rings' := by
  unfold PolyLocate.locateIndexed
  rw [PolyLocate.visit_filter, PolyLocate.visit_filter]
  unfold PolyLocate.allSegs
  rw [PolyLocate.visit_perm p (hp.flatMap_right _)]

/-- the pair (element `a`, candidate `b`) yields a nested point -/
def hitB (a b : Poly) : Bool :=
  match candidate a b with
  | some (some (some _)) => true
  | _ => false

/-- no `findNestedPoint` call between two elements of the list throws -/
def NoThrow (polys : List Poly) : Prop := ∀ a ∈ polys, ∀ b ∈ polys, candidate a b ≠ some none

theorem firstHit_noThrow (a : Poly) (cs : List Poly) (hn : ∀ b ∈ cs, candidate a b ≠ some none) :
    (∃ p, firstHit (cs.filterMap (candidate a)) = some (some p)) ∧ cs.any (hitB a) = true ∨
    firstHit (cs.filterMap (candidate a)) = some none ∧ cs.any (hitB a) = false := by
  induction cs with
  | nil => exact Or.inr ⟨rfl, rfl⟩
  | cons b r ih =>
    have ih' := ih fun x hx => hn x (List.mem_cons_of_mem _ hx)
    rw [List.filterMap_cons, List.any_cons, hitB]
    rcases hc : candidate a b with _ | _ | _ | p
    · exact ih'
    · exact absurd hc (hn b List.mem_cons_self)
    · exact ih'
    · exact Or.inl ⟨⟨p, rfl⟩, rfl⟩

/-- `l` splits at an element `a` that has a hit among the other elements -/
def HasHit (l : List Poly) : Prop := ∃ l1 a l2, l = l1 ++ a :: l2 ∧ (l1 ++ l2).any (hitB a) = true

/-- the same for the elements of `post`, the others being `pre` and the rest of `post` (`HasHit l` is `HitFrom [] l`):
what the outer loop of `isNested` has still to find when it stands between `pre` and `post` -/
def HitFrom (pre post : List Poly) : Prop := ∃ l1 a l2, post = l1 ++ a :: l2 ∧ (pre ++ (l1 ++ l2)).any (hitB a) = true

theorem hitFrom_cons (pre : List Poly) (x : Poly) (post : List Poly) :
    HitFrom pre (x :: post) ↔ (pre ++ post).any (hitB x) = true ∨ HitFrom (pre ++ [x]) post := by
  constructor
  · rintro ⟨_ | ⟨y, l1⟩, a, l2, he, ha⟩ <;> obtain ⟨rfl, rfl⟩ := List.cons.inj he
    · exact Or.inl ha
    · exact Or.inr ⟨l1, a, l2, rfl, by rwa [List.append_assoc]⟩
  · rintro (h | ⟨l1, a, l2, rfl, ha⟩)
    · exact ⟨[], x, post, rfl, h⟩
    · exact ⟨x :: l1, a, l2, rfl, by rwa [List.append_assoc] at ha⟩

/-- when nothing throws the loop answers, and it answers "nested" exactly when an element still to come has a hit among the others -/
theorem isNestedLoop_noThrow (pre post : List Poly) (hn : NoThrow (pre ++ post)) :
    (∃ p, isNestedLoop pre post = some (some p)) ∧ HitFrom pre post ∨ isNestedLoop pre post = some none ∧ ¬ HitFrom pre post := by
  induction post generalizing pre with
  | nil => exact Or.inr ⟨rfl, fun ⟨l1, _, _, he, _⟩ => by cases l1 <;> cases he⟩
  | cons a post ih =>
    have hmem : ∀ b ∈ pre ++ post, candidate a b ≠ some none := fun b hb =>
      hn a (List.mem_append_right _ List.mem_cons_self) b
        ((List.mem_append.mp hb).elim (List.mem_append_left _) fun h => List.mem_append_right _ (List.mem_cons_of_mem _ h))
    rw [isNestedLoop, hitFrom_cons]
    rcases firstHit_noThrow a (pre ++ post) hmem with ⟨⟨p, hp⟩, ha⟩ | ⟨hp, ha⟩
    · rw [hp]; exact Or.inl ⟨⟨p, rfl⟩, Or.inl ha⟩
    · rw [hp, ha]
      rcases ih (pre ++ [a]) (by rwa [List.append_assoc]) with ⟨h1, h2⟩ | ⟨h1, h2⟩
      · exact Or.inl ⟨h1, Or.inr h2⟩
      · exact Or.inr ⟨h1, fun h => h.elim Bool.false_ne_true h2⟩

theorem HasHit.perm {l l' : List Poly} (hp : l.Perm l') : HasHit l → HasHit l' := by
  rintro ⟨l1, a, l2, rfl, ha⟩
  obtain ⟨m1, m2, rfl⟩ := List.append_of_mem (hp.mem_iff.mp (List.mem_append_right _ List.mem_cons_self))
  exact ⟨m1, a, m2, rfl,
    by rwa [← PolyLocate.perm_any _ (List.perm_middle.symm.trans (hp.trans List.perm_middle)).cons_inv]⟩

theorem NoThrow.perm {l l' : List Poly} (hp : l.Perm l') (hn : NoThrow l) : NoThrow l' :=
  fun a ha b hb => hn a (hp.mem_iff.mpr ha) b (hp.mem_iff.mpr hb)

end GeosModel.Valid
