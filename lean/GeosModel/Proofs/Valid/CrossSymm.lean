import GeosModel.Proofs.Valid.NodeTopo
/-!
# The wedge specification is symmetric in its two passes (C05 SPEC)

`crossAt o a0 a1 b0 b1 = crossAt o b0 b1 a0 a1`: if the edges of pass `b` are separated by the corner of pass `a`, then
the edges of `a` are separated by the corner of `b` (which pass is called `a` depends on the order in which the noder
presents the segments).  Proof: both sides are functions of
the six pairwise comparisons of the four directions; on every sign pattern compatible with a strict weak order on all
four triples the two tables agree (`decide`), and the actual comparisons are compatible (`compatB_actual`).
-/
namespace GeosModel.Valid
open GeosModel.Kernel

/-- the finite heart: `x = cmp a0 a1`, `y = cmp b0 b1`, `p0 = cmp b0 a0`, `p1 = cmp b0 a1`, `q0 = cmp b1 a0`, `q1 = cmp b1 a1` -/
theorem crossSpecT_symm : S3.all (fun x => S3.all fun y => S3.all fun p0 => S3.all fun p1 => S3.all fun q0 => S3.all fun q1 =>
    !(compatB x p0 p1 && compatB x q0 q1 && compatB y p0.flip q0.flip && compatB y p1.flip q1.flip) ||
    (crossSpecT x p0 p1 q0 q1 == crossSpecT y p0.flip q0.flip p1.flip q1.flip)) = true := by
  decide

/-- **the wedge specification is symmetric in the two passes** -/
theorem crossAt_symm (o a0 a1 b0 b1 : Pt) (h0 : a0 ≠ o) (h1 : a1 ≠ o) (hb0 : b0 ≠ o) (hb1 : b1 ≠ o) :
    crossAt o b0 b1 a0 a1 = crossAt o a0 a1 b0 b1 := by
  rw [crossAt_eq_specT o a0 a1 b0 b1 h0 h1 hb0 hb1, crossAt_eq_specT o b0 b1 a0 a1 hb0 hb1 h0 h1]
  rw [ofInt_compareAngle_swap o b0 a0, ofInt_compareAngle_swap o b1 a0, ofInt_compareAngle_swap o b0 a1, ofInt_compareAngle_swap o b1 a1]
  have k1 := compatB_actual o a0 a1 b0 h0 h1 hb0
  have k2 := compatB_actual o a0 a1 b1 h0 h1 hb1
  have k3 := compatB_actual o b0 b1 a0 hb0 hb1 h0
  have k4 := compatB_actual o b0 b1 a1 hb0 hb1 h1
  rw [ofInt_compareAngle_swap o b0 a0, ofInt_compareAngle_swap o b1 a0] at k3
  rw [ofInt_compareAngle_swap o b0 a1, ofInt_compareAngle_swap o b1 a1] at k4
  exact (S3.of_table (S3.all_spec (S3.all_spec (S3.all_spec (S3.all_spec (S3.all_spec (S3.all_spec crossSpecT_symm _) _) _) _) _) _)
    (by rw [k1, k2, k3, k4]; rfl)).symm

end GeosModel.Valid
