import GeosModel.Proofs.Valid.NodeTopo
import GeosModel.Proofs.Valid.RefInv
/-!
# The wedge specification in determinants only, and the lattice symmetries (C05 core)

`cyc o u d v` ("`d` lies strictly inside the counter-clockwise sweep from `u` to `v`") is defined in Model/Valid/NodeTopo.lean
through the half-plane order `angLt`, which singles out the positive x-axis.  Here it is proved equal to `inSweep`, a
condition on orientation determinants (and one dot product for the straight corner) alone:

* `det o u v > 0` (the sweep is less than a half turn):  `det o u d > 0 ∧ det o d v > 0`;
* `det o u v < 0` (more than a half turn):               `det o u d > 0 ∨ det o d v > 0`;
* `det o u v = 0`, `u` and `v` opposite (a half turn):    `det o u d > 0`;
* `u` and `v` on one ray:                                 empty.

Determinants and dot products are preserved by the four lattice rotations and the determinants change sign under the four
lattice reflections, so `cyc`, `crossAt`, and with them the C++ `isCrossing`, are invariant under all eight lattice
symmetries (reflections reverse the sweep), although `compareAngle` itself is not.

Proof of `cyc = inSweep`: every direction is represented by the member of its line that lies in the upper half turn
(`rep`); among such representatives the angular order is the sign of the determinant, which is a strict weak order
(`compatB_actual`), so both sides become functions of three Booleans (which half turn) and three signs, compared on all
compatible patterns by `decide`.
-/
namespace GeosModel.Valid
open GeosModel.Kernel

/-! ### representatives in the upper half turn -/

/-- point reflection in `o` -/
def reflPt (o p : Pt) : Pt := ⟨2 * o.x - p.x, 2 * o.y - p.y⟩

/-- the member of the line through `o` and `p` whose direction lies in the upper half turn `[0°, 180°)` -/
def rep (o p : Pt) : Pt := if upper o p then p else reflPt o p

theorem upper_refl (o p : Pt) (hp : p ≠ o) : upper o (reflPt o p) = !upper o p := by
  rw [ne_iff_vec] at hp
  rw [Bool.eq_iff_iff, Bool.not_eq_true', ← Bool.not_eq_true, upper_iff, upper_iff]
  simp only [reflPt]
  omega

theorem rep_ne (o p : Pt) (hp : p ≠ o) : rep o p ≠ o := by
  unfold rep; split
  · exact hp
  · rw [ne_iff_vec] at hp ⊢; simp only [reflPt]; omega

theorem rep_upper (o p : Pt) (hp : p ≠ o) : upper o (rep o p) = true := by
  unfold rep
  cases h : upper o p
  · rw [if_neg Bool.false_ne_true, upper_refl o p hp, h]; rfl
  · rw [if_pos rfl]; exact h

theorem det_refl_left (o p q : Pt) : det o (reflPt o p) q = - det o p q := by unfold det reflPt; ring
theorem det_refl_right (o p q : Pt) : det o p (reflPt o q) = - det o p q := by unfold det reflPt; ring
theorem dot_refl_left (o p q : Pt) : dot o (reflPt o p) q = - dot o p q := by unfold dot reflPt; ring
theorem dot_refl_right (o p q : Pt) : dot o p (reflPt o q) = - dot o p q := by unfold dot reflPt; ring

/-- the sign of a determinant from the sign for the representatives -/
def sdT (hp hq : Bool) (s : S3) : S3 := if hp == hq then s else s.flip

theorem sgn_det_rep (o p q : Pt) :
    S3.ofInt (det o p q) = sdT (upper o p) (upper o q) (S3.ofInt (det o (rep o p) (rep o q))) := by
  unfold rep sdT
  cases e1 : upper o p <;> cases e2 : upper o q <;>
    simp [det_refl_left, det_refl_right, ofInt_neg, S3.flip_flip]

theorem dot_rep (o p q : Pt) :
    dot o p q = if upper o p == upper o q then dot o (rep o p) (rep o q) else - dot o (rep o p) (rep o q) := by
  unfold rep
  cases e1 : upper o p <;> cases e2 : upper o q <;> simp [dot_refl_left, dot_refl_right]

/-- `angLt` from the half turns and the determinant sign of the representatives -/
def angLtH (hp hq : Bool) (s : S3) : Bool := (hp && !hq) || ((hp == hq) && decide (s = .pos))

theorem angLt_rep (o p q : Pt) :
    angLt o p q = angLtH (upper o p) (upper o q) (S3.ofInt (det o (rep o p) (rep o q))) := by
  unfold angLt angLtH rep
  cases e1 : upper o p <;> cases e2 : upper o q <;>
    simp [det_refl_left, det_refl_right, ofInt_eq_pos]

/-- among directions of the upper half turn the sign of the determinant is (minus) the C++ comparison -/
theorem det_upper (o a b : Pt) (ha : a ≠ o) (hb : b ≠ o) (ua : upper o a = true) (ub : upper o b = true) :
    S3.ofInt (det o a b) = (S3.ofInt (compareAngle o a b)).flip := by
  have h1 := compareAngle_lt_iff o a b ha hb
  have h2 := compareAngle_lt_iff o b a hb ha
  rw [angLt_iff, ua, ub] at h1 h2
  simp only [Bool.true_eq_false, and_false, true_and, false_or, det_swap23 o a b] at h1 h2
  have a1 := compareAngle_antisymm o a b
  have r := compareAngle_range o a b
  rcases Int.lt_trichotomy (det o a b) 0 with hd | hd | hd
  · rw [(ofInt_eq_neg _).mpr hd, show compareAngle o a b = 1 by omega]; rfl
  · rw [hd, show compareAngle o a b = 0 by omega]; rfl
  · rw [(ofInt_eq_pos _).mpr hd, show compareAngle o a b = -1 by omega]; rfl

/-! ### the determinant form of the sweep -/

/-- `d` lies strictly inside the counter-clockwise sweep from `u` to `v`, in determinants only -/
def inSweep (o u d v : Pt) : Bool :=
  if det o u v > 0 then decide (det o u d > 0) && decide (det o d v > 0)
  else if det o u v < 0 then decide (det o u d > 0) || decide (det o d v > 0)
  else decide (dot o u v < 0) && decide (det o u d > 0)

def sweepT (D Dud Ddv : S3) (opp : Bool) : Bool :=
  match D with
  | .pos => decide (Dud = .pos) && decide (Ddv = .pos)
  | .neg => decide (Dud = .pos) || decide (Ddv = .pos)
  | .zero => opp && decide (Dud = .pos)

theorem inSweep_eq_T (o u d v : Pt) :
    inSweep o u d v = sweepT (S3.ofInt (det o u v)) (S3.ofInt (det o u d)) (S3.ofInt (det o d v)) (decide (dot o u v < 0)) := by
  unfold inSweep sweepT
  simp only [gt_iff_lt, ← ofInt_eq_pos, ← ofInt_eq_neg]
  cases S3.ofInt (det o u v) <;> rfl

theorem sweepT_opp_irrelevant (D a b : S3) (x y : Bool) (hD : D ≠ .zero) : sweepT D a b x = sweepT D a b y := by
  cases D with
  | zero => exact absurd rfl hD
  | _ => rfl

/-- `cyc` on the abstract data: `x = cmp û v̂`, `p0 = cmp d̂ û`, `p1 = cmp d̂ v̂` (hats = representatives) -/
def cycHT (hu hd hv : Bool) (x p0 p1 : S3) : Bool :=
  let lud := angLtH hu hd p0
  let ldv := angLtH hd hv p1.flip
  let lvu := angLtH hv hu x
  (lud && ldv) || (ldv && lvu) || (lvu && lud)

def sweepHT (hu hd hv : Bool) (x p0 p1 : S3) : Bool :=
  sweepT (sdT hu hv x.flip) (sdT hu hd p0) (sdT hd hv p1.flip) (hu != hv)

/-- the finite heart of `cyc = inSweep` -/
theorem cycHT_eq_sweepHT : ∀ hu hd hv : Bool, S3.all (fun x => S3.all fun p0 => S3.all fun p1 =>
    !(compatB x p0 p1) || (cycHT hu hd hv x p0 p1 == sweepHT hu hd hv x p0 p1)) = true := by
  decide

theorem dot_neg_iff (o u v : Pt) (hu : u ≠ o) (hv : v ≠ o) (hz : det o u v = 0) :
    decide (dot o u v < 0) = (upper o u != upper o v) := by
  -- the representatives are collinear directions of one half turn, hence one ray: their dot product is positive (`sd`);
  -- `dot o u v` is that dot product, negated exactly when `u` and `v` lie in different half turns (`dot_rep`)
  have hz' : S3.ofInt (det o (rep o u) (rep o v)) = .zero := by
    have := sgn_det_rep o u v
    rw [hz] at this
    revert this
    unfold sdT
    cases S3.ofInt (det o (rep o u) (rep o v)) <;> cases upper o u == upper o v <;> decide
  rw [det_upper o (rep o u) (rep o v) (rep_ne o u hu) (rep_ne o v hv) (rep_upper o u hu) (rep_upper o v hv)] at hz'
  have c0 : compareAngle o (rep o u) (rep o v) = 0 := by
    revert hz'; rw [← ofInt_eq_zero]; cases S3.ofInt (compareAngle o (rep o u) (rep o v)) <;> decide
  have sd := (compareAngle_eq_zero_iff o (rep o u) (rep o v) (rep_ne o u hu) (rep_ne o v hv)).mp c0
  rw [sameDir_iff] at sd
  rw [dot_rep o u v]
  cases upper o u <;> cases upper o v <;> simp <;> omega

/-- **`cyc` is the determinant condition `inSweep`** -/
theorem cyc_eq_inSweep (o u d v : Pt) (hu : u ≠ o) (hd : d ≠ o) (hv : v ≠ o) : cyc o u d v = inSweep o u d v := by
  have ru := rep_ne o u hu; have rd := rep_ne o d hd; have rv := rep_ne o v hv
  have uu := rep_upper o u hu; have ud := rep_upper o d hd; have uv := rep_upper o v hv
  have k := compatB_actual o (rep o u) (rep o v) (rep o d) ru rv rd
  -- determinant signs of the representatives in terms of the three comparisons
  have s_uv := det_upper o (rep o u) (rep o v) ru rv uu uv
  have s_dv := det_upper o (rep o d) (rep o v) rd rv ud uv
  have s_ud : S3.ofInt (det o (rep o u) (rep o d)) = S3.ofInt (compareAngle o (rep o d) (rep o u)) := by
    rw [det_upper o (rep o u) (rep o d) ru rd uu ud, ofInt_compareAngle_swap, S3.flip_flip]
  have s_vu : S3.ofInt (det o (rep o v) (rep o u)) = S3.ofInt (compareAngle o (rep o u) (rep o v)) := by
    rw [det_upper o (rep o v) (rep o u) rv ru uv uu, ofInt_compareAngle_swap, S3.flip_flip]
  -- the dot product only matters for a straight corner, where it says whether `u`, `v` lie in different half turns
  have hopp : sweepT (S3.ofInt (det o u v)) (S3.ofInt (det o u d)) (S3.ofInt (det o d v)) (decide (dot o u v < 0)) =
      sweepT (S3.ofInt (det o u v)) (S3.ofInt (det o u d)) (S3.ofInt (det o d v)) (upper o u != upper o v) := by
    by_cases hz : det o u v = 0
    · rw [dot_neg_iff o u v hu hv hz]
    · exact sweepT_opp_irrelevant _ _ _ _ _ fun h => hz ((ofInt_eq_zero _).mp h)
  unfold cyc
  rw [inSweep_eq_T, hopp, angLt_rep o u d, angLt_rep o d v, angLt_rep o v u, sgn_det_rep o u v, sgn_det_rep o u d, sgn_det_rep o d v,
    s_uv, s_ud, s_dv, s_vu]
  exact S3.of_table (S3.all_spec (S3.all_spec (S3.all_spec (cycHT_eq_sweepHT _ _ _) _) _) _) k

/-! ### the eight lattice symmetries -/

/-! `latticeSym k` (Proofs/Valid/RefInv.lean; the numbering of the harness' `Xform.sym`): 0–3 rotations by 0°, 90°, 180°, 270°;
4–7 reflections -/

def isReflection (k : Nat) : Bool := decide (k % 8 ≥ 4)

theorem latticeSym_cases (k : Nat) (P : (Pt → Pt) → Bool → Prop)
    (h0 : P (fun p => p) false) (h1 : P (fun p => ⟨-p.y, p.x⟩) false) (h2 : P (fun p => ⟨-p.x, -p.y⟩) false)
    (h3 : P (fun p => ⟨p.y, -p.x⟩) false) (h4 : P (fun p => ⟨-p.x, p.y⟩) true) (h5 : P (fun p => ⟨p.x, -p.y⟩) true)
    (h6 : P (fun p => ⟨p.y, p.x⟩) true) (h7 : P (fun p => ⟨-p.y, -p.x⟩) true) : P (latticeSym k) (isReflection k) := by
  have hk : k % 8 < 8 := Nat.mod_lt _ (by decide)
  have e : latticeSym k = fun p => latticeSym k p := rfl
  rw [e]; unfold latticeSym isReflection
  generalize k % 8 = m at hk
  match m, hk with
  | 0, _ => exact h0 | 1, _ => exact h1 | 2, _ => exact h2 | 3, _ => exact h3
  | 4, _ => exact h4 | 5, _ => exact h5 | 6, _ => exact h6 | 7, _ => exact h7

theorem det_latticeSym (k : Nat) (a b c : Pt) :
    det (latticeSym k a) (latticeSym k b) (latticeSym k c) = if isReflection k then - det a b c else det a b c := by
  refine latticeSym_cases k (fun f r => det (f a) (f b) (f c) = if r then - det a b c else det a b c) ?_ ?_ ?_ ?_ ?_ ?_ ?_ ?_ <;>
    simp only [det, Bool.false_eq_true, if_false, if_true] <;> ring

theorem dot_latticeSym (k : Nat) (a b c : Pt) :
    dot (latticeSym k a) (latticeSym k b) (latticeSym k c) = dot a b c := by
  refine latticeSym_cases k (fun f _ => dot (f a) (f b) (f c) = dot a b c) ?_ ?_ ?_ ?_ ?_ ?_ ?_ ?_ <;>
    simp only [dot] <;> ring

theorem latticeSym_inj (k : Nat) (a b : Pt) : latticeSym k a = latticeSym k b ↔ a = b := by
  refine latticeSym_cases k (fun f _ => f a = f b ↔ a = b) ?_ ?_ ?_ ?_ ?_ ?_ ?_ ?_ <;>
    simp [Pt.ext_iff'] <;> omega

theorem latticeSym_ne (k : Nat) (a b : Pt) (h : a ≠ b) : latticeSym k a ≠ latticeSym k b :=
  fun e => h ((latticeSym_inj k a b).mp e)

theorem opposite_det_sign (o u d v : Pt) (hu : u ≠ o) (hz : det o u v = 0) (hn : dot o u v < 0) :
    (det o d v > 0 ↔ det o u d > 0) ∧ (det o d v < 0 ↔ det o u d < 0) := by
  have id : det o d v * dot o u u = det o u d * -dot o u v + det o u v * dot o u d := by unfold det dot; ring
  rw [hz, Int.zero_mul, Int.add_zero] at id
  have hN : 0 < dot o u u := normSq_pos _ _ ((ne_iff_vec o u).mp hu)
  have hs := congrArg Int.sign id
  rw [Int.sign_mul, Int.sign_mul, Int.sign_eq_one_of_pos hN, Int.sign_eq_one_of_pos (Int.neg_pos.mpr hn), Int.mul_one, Int.mul_one] at hs
  rw [gt_iff_lt, gt_iff_lt, ← Int.sign_eq_one_iff_pos, ← Int.sign_eq_one_iff_pos, ← Int.sign_eq_neg_one_iff_neg, ← Int.sign_eq_neg_one_iff_neg, hs]
  exact ⟨Iff.rfl, Iff.rfl⟩

/-- rotations keep the sweep, reflections reverse it -/
theorem inSweep_latticeSym (k : Nat) (o u d v : Pt) (hu : u ≠ o) :
    inSweep (latticeSym k o) (latticeSym k u) (latticeSym k d) (latticeSym k v) =
      if isReflection k then inSweep o v d u else inSweep o u d v := by
  unfold inSweep
  simp only [det_latticeSym, dot_latticeSym]
  have a1 := det_swap23 o u v
  have a2 := det_swap23 o u d
  have a3 := det_swap23 o d v
  have dc : dot o v u = dot o u v := by unfold dot; ring
  -- a reflection negates the three determinants, and `inSweep o v d u` reads them with `u`, `v` exchanged; the rows
  -- `det o u v ≠ 0` then agree at once, and the straight-corner row (`det o u v = 0`, `dot o u v < 0`) agrees because `K`
  -- gives `det o d v` and `det o u d` the same sign when `u`, `v` are opposite
  have K := opposite_det_sign o u d v hu
  cases isReflection k
  · simp
  · simp only [if_true, dc]
    rw [show det o v u = - det o u v by omega, show det o v d = - det o d v by omega, show det o d u = - det o u d by omega]
    generalize det o u v = D at *
    generalize det o u d = A at *
    generalize det o d v = B at *
    generalize dot o u v = E at *
    apply Bool.eq_iff_iff.mpr
    split_ifs <;> simp only [Bool.and_eq_true, Bool.or_eq_true, decide_eq_true_eq] <;> omega

theorem cyc_latticeSym (k : Nat) (o u d v : Pt) (hu : u ≠ o) (hd : d ≠ o) (hv : v ≠ o) :
    cyc (latticeSym k o) (latticeSym k u) (latticeSym k d) (latticeSym k v) =
      if isReflection k then cyc o v d u else cyc o u d v := by
  rw [cyc_eq_inSweep _ _ _ _ (latticeSym_ne k u o hu) (latticeSym_ne k d o hd) (latticeSym_ne k v o hv),
    inSweep_latticeSym k o u d v hu, cyc_eq_inSweep o u d v hu hd hv, cyc_eq_inSweep o v d u hv hd hu]

theorem crossAt_latticeSym (k : Nat) (o a0 a1 b0 b1 : Pt) (h0 : a0 ≠ o) (h1 : a1 ≠ o) (hb0 : b0 ≠ o) (hb1 : b1 ≠ o) :
    crossAt (latticeSym k o) (latticeSym k a0) (latticeSym k a1) (latticeSym k b0) (latticeSym k b1) = crossAt o a0 a1 b0 b1 := by
  unfold crossAt
  rw [cyc_latticeSym k o a0 b0 a1 h0 hb0 h1, cyc_latticeSym k o a1 b1 a0 h1 hb1 h0,
    cyc_latticeSym k o a1 b0 a0 h1 hb0 h0, cyc_latticeSym k o a0 b1 a1 h0 hb1 h1]
  cases isReflection k
  · simp
  · simp only [if_true]; exact Bool.or_comm _ _

/-- **the C++ `isCrossing` is invariant under all eight lattice symmetries** -/
theorem isCrossing_latticeSym (k : Nat) (n a0 a1 b0 b1 : Pt) (h0 : a0 ≠ n) (h1 : a1 ≠ n) (hb0 : b0 ≠ n) (hb1 : b1 ≠ n) :
    isCrossing (latticeSym k n) (latticeSym k a0) (latticeSym k a1) (latticeSym k b0) (latticeSym k b1) =
      isCrossing n a0 a1 b0 b1 := by
  rw [isCrossing_eq_crossAt _ _ _ _ _ (latticeSym_ne k a0 n h0) (latticeSym_ne k a1 n h1) (latticeSym_ne k b0 n hb0)
    (latticeSym_ne k b1 n hb1), isCrossing_eq_crossAt n a0 a1 b0 b1 h0 h1 hb0 hb1]
  exact crossAt_latticeSym k n a0 a1 b0 b1 h0 h1 hb0 hb1

/-! ### `isInteriorSegment` in determinants -/

theorem angEq_eq_sameDir (o p q : Pt) (hp : p ≠ o) (hq : q ≠ o) : angEq o p q = sameDir o p q := by
  rw [angEq_eq o p q hp hq, Bool.eq_iff_iff, decide_eq_true_eq, compareAngle_eq_zero_iff o p q hp hq]

/-- **`isInteriorSegment` decides "the segment lies inside the corner" exactly, in determinants**: `n → b` lies strictly
inside the counter-clockwise sweep from `a0` to `a1` (`inSweep`), or along `a1` when the corner is not degenerate -/
theorem isInteriorSegment_eq_det (n a0 a1 b : Pt) (h0 : a0 ≠ n) (h1 : a1 ≠ n) (hb : b ≠ n) :
    isInteriorSegment n a0 a1 b = (inSweep n a0 b a1 || (sameDir n b a1 && !sameDir n a0 a1)) := by
  rw [isInteriorSegment_eq_interiorAt n a0 a1 b h0 h1 hb]
  unfold interiorAt
  rw [cyc_eq_inSweep n a0 b a1 h0 hb h1, angEq_eq_sameDir n b a1 hb h1, angEq_eq_sameDir n a0 a1 h0 h1]

theorem sameDir_latticeSym (k : Nat) (o p q : Pt) :
    sameDir (latticeSym k o) (latticeSym k p) (latticeSym k q) = sameDir o p q := by
  unfold sameDir
  rw [det_latticeSym, dot_latticeSym]
  cases isReflection k <;> simp

/-- the four lattice rotations do not change `isInteriorSegment` (the reflections exchange the roles of the arms) -/
theorem isInteriorSegment_rotate (k : Nat) (hk : isReflection k = false) (n a0 a1 b : Pt) (h0 : a0 ≠ n) (h1 : a1 ≠ n) (hb : b ≠ n) :
    isInteriorSegment (latticeSym k n) (latticeSym k a0) (latticeSym k a1) (latticeSym k b) = isInteriorSegment n a0 a1 b := by
  rw [isInteriorSegment_eq_det _ _ _ _ (latticeSym_ne k a0 n h0) (latticeSym_ne k a1 n h1) (latticeSym_ne k b n hb),
    isInteriorSegment_eq_det n a0 a1 b h0 h1 hb, inSweep_latticeSym k n a0 b a1 h0, sameDir_latticeSym, sameDir_latticeSym, hk]
  simp

end GeosModel.Valid
