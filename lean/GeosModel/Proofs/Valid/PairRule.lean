import GeosModel.Model.Valid.PairRule
import GeosModel.Proofs.Valid.NodeTopo
/-!
# The per-pair decision of `IsValidOp` is the reference's intersection rule (C05)

`findInvalidIntersection` (the model of the C++, which decides crossing at a node with the quadrant code `isCrossing`)
returns exactly the code of `pairRule` (the reference evaluator's rule, which uses the wedge specification `crossAt`),
for every pair of segments of rings without repeated points.
-/
namespace GeosModel.Valid
open GeosModel.Kernel

theorem isAdjacentInRing_eq (m i0 i1 : Nat) : isAdjacentInRing m i0 i1 = adjacentIdx m i0 i1 := by
  have hd : (if i0 > i1 then i0 - i1 else i1 - i0) = if i0 ≥ i1 then i0 - i1 else i1 - i0 := by
    split <;> split <;> omega
  unfold isAdjacentInRing adjacentIdx
  simp only [hd]
  generalize (if i0 ≥ i1 then i0 - i1 else i1 - i0) = d
  by_cases h1 : d ≤ 1
  · simp only [h1, if_true, decide_true, Bool.true_or]
  · have h2 : d ≥ m + 1 - 2 ↔ d + 1 ≥ m := by omega
    simp only [h1, h2, if_false, decide_false, Bool.false_or, Bool.if_true_left, Bool.or_false]

theorem beq_false_ne {a b : Pt} (h : (a == b) = false) : a ≠ b := by
  intro e; subst e; simp at h

/-- for a proper segment the C++ tests (end vertex first, then the choice of the incoming edge) are `RSeg.pass` -/
theorem pass_eq (s : RSeg) (x : Pt) (h : s.p ≠ s.q) :
    s.pass x = if x == s.q then none else some (if x == s.p then s.prev else s.p, s.q) := by
  unfold RSeg.pass
  cases hp : x == s.p
  · rfl
  · rw [beq_false_of_ne fun e => h (((Pt.beq_iff x s.p).mp hp).symm.trans e)]; rfl

theorem pass_fst_ne (s : RSeg) (x : Pt) (h : s.prev ≠ s.p) : (if x == s.p then s.prev else s.p) ≠ x := by
  cases hp : x == s.p
  · exact fun e => beq_false_ne hp e.symm
  · exact fun e => h (e.trans ((Pt.beq_iff x s.p).mp hp))

theorem findInvalidIntersection_eq_pairRule (flag : Bool) (s t : RSeg)
    (hs1 : s.prev ≠ s.p) (hs2 : s.p ≠ s.q) (ht1 : t.prev ≠ t.p) (ht2 : t.p ≠ t.q) :
    findInvalidIntersection flag s t = (pairRule flag s t).map (·.1) := by
  unfold findInvalidIntersection pairRule
  cases segRel s.p s.q t.p t.q with
  | disjoint => rfl
  | overlap => rfl
  | point proper =>
    cases proper with
    | true => rfl
    | false =>
      simp only [isAdjacentInRing_eq]
      cases s.rid == t.rid && adjacentIdx s.m s.k t.k
      case true => rfl
      cases s.rid == t.rid && !flag
      case true => rfl
      match meetPts s t with
      | [] => rfl
      | _ :: _ :: _ => rfl
      | [x] =>
        simp only [pass_eq s x hs2, pass_eq t x ht2]
        cases hq1 : x == s.q
        case true => rfl
        cases hq2 : x == t.q
        case true => rfl
        simp only [Bool.or_self, Bool.false_eq_true, if_false]
        rw [isCrossing_eq_crossAt x _ s.q _ t.q (pass_fst_ne s x hs1) (beq_false_ne hq1).symm (pass_fst_ne t x ht1)
          (beq_false_ne hq2).symm]
        cases crossAt x (if x == s.p then s.prev else s.p) s.q (if x == t.p then t.prev else t.p) t.q <;> rfl
