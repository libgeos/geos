import GeosModel.Model.Valid.RuleOrder
/-!
# `firstErr`: algebra, and the loop lemma for regenerated `for` loops of checks
-/
namespace GeosModel.Valid

theorem firstErr_append {E : Type} (a b : List (Unit → Option E)) :
    firstErr (a ++ b) = match firstErr a with | some e => some e | none => firstErr b := by
  induction a with
  | nil => rfl
  | cons r rs ih =>
    simp only [List.cons_append, firstErr]
    cases r () <;> simp [ih]

theorem firstErr_append_none {E : Type} (a b : List (Unit → Option E)) (h : firstErr a = none) : firstErr (a ++ b) = firstErr b := by
  rw [firstErr_append, h]

theorem firstErr_append_some {E : Type} (a b : List (Unit → Option E)) (e : E) (h : firstErr a = some e) : firstErr (a ++ b) = some e := by
  rw [firstErr_append, h]

theorem flatMap_single {ι E : Type} (f : ι → Unit → Option E) (l : List ι) : l.flatMap (fun i => [f i]) = l.map f :=
  List.map_eq_flatMap.symm

/-- **loop of checks**: a regenerated `for` loop whose body, started with no early-return value and a clean error state, either
ends the function with the first error of the checks `chk i` or continues with a clean error state, is `firstErr` of all the checks -/
theorem forIn_checks {ι R E : Type} (chk : ι → List (Unit → Option E)) (mkRet : E → R)
    (F : ι → Option R × Option E → Id (ForInStep (Option R × Option E)))
    (hF : ∀ i, F i (none, none) = match firstErr (chk i) with
      | some e => pure (ForInStep.done (some (mkRet e), some e))
      | none => pure (ForInStep.yield (none, none)))
    (l : List ι) :
    (forIn l (none, none) F : Id (Option R × Option E)) = match firstErr (l.flatMap chk) with
      | some e => pure (some (mkRet e), some e)
      | none => pure (none, none) := by
  induction l with
  | nil => rfl
  | cons x xs ih =>
    simp only [List.forIn_cons, List.flatMap_cons, hF x, firstErr_append]
    cases firstErr (chk x) with
    | some e => rfl
    | none => exact ih

end GeosModel.Valid
