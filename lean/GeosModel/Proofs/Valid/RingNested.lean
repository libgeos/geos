import GeosModel.Model.Valid.RingNested
import GeosModel.Proofs.Valid.NodeTopo
import GeosModel.Proofs.Valid.RefInv
import GeosModel.Proofs.Kernel.RayCountCorrect
/-!
# The node functions under exchange of arms, rays and translation; `Area::ofRingSigned`; `isRingNested` on a closed ring (C05 core, second part)

What the statements of Props/C05 about the nesting decision `PolygonTopologyAnalyzer::isRingNested` rest on — mostly facts about the
functions it calls, none of which mentions a ring before the last two:
* the sign tables for "exchanging the arms of a corner negates `isInteriorSegment`" (what `isIncidentSegmentInRing` does for a
  counter-clockwise ring) and for "`isCrossing` is one edge of the other pass on each side of the corner" (`isCrossing_eq_sides`);
* `compareAngle`, of which all node functions are made, depends on its points only through their rays from the node
  (`compareAngle_congr`) and is translation invariant (`compareAngle_shift`; the specification's side of this is in RefInv.lean);
* the x-shifted shoelace loop of `Area::ofRingSigned` is minus the specification area `Kernel.area2` on closed rings (`ofRingSigned2_eq`);
* against a closed target ring `isRingNested` uses the even–odd point-in-ring specification of the start vertex (`isRingNested_cons`).
-/
namespace GeosModel.Valid
open GeosModel.Kernel GeosModel.RayCount

theorem ofInt_ne_zero {c : Int} (hc : c ≠ 0) : S3.ofInt c ≠ .zero := mt (ofInt_eq_zero c).mp hc

/-- finite heart: exchanging the arms of a proper corner negates `isInteriorSegment` for a direction off both arms -/
theorem interiorT_swap : S3.all (fun x => S3.all fun p0 => S3.all fun p1 =>
    !(compatB x p0 p1 && decide (x ≠ .zero) && decide (p0 ≠ .zero) && decide (p1 ≠ .zero)) ||
    (interiorT x.flip p1 p0 == !interiorT x p0 p1)) = true := by
  decide +kernel

/-- finite heart: a crossing is exactly "the two edges of the other pass lie on different sides of the corner" -/
theorem crossT_eq_sides : S3.all (fun x => S3.all fun p0 => S3.all fun p1 => S3.all fun q0 => S3.all fun q1 =>
    !(compatB x p0 p1 && compatB x q0 q1 && decide (x ≠ .zero) && decide (p0 ≠ .zero) && decide (p1 ≠ .zero) &&
      decide (q0 ≠ .zero) && decide (q1 ≠ .zero)) ||
    (crossT x p0 p1 q0 q1 == (interiorT x p0 p1 != interiorT x q0 q1))) = true := by
  decide +kernel

theorem isCrossing_eq_sides (n a0 a1 b0 b1 : Pt) (h0 : a0 ≠ n) (h1 : a1 ≠ n) (hb0 : b0 ≠ n) (hb1 : b1 ≠ n)
    (hx : compareAngle n a0 a1 ≠ 0) (hp0 : compareAngle n b0 a0 ≠ 0) (hp1 : compareAngle n b0 a1 ≠ 0)
    (hq0 : compareAngle n b1 a0 ≠ 0) (hq1 : compareAngle n b1 a1 ≠ 0) :
    isCrossing n a0 a1 b0 b1 = (isInteriorSegment n a0 a1 b0 != isInteriorSegment n a0 a1 b1) := by
  rw [isCrossing_eq_crossT, isInteriorSegment_eq_T n a0 a1 b0, isInteriorSegment_eq_T n a0 a1 b1]
  exact S3.of_table (S3.all_spec (S3.all_spec (S3.all_spec (S3.all_spec (S3.all_spec crossT_eq_sides _) _) _) _) _)
    (by rw [compatB_actual n a0 a1 b0 h0 h1 hb0, compatB_actual n a0 a1 b1 h0 h1 hb1, decide_eq_true (ofInt_ne_zero hx),
      decide_eq_true (ofInt_ne_zero hp0), decide_eq_true (ofInt_ne_zero hp1), decide_eq_true (ofInt_ne_zero hq0),
      decide_eq_true (ofInt_ne_zero hq1)]; rfl)

/-- a direction `p'` on the ray of `p` (incomparable with `p`) compares with every `q` as `p` does: weak transitivity through
`compareAngle o p p' = 0` carries each of `<`, `=`, `>` from `(p', q)` to `(p, q)` -/
theorem compareAngle_congr_left {o p p' q : Pt} (hp : p ≠ o) (hp' : p' ≠ o) (hq : q ≠ o)
    (h : compareAngle o p p' = 0) : compareAngle o p' q = compareAngle o p q := by
  obtain ⟨le_le, -, le_lt, ge_ge, -, ge_gt⟩ := compareAngle_compat o p p' q hp hp' hq
  rw [h] at le_le le_lt ge_ge ge_gt
  have r := compareAngle_range o p q
  rcases compareAngle_range o p' q with e | e | e <;> rw [e] at le_le le_lt ge_ge ge_gt ⊢
  · have := le_lt (Int.le_refl 0) (by decide); omega
  · have := le_le (Int.le_refl 0) (Int.le_refl 0); have := ge_ge (Int.le_refl 0) (Int.le_refl 0); omega
  · have := ge_gt (Int.le_refl 0) (by decide); omega

theorem compareAngle_congr_right {o p q q' : Pt} (hp : p ≠ o) (hq : q ≠ o) (hq' : q' ≠ o)
    (h : compareAngle o q q' = 0) : compareAngle o p q' = compareAngle o p q := by
  rw [← neg_neg (compareAngle o p q'), ← compareAngle_antisymm, compareAngle_congr_left hq hq' hp h,
    compareAngle_antisymm, neg_neg]

theorem compareAngle_congr {o p p' q q' : Pt} (hp : p ≠ o) (hp' : p' ≠ o) (hq : q ≠ o) (hq' : q' ≠ o)
    (ep : compareAngle o p p' = 0) (eq : compareAngle o q q' = 0) : compareAngle o p' q' = compareAngle o p q := by
  rw [compareAngle_congr_left hp hp' hq' ep, compareAngle_congr_right hp hq hq' eq]

theorem quadrant_shift (t o p : Pt) : quadrant (t.shift o) (t.shift p) = quadrant o p := by
  unfold quadrant Pt.shift
  rw [Int.add_sub_add_right, Int.add_sub_add_right]

theorem compareAngle_shift (t o p q : Pt) : compareAngle (t.shift o) (t.shift p) (t.shift q) = compareAngle o p q := by
  rw [compareAngle_nf, compareAngle_nf, quadrant_shift, quadrant_shift, det_shift]

theorem isAngleGreater_shift (t o p q : Pt) : isAngleGreater (t.shift o) (t.shift p) (t.shift q) = isAngleGreater o p q := by
  rw [isAngleGreater_eq, isAngleGreater_eq, compareAngle_shift]

/-- what the last two vertices `w`, `z` leave over when the x-shifted loop is compared with the shoelace sum:
`(z.x − x0) · w.y − x0 · z.y` -/
def endT (x0 : Int) : List Pt → Int
  | [w, z] => (z.x - x0) * w.y - x0 * z.y
  | _ :: b :: c :: r => endT x0 (b :: c :: r)
  | _ => 0

/-- the x-shifted loop of `Area::ofRingSigned` against the shoelace sum, on any vertex list: the inner terms telescope -/
theorem shoelace_shifted (x0 : Int) : ∀ (a b : Pt) (r : List Pt),
    ((edges (a :: b :: r)).map edgeTerm).sum + signedAux x0 (a :: b :: r) = (a.x - x0) * b.y - x0 * a.y - endT x0 (a :: b :: r)
  | a, b, [] => by simp only [edges, signedAux, endT, List.map_cons, List.map_nil, List.sum_cons, List.sum_nil, edgeTerm]; ring
  | a, b, c :: r => by
    have ih := shoelace_shifted x0 b c r
    simp only [edges, signedAux, endT, List.map_cons, List.sum_cons] at ih ⊢
    rw [add_add_add_comm, ih, edgeTerm]
    ring

theorem endT_closed (x0 : Int) (z : Pt) (hz : z.x = x0) : ∀ (a b : Pt) (r : List Pt), (a :: b :: r).getLast? = some z →
    endT x0 (a :: b :: r) = - (x0 * z.y)
  | a, b, [], h => by
    obtain rfl : b = z := Option.some.inj h
    rw [endT, hz, Int.sub_self, Int.zero_mul, Int.zero_sub]
  | a, b, c :: r, h => endT_closed x0 z hz b c r (by rwa [List.getLast?_cons_cons] at h)

/-- the x-shifted loop of `Area::ofRingSigned` computes minus the specification area `Kernel.area2` on every closed ring -/
theorem ofRingSigned2_eq (ring : List Pt) (hc : Closed ring) : ofRingSigned2 ring = - area2 ring := by
  match ring, hc with
  | [], _ => rfl
  | [a], _ => rfl
  | a :: b :: r, hc =>
    have s1 := shoelace_shifted a.x a b r
    rw [endT_closed a.x a rfl a b r hc.symm] at s1
    rw [area2_eq_sum]
    exact eq_neg_of_add_eq_zero_right (s1.trans (by ring))

theorem closed_reverse (ring : List Pt) (hc : Closed ring) : Closed ring.reverse := by
  unfold Closed at *; rw [List.head?_reverse, List.getLast?_reverse]; exact hc.symm

theorem isRingNested_cons (p0 : Pt) (rest target : List Pt) (hc : Closed target) :
    isRingNested (p0 :: rest) target =
      match locateInRing p0 target with
      | .exterior => some false
      | .interior => some true
      | .boundary => isIncidentSegmentInRing p0 (findNonEqualVertex (p0 :: rest) p0) target := by
  rw [← locatePointInRing_eq p0 target hc]; rfl

end GeosModel.Valid
