import GeosModel.Model.Valid.SimplePair
import GeosModel.Proofs.Kernel.Basic
/-!
# The per-pair decision of `IsSimpleOp` is the reference's simplicity rule (C05)
-/
namespace GeosModel.Valid
open GeosModel.Kernel

/-- coherence of two distinct segments of a set of lines, as produced by `lineSegs` of de-duplicated lines -/
structure LPairWF (s t : LSeg) : Prop where
  sne : s.p ≠ s.q
  tne : t.p ≠ t.q
  sk : s.k < s.n
  tk : t.k < t.n
  sameN : s.lid = t.lid → s.n = t.n
  distinct : s.lid = t.lid → s.k ≠ t.k
  next : s.lid = t.lid → t.k = s.k + 1 → t.p = s.q
  prev : s.lid = t.lid → s.k = t.k + 1 → s.p = t.q

theorem mem_meet (s t : LSeg) (x : Pt) (hx : x ∈ [s.p, s.q]) (h : onSegment t.p t.q x = true) : x ∈ s.meet t := by
  unfold LSeg.meet
  rw [List.mem_eraseDups]
  exact List.mem_append_right _ (List.mem_filter.mpr ⟨hx, h⟩)

/-! ### the vertex parameter of the touch point

Both decisions look at where on its line the common end point `x` sits: `LSeg.vertexAt` gives its vertex index `u` (`k` or `k + 1`).
The C++ tests are functions of `u`: "end point of the line" is `u = 0 ∨ u = n`, and two segments of one line are adjacent exactly
when `x` has the same index on both. -/

theorem vertexAt_p (s : LSeg) : s.vertexAt s.p = some s.k := by
  unfold LSeg.vertexAt; rw [beq_self_eq_true]; rfl

theorem vertexAt_q (s : LSeg) (h : s.p ≠ s.q) : s.vertexAt s.q = some (s.k + 1) := by
  unfold LSeg.vertexAt; rw [beq_self_eq_true, beq_false_of_ne (Ne.symm h)]; rfl

theorem vertexAt_isSome (s : LSeg) (x : Pt) : (s.vertexAt x).isSome = (x == s.p || x == s.q) := by
  unfold LSeg.vertexAt; cases x == s.p <;> cases x == s.q <;> rfl

theorem isInteriorIntersection_eq (s t : LSeg) (x : Pt) :
    isInteriorIntersection s t x = !((s.vertexAt x).isSome && (t.vertexAt x).isSome) := by
  rw [vertexAt_isSome, vertexAt_isSome, Bool.not_and]; rfl

theorem isIntersectionEndpoint_eq (s : LSeg) (x : Pt) (u : Nat) (hk : s.k < s.n) (hu : s.vertexAt x = some u) :
    isIntersectionEndpoint s x = (u == 0 || u == s.n) ∧ (u = s.k ∨ u = s.k + 1) := by
  unfold LSeg.vertexAt at hu
  unfold isIntersectionEndpoint intersectionVertexIndex
  cases hx : x == s.p <;> rw [hx] at hu
  · cases hy : x == s.q <;> rw [hy] at hu
    · exact absurd hu (by simp)
    · obtain rfl := Option.some.inj hu
      refine ⟨?_, .inr rfl⟩
      apply Bool.eq_iff_iff.mpr; simp
  · obtain rfl := Option.some.inj hu
    refine ⟨?_, .inl rfl⟩
    apply Bool.eq_iff_iff.mpr; simp; omega

/-- two segments `sk ≠ tk` of one line of `n` segments touching in a point with vertex indices `u`, `v`: they are adjacent exactly when
`u = v`, and otherwise both indices are ends of the line exactly when one is `0` and the other `n` -/
theorem sameLine_vertices (sk tk n u v : Nat) (hd : sk ≠ tk)
    (ku : u = sk ∨ u = sk + 1) (kv : v = tk ∨ v = tk + 1) (next : tk = sk + 1 → u = v) (prev : sk = tk + 1 → u = v) :
    (if decide ((if tk > sk then tk - sk else sk - tk) ≤ 1) then false
      else if !((u == 0 || u == n) && (v == 0 || v == n)) then true else false) =
      !(u == v || (u == 0 && v == n) || (v == 0 && u == n)) := by
  have adj : decide ((if tk > sk then tk - sk else sk - tk) ≤ 1) = (u == v) := by
    apply Bool.eq_iff_iff.mpr
    rw [decide_eq_true_eq, beq_iff_eq]
    split <;> omega
  rw [adj]
  by_cases huv : u = v
  · rw [beq_iff_eq.mpr huv]; rfl
  · have ends : ((u == 0 || u == n) && (v == 0 || v == n)) = ((u == 0 && v == n) || (v == 0 && u == n)) := by
      apply Bool.eq_iff_iff.mpr
      simp only [Bool.and_eq_true, Bool.or_eq_true, beq_iff_eq]
      omega
    rw [beq_false_of_ne huv, ends, Bool.false_or]
    cases (u == 0 && v == n) || (v == 0 && u == n) <;> rfl

theorem findIntersection_eq_not_simplePair (s t : LSeg) (h : LPairWF s t) :
    findIntersection true s t = !simplePair s t := by
  unfold findIntersection simplePair
  rw [← LSeg.meet]
  cases segRel s.p s.q t.p t.q with
  | disjoint => rfl
  | overlap => rfl
  | point proper =>
    cases proper with
    | true => rfl
    | false =>
      match hm : s.meet t with
      | [] => rfl
      | _ :: _ :: _ => rfl
      | [x] =>
        simp only [isInteriorIntersection_eq]
        cases hu : s.vertexAt x with
        | none => rfl
        | some u =>
        cases hv : t.vertexAt x with
        | none => rfl
        | some v =>
        obtain ⟨e0, ku⟩ := isIntersectionEndpoint_eq s x u h.sk hu
        obtain ⟨e1, kv⟩ := isIntersectionEndpoint_eq t x v h.tk hv
        simp only [e0, e1, Option.isSome_some, Bool.and_self, Bool.not_true, Bool.false_eq_true, if_false, Bool.true_and]
        by_cases hl : s.lid = t.lid
        · -- one line: adjacent segments share the vertex (`u = v`), others meet at different vertices
          have uniq : ∀ y, y ∈ [s.p, s.q] → onSegment t.p t.q y = true → x = y := fun y hy hs => by
            have := mem_meet s t y hy hs
            rw [hm] at this; exact (List.mem_singleton.mp this).symm
          have next : t.k = s.k + 1 → u = v := fun hk => by
            have hp := h.next hl hk
            have hx := uniq s.q (by simp) (by rw [hp]; exact onSegment_left _ _)
            rw [hx, vertexAt_q s h.sne] at hu
            rw [hx, ← hp, vertexAt_p] at hv
            exact (Option.some.inj hu).symm.trans (hk ▸ Option.some.inj hv)
          have prev : s.k = t.k + 1 → u = v := fun hk => by
            have hp := h.prev hl hk
            have hx := uniq s.p (by simp) (by rw [hp]; exact onSegment_right _ _)
            rw [hx, vertexAt_p] at hu
            rw [hx, hp, vertexAt_q t h.tne] at hv
            exact (Option.some.inj hu).symm.trans (hk ▸ Option.some.inj hv)
          rw [beq_iff_eq.mpr hl, ← h.sameN hl]
          exact sameLine_vertices s.k t.k s.n u v (h.distinct hl) ku kv next prev
        · rw [beq_false_of_ne hl]
          cases (u == 0 || u == s.n) && (v == 0 || v == t.n) <;> cases s.closed <;> cases t.closed <;> rfl

/-- over any set of segments whose pairs are coherent, the reference's "all pairs may meet the way they do" is "the C++ decision finds
no intersection in any pair" -/
theorem all_simplePair_iff (segs : List LSeg) (hw : ∀ st ∈ pairsOf segs, LPairWF st.1 st.2) :
    ((pairsOf segs).all fun st => simplePair st.1 st.2) = (pairsOf segs).all fun st => !findIntersection true st.1 st.2 := by
  generalize pairsOf segs = l at hw
  induction l with
  | nil => rfl
  | cons st r ih =>
    simp only [List.all_cons]
    rw [findIntersection_eq_not_simplePair _ _ (hw st (by simp)), ih (fun x hx => hw x (by simp [hx]))]
    simp

end GeosModel.Valid
