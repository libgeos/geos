import GeosModel.Proofs.Num.Pick
/-! Properties of `shortest`: the result lies in the rounding interval, has between 1 and 17 digits,
and its exponent is within a fixed window of `q17`. -/
namespace GeosModel.Num

theorem scale_step_neg (q : Int) (h : q < 0) : sN q = 10 * sN (q + 1) ∧ sD q = sD (q + 1) := by
  unfold sN sD
  generalize (2 : Nat) ^ 1076 = D
  by_cases h1 : q + 1 < 0
  · have e : (-q).toNat = (-(q + 1)).toNat + 1 := by omega
    rw [if_pos h, if_pos h1, if_pos h, if_pos h1, e, Nat.pow_succ]
    omega
  · have e : q = -1 := by omega
    subst e
    rw [if_pos (by decide), if_neg (by decide), if_pos (by decide), if_neg (by decide)]
    simp

theorem scale_step_nonneg (q : Int) (h : 0 ≤ q) : sN q = sN (q + 1) ∧ sD (q + 1) = 10 * sD q := by
  unfold sN sD
  generalize (2 : Nat) ^ 1076 = D
  have h0 : ¬ q < 0 := by omega
  have h1 : ¬ q + 1 < 0 := by omega
  have e : (q + 1).toNat = q.toNat + 1 := by omega
  rw [if_neg h0, if_neg h1, if_neg h0, if_neg h1, e, Nat.pow_succ]
  constructor
  · trivial
  · generalize 10 ^ q.toNat = a
    rw [Nat.mul_comm a 10, Nat.mul_assoc]

theorem flo_step (I : Ivl) (q : Int) : flo I (q + 1) = flo I q / 10 := by
  unfold flo
  by_cases h : q < 0
  · obtain ⟨e1, e2⟩ := scale_step_neg q h
    rw [e1, e2]
    have : I.v2 * (10 * sN (q + 1)) = I.v2 * sN (q + 1) * 10 := by
      rw [Nat.mul_comm 10, Nat.mul_assoc]
    rw [this, Nat.div_div_eq_div_mul, Nat.mul_comm (sD (q + 1)) 10]
    rw [Nat.mul_comm _ 10, Nat.mul_div_mul_left _ _ (by decide : 0 < 10)]
  · obtain ⟨e1, e2⟩ := scale_step_nonneg q (by omega)
    rw [← e1, e2, Nat.div_div_eq_div_mul, Nat.mul_comm 10]

theorem inIvl_step (I : Ivl) (q : Int) (j : Nat) : inIvl I (q + 1) j = inIvl I q (10 * j) := by
  have key : ∀ (a b : Nat), (a * sN (q + 1) ≤ j * sD (q + 1) ↔ a * sN q ≤ 10 * j * sD q) ∧
      (j * sD (q + 1) ≤ b * sN (q + 1) ↔ 10 * j * sD q ≤ b * sN q) ∧
      (a * sN (q + 1) < j * sD (q + 1) ↔ a * sN q < 10 * j * sD q) ∧
      (j * sD (q + 1) < b * sN (q + 1) ↔ 10 * j * sD q < b * sN q) := by
    intro a b
    by_cases h : q < 0
    · obtain ⟨e1, e2⟩ := scale_step_neg q h
      rw [e1, e2]
      have x1 : a * (10 * sN (q + 1)) = 10 * (a * sN (q + 1)) := by
        rw [← Nat.mul_assoc, Nat.mul_comm a 10, Nat.mul_assoc]
      have x2 : b * (10 * sN (q + 1)) = 10 * (b * sN (q + 1)) := by
        rw [← Nat.mul_assoc, Nat.mul_comm b 10, Nat.mul_assoc]
      have x3 : 10 * j * sD (q + 1) = 10 * (j * sD (q + 1)) := Nat.mul_assoc _ _ _
      rw [x1, x2, x3]
      omega
    · obtain ⟨e1, e2⟩ := scale_step_nonneg q (by omega)
      rw [← e1, e2]
      have x3 : 10 * j * sD q = j * (10 * sD q) := by
        rw [Nat.mul_comm 10 j, Nat.mul_assoc]
      rw [x3]
      omega
  obtain ⟨k1, k2, k3, k4⟩ := key I.lo2 I.hi2
  have : (inIvl I (q + 1) j = true) ↔ (inIvl I q (10 * j) = true) := by
    rw [inIvl_iff, inIvl_iff]
    split
    · rw [k1, k2]
    · rw [k3, k4]
  exact Bool.eq_iff_iff.mpr this

theorem flo_add (I : Ivl) (q : Int) : ∀ n : Nat, flo I (q + n) = flo I q / 10 ^ n
  | 0 => by simp
  | n + 1 => by
    rw [show q + ((n + 1 : Nat) : Int) = (q + n) + 1 by omega, flo_step, flo_add I q n, Nat.div_div_eq_div_mul,
      Nat.pow_succ]

theorem flo_antitone (I : Ivl) (q : Int) (n : Nat) : flo I (q + n) ≤ flo I q := by
  rw [flo_add]; exact Nat.div_le_self _ _

theorem climb_spec (I : Ivl) : ∀ (f : Nat) (q : Int) (k : Nat), pick I q = some k →
    pick I (climb I f q k).1 = some (climb I f q k).2 ∧ q ≤ (climb I f q k).1 ∧
    (climb I f q k).1 ≤ q + f ∧
    ((climb I f q k).1 = q → (climb I f q k).2 = k ∧ (f = 0 ∨ pick I (q + 1) = none))
  | 0, q, k, h => by simp [climb, h]
  | f + 1, q, k, h => by
    simp only [climb]
    cases hp : pick I (q + 1) with
    | none => simp [h]; omega
    | some k' =>
      simp only
      obtain ⟨a, b, c, d⟩ := climb_spec I f (q + 1) k' hp
      refine ⟨a, by omega, by omega, ?_⟩
      intro he; omega

theorem W_big (u : Nat) (h : 1 ≤ u) : 10 ^ 36 ≤ (ivl u).v2 * 10 ^ 360 / 2 ^ 1076 := by
  have := ival_pos h
  rw [Nat.le_div_iff_mul_le (Nat.pow_pos (by decide))]
  simp only [ivl]
  have e : 10 ^ 36 * 2 ^ 1076 ≤ 4 * 10 ^ 360 := by decide +kernel
  have : 4 * 10 ^ 360 ≤ 2 * ival u * 10 ^ 360 := Nat.mul_le_mul_right _ (by omega)
  omega

theorem q17_spec (u : Nat) (h : 1 ≤ u) :
    10 ^ 16 ≤ flo (ivl u) (q17 (ivl u)) ∧ flo (ivl u) (q17 (ivl u)) < 10 ^ 17 := by
  have hW := W_big u h
  generalize ivl u = I at *
  -- `W` is `⌊x·10^360⌋`; with `dl` digits, `q17` is `dl - 17` steps above `-360`
  have hf : flo I (-360) = I.v2 * 10 ^ 360 / 2 ^ 1076 := rfl
  have hWp : 0 < I.v2 * 10 ^ 360 / 2 ^ 1076 := Nat.lt_of_lt_of_le (by decide) hW
  obtain ⟨s1, s2⟩ := dlen_spec _ hWp
  have hdl := lt_dlen_of_pow_le hW
  have e : q17 I = -360 + ((dlen (I.v2 * 10 ^ 360 / 2 ^ 1076) - 17 : Nat) : Int) := by
    unfold q17; rw [dlenFast_eq]; omega
  rw [e, flo_add, hf]
  generalize I.v2 * 10 ^ 360 / 2 ^ 1076 = W at *
  generalize dlen W = dl at *
  have hT : 0 < 10 ^ (dl - 17) := Nat.pow_pos (by decide)
  rw [Nat.le_div_iff_mul_le hT, Nat.div_lt_iff_lt_mul hT, ← Nat.pow_add, ← Nat.pow_add,
    show 16 + (dl - 17) = dl - 1 by omega, show 17 + (dl - 17) = dl by omega]
  exact ⟨s1, s2⟩
/-- **`shortest` is well defined**: for every positive double the result lies in the rounding interval
(`shortest_in_interval`), has at least 1 and at most 17 digits, and its exponent is within 20 of `q17`. -/
theorem shortest_spec (u : Nat) (h : 1 ≤ u) :
    inIvl (ivl u) (shortest u).2 (shortest u).1 = true ∧ 1 ≤ (shortest u).1 ∧ (shortest u).1 < 10 ^ 17 ∧
    q17 (ivl u) ≤ (shortest u).2 ∧ (shortest u).2 ≤ q17 (ivl u) + 20 := by
  have ok := ivl_ok u h
  obtain ⟨b1, b2⟩ := q17_spec u h
  have hs := pick_big (ivl u) ok _ b1
  obtain ⟨k0, hk0⟩ := Option.isSome_iff_exists.mp hs
  obtain ⟨c1, c2, c3, c4⟩ := climb_spec (ivl u) climbFuel _ k0 hk0
  have hsh : shortest u = ((climb (ivl u) climbFuel (q17 (ivl u)) k0).2, (climb (ivl u) climbFuel (q17 (ivl u)) k0).1) := by
    unfold shortest; rw [hk0]; rfl
  rw [hsh]
  generalize climb (ivl u) climbFuel (q17 (ivl u)) k0 = r at *
  obtain ⟨rq, rk⟩ := r
  simp only at *
  have hin := pick_sound (ivl u) ok rq rk c1
  refine ⟨hin, ?_, ?_, c2, by simpa [climbFuel] using c3⟩
  · -- at least one digit: the lower end of the interval is positive
    obtain ⟨w1, _⟩ := inIvl_weak _ _ _ hin
    have : 0 < (ivl u).lo2 * sN rq := Nat.mul_pos ok.lo_pos (sN_pos _)
    by_cases hk : rk = 0
    · subst hk; omega
    · omega
  · -- fewer than 18 digits
    obtain ⟨g1, g2⟩ := pick_ge _ _ _ c1
    by_cases he : rq = q17 (ivl u)
    · obtain ⟨e1, e2⟩ := c4 he
      subst he
      by_cases hk : rk = 10 ^ 17
      · exfalso
        have hstep := inIvl_step (ivl u) (q17 (ivl u)) (10 ^ 16)
        have : 10 * 10 ^ 16 = rk := by rw [hk]
        rw [this, hin] at hstep
        have := pick_complete (ivl u) ok _ _ hstep
        rcases e2 with e2 | e2
        · simp [climbFuel] at e2
        · rw [e2] at this; cases this
      · omega
    · obtain ⟨n, hn⟩ : ∃ n : Nat, rq = (q17 (ivl u) + 1) + n := ⟨(rq - (q17 (ivl u) + 1)).toNat, by omega⟩
      have a1 := flo_antitone (ivl u) (q17 (ivl u) + 1) n
      rw [← hn, flo_step] at a1
      omega

theorem shortest_in_interval (u : Nat) (h : 1 ≤ u) :
    inIvl (ivl u) (shortest u).2 (shortest u).1 = true := (shortest_spec u h).1

theorem shortest_lt (u : Nat) (h : 1 ≤ u) : (shortest u).1 < 10 ^ 17 := (shortest_spec u h).2.2.1

theorem shortest_pos (u : Nat) (h : 1 ≤ u) : 1 ≤ (shortest u).1 := (shortest_spec u h).2.1

end GeosModel.Num
