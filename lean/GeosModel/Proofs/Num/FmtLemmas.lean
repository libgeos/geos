import GeosModel.Proofs.Num.ShortestLemmas
import GeosModel.Proofs.Num.FixedLemmas
/-! What `writeTrimmedNumber` is made of: the three notations and what each implies for the bit pattern, the exponent suffix,
the range of the decimal exponent, the bounds the positional guards give, and `writeTrimmedNumber` by notation.
Also defines `isSciChar`, the alphabet of `fmt_alphabet`. -/
namespace GeosModel.Num

theorem special_iff (bits : Nat) : isSpecial bits = true ↔ (absBits bits ≥ INF ∨ absBits bits = 0) := by
  unfold isSpecial ieeeExponent ieeeMantissa absBits INF
  simp only [Bool.decide_or, Bool.decide_and, Bool.or_eq_true, Bool.and_eq_true, decide_eq_true_eq]
  omega

theorem notation_special (bits : Nat) (h : notationOf bits = .special) : isSpecial bits = true := by
  rw [special_iff]
  unfold notationOf at h
  simp only at h
  split at h
  · assumption
  · split at h <;> cases h

theorem notation_sci (bits : Nat) (h : notationOf bits = .sci) :
    isSpecial bits = false ∧ 1 ≤ absBits bits ∧ absBits bits < INF := by
  unfold notationOf at h
  simp only at h
  split at h
  · cases h
  · rename_i hn
    refine ⟨?_, by omega, by omega⟩
    cases hs : isSpecial bits
    · rfl
    · rw [special_iff] at hs; omega

theorem notation_fixed (bits : Nat) (h : notationOf bits = .fixed) :
    isSpecial bits = false ∧ bits1em4 ≤ absBits bits ∧ absBits bits < bits1e17 := by
  unfold notationOf at h
  simp only at h
  split at h
  · cases h
  · rename_i hn
    split at h
    · cases h
    · rename_i hm
      refine ⟨?_, by omega, by omega⟩
      cases hs : isSpecial bits
      · rfl
      · rw [special_iff] at hs; omega

def isSciChar (c : Char) : Bool := isDigitC c || c == '-' || c == '.' || c == 'e' || c == '+'

theorem isSciChar_of_fixed {c : Char} (h : isFixedChar c = true) : isSciChar c = true := by
  unfold isFixedChar at h; unfold isSciChar
  simp only [Bool.or_eq_true] at h ⊢
  rcases h with (h | h) | h <;> simp [h]

theorem expSuffix_facts (e : Int) (h : e.natAbs < 1000) :
    (expSuffix e).length ≤ 5 ∧ ∀ c ∈ expSuffix e, isSciChar c = true := by
  rw [expSuffix_eq e h]
  have hl : (natDigitsF 3 e.natAbs).length = dlen e.natAbs := natDigitsF_length 3 _ h (by decide)
  have hd : dlen e.natAbs ≤ 3 := dlen_le_of_lt h (by decide)
  refine ⟨by simp only [List.length_cons, hl]; omega, ?_⟩
  intro c hc
  simp only [List.mem_cons] at hc
  rcases hc with rfl | rfl | hc
  · decide
  · split <;> decide
  · simp [isSciChar, natDigitsF_digits 3 _ c hc]

theorem q17_range (u : Nat) (h2 : u ≤ INF) : -376 ≤ q17 (ivl u) ∧ q17 (ivl u) ≤ 323 := by
  unfold q17
  rw [dlenFast_eq]
  have hp := dlen_pos ((ivl u).v2 * 10 ^ 360 / 2 ^ 1076)
  have hle : dlen ((ivl u).v2 * 10 ^ 360 / 2 ^ 1076) ≤ 700 := by
    apply dlen_le_of_lt _ (by decide)
    rw [Nat.div_lt_iff_lt_mul (Nat.pow_pos (by decide))]
    have hm : ival u ≤ ival INF := ival_mono h2
    have e := ival_INF
    have e2 : 2 * 2 ^ 2099 * 10 ^ 360 < 10 ^ 700 * 2 ^ 1076 := by decide +kernel
    have : (ivl u).v2 * 10 ^ 360 ≤ 2 * 2 ^ 2099 * 10 ^ 360 := by
      apply Nat.mul_le_mul_right
      simp only [ivl]; omega
    omega
  omega

theorem sciExp_range (u : Nat) (h1 : 1 ≤ u) (h2 : u < INF) :
    ((shortest u).2 + (dlen (shortest u).1 : Int) - 1).natAbs < 1000 := by
  obtain ⟨_, k1, k17, q1, q2⟩ := shortest_spec u h1
  obtain ⟨r1, r2⟩ := q17_range u (by omega)
  have hp := dlen_pos (shortest u).1
  have hl : dlen (shortest u).1 ≤ 17 := dlen_le_of_lt k17 (by decide)
  omega

/-! ### positional notation: the guards `1e-4 ≤ |d| < 1e17` bound the layout -/

theorem ival_1e17 : ival bits1e17 = 10 ^ 17 * 2 ^ 1075 := by decide +kernel

theorem lo2_1em4 : 2 ^ 1076 ≤ (ival (bits1em4 - 1) + ival bits1em4) * 10 ^ 5 := by decide +kernel

/-- below `1e17` the shortest decimal, when it is an integer, has at most 17 digits including its zeros -/
theorem fixed_int_digits (u : Nat) (h1 : 1 ≤ u) (h2 : u < bits1e17) (hq : 0 ≤ (shortest u).2) :
    dlen (shortest u).1 + (shortest u).2.toNat ≤ 17 := by
  obtain ⟨hin, k1, k17, _, _⟩ := shortest_spec u h1
  have w2 := (inIvl_nonneg hq hin).2
  rw [two1076, Nat.mul_comm 2] at w2
  generalize (shortest u).1 = k at *
  generalize (shortest u).2 = q at *
  have a1 : ival u < ival (u + 1) := ival_lt_succ u
  have a2 : ival (u + 1) ≤ ival bits1e17 := ival_mono (by omega)
  rw [ival_1e17] at a2
  have hD : 0 < (2:Nat) ^ 1075 * 2 := Nat.mul_pos (Nat.pow_pos (by decide)) (by decide)
  generalize (2:Nat) ^ 1075 = D at *
  have hhi : (ivl u).hi2 < 10 ^ 17 * (D * 2) := by
    simp only [ivl]
    omega
  have hlt : k * 10 ^ q.toNat < 10 ^ 17 := by
    apply Nat.lt_of_mul_lt_mul_right (a := D * 2)
    rw [Nat.mul_assoc]
    omega
  obtain ⟨s1, _⟩ := dlen_spec k (by omega)
  have : 10 ^ (dlen k - 1) * 10 ^ q.toNat ≤ k * 10 ^ q.toNat := Nat.mul_le_mul_right _ s1
  rw [← Nat.pow_add] at this
  have hpow : 10 ^ (dlen k - 1 + q.toNat) < 10 ^ 17 := Nat.lt_of_le_of_lt this hlt
  have := (Nat.pow_lt_pow_iff_right (by decide : 1 < 10)).mp hpow
  have := dlen_pos k
  omega

/-- from `1e-4` up the shortest decimal has at most 21 places after the point -/
theorem fixed_frac_places (u : Nat) (h1 : bits1em4 ≤ u) (hq : (shortest u).2 < 0) :
    (-(shortest u).2).toNat ≤ 21 := by
  have hu : 1 ≤ u := by unfold bits1em4 at h1; omega
  obtain ⟨hin, k1, k17, _, _⟩ := shortest_spec u hu
  have w1 := (inIvl_neg hq hin).1
  generalize (shortest u).1 = k at *
  generalize (shortest u).2 = q at *
  generalize (-q).toNat = n at *
  have hlo : ival (bits1em4 - 1) + ival bits1em4 ≤ (ivl u).lo2 := by
    simp only [ivl]
    have a1 : ival (bits1em4 - 1) ≤ ival (u - 1) := ival_mono (by omega)
    have a2 : ival bits1em4 ≤ ival u := ival_mono h1
    omega
  have b := lo2_1em4
  generalize ival (bits1em4 - 1) + ival bits1em4 = L at *
  have hLp : 0 < L := by
    by_cases hc : L = 0
    · subst hc
      have : 0 < (2:Nat) ^ 1076 := Nat.pow_pos (by decide)
      omega
    · omega
  -- L * 10^n ≤ lo2 * 10^n ≤ k * D < 10^17 * D ≤ 10^17 * (L * 10^5)
  have c1 : L * 10 ^ n ≤ (ivl u).lo2 * 10 ^ n := Nat.mul_le_mul_right _ hlo
  have c2 : k * 2 ^ 1076 < 10 ^ 17 * 2 ^ 1076 := (Nat.mul_lt_mul_right (Nat.pow_pos (by decide))).mpr k17
  have c3 : 10 ^ 17 * 2 ^ 1076 ≤ 10 ^ 17 * (L * 10 ^ 5) := Nat.mul_le_mul_left _ b
  have c4 : 10 ^ 17 * (L * 10 ^ 5) = L * 10 ^ 22 := by
    rw [Nat.mul_comm L, ← Nat.mul_assoc, ← Nat.pow_add, Nat.mul_comm]
  have c5 : L * 10 ^ n < L * 10 ^ 22 := by omega
  have c6 : 10 ^ n < 10 ^ 22 := Nat.lt_of_mul_lt_mul_left c5
  have := (Nat.pow_lt_pow_iff_right (by decide : 1 < 10)).mp c6
  omega

theorem writeTrimmed_special (bits p : Nat) (hn : notationOf bits = .special) :
    writeTrimmedNumber bits p = specialStr (signOf bits) (decide (ieeeExponent bits ≠ 0)) (decide (ieeeMantissa bits ≠ 0)) := by
  unfold writeTrimmedNumber d2sFixed
  rw [hn, notation_special bits hn, if_pos rfl]

/-- scientific: the digits with one before the point, then the exponent -/
theorem writeTrimmed_sci (bits p : Nat) (hn : notationOf bits = .sci) :
    writeTrimmedNumber bits p =
      toCharsFixed (shortest (absBits bits)).1 (1 - (dlen (shortest (absBits bits)).1 : Int)) (signOf bits) p ++
        expSuffix ((shortest (absBits bits)).2 + dlen (shortest (absBits bits)).1 - 1) := by
  obtain ⟨hs, h1, _⟩ := notation_sci bits hn
  unfold writeTrimmedNumber d2sExp
  simp only [hn, hs, Bool.false_eq_true, if_false, decimalLength17_eq (shortest_lt _ h1)]

/-- positional: the digits at their own exponent, with the adjusted precision -/
theorem writeTrimmed_fixed (bits p : Nat) (hn : notationOf bits = .fixed) :
    writeTrimmedNumber bits p =
      toCharsFixed (shortest (absBits bits)).1 (shortest (absBits bits)).2 (signOf bits) (adjPrecision (absBits bits) p) := by
  unfold writeTrimmedNumber d2sFixed
  rw [hn, (notation_fixed bits hn).1]
  rfl

/-- A number that is not special is written as a `to_chars_fixed` part `F` followed by an exponent part `E` (empty in positional
notation): the characters of each, and at most 24 of them together. -/
theorem writeTrimmed_parts (bits p : Nat) (hn : notationOf bits ≠ .special) :
    ∃ F E, writeTrimmedNumber bits p = F ++ E ∧ (∀ c ∈ F, isFixedChar c = true) ∧ (∀ c ∈ E, isSciChar c = true) ∧
      F.length + E.length ≤ 24 := by
  cases hn' : notationOf bits with
  | special => exact absurd hn' hn
  | sci =>
    obtain ⟨_, h1, h2⟩ := notation_sci bits hn'
    obtain ⟨_, k1, k17, _, _⟩ := shortest_spec (absBits bits) h1
    obtain ⟨fc, fl, _⟩ := toCharsFixed_facts (shortest (absBits bits)).1 (1 - (dlen (shortest (absBits bits)).1 : Int))
      (signOf bits) p k1 k17
    obtain ⟨el, ec⟩ := expSuffix_facts _ (sciExp_range (absBits bits) h1 h2)
    refine ⟨_, _, writeTrimmed_sci bits p hn', fc, ec, ?_⟩
    have hl : dlen (shortest (absBits bits)).1 ≤ 17 := dlen_le_of_lt k17 (by decide)
    have hp := dlen_pos (shortest (absBits bits)).1
    -- `omega` must not look inside these terms
    clear k1 k17 h1 h2 fc ec
    generalize (toCharsFixed _ _ _ _).length = L at *
    generalize (expSuffix _).length = E at *
    generalize dlen _ = dl at *
    omega
  | fixed =>
    obtain ⟨_, h1, h2⟩ := notation_fixed bits hn'
    have hu : 1 ≤ absBits bits := by unfold bits1em4 at h1; omega
    obtain ⟨_, k1, k17, _, _⟩ := shortest_spec (absBits bits) hu
    obtain ⟨fc, fl, fi⟩ := toCharsFixed_facts (shortest (absBits bits)).1 (shortest (absBits bits)).2
      (signOf bits) (adjPrecision (absBits bits) p) k1 k17
    refine ⟨_, [], by rw [List.append_nil]; exact writeTrimmed_fixed bits p hn', fc, (fun _ h => nomatch h), ?_⟩
    have hl : dlen (shortest (absBits bits)).1 ≤ 17 := dlen_le_of_lt k17 (by decide)
    have hp := dlen_pos (shortest (absBits bits)).1
    rw [List.length_nil, Nat.add_zero]
    -- an integer has at most 17 digits with its zeros, a fraction at most 21 places
    by_cases hq : 0 ≤ (shortest (absBits bits)).2
    · have g1 := fixed_int_digits (absBits bits) hu h2 hq
      have g2 := fi hq
      clear fl fi k1 k17 h1 h2 hu fc
      generalize (toCharsFixed _ _ _ _).length = L at *
      generalize dlen _ = dl at *
      generalize (shortest _).2 = q at *
      omega
    · have g1 := fixed_frac_places (absBits bits) h1 (by omega)
      clear fi k1 k17 h1 h2 hu fc
      generalize (toCharsFixed _ _ _ _).length = L at *
      generalize dlen _ = dl at *
      generalize (shortest _).2 = q at *
      omega

end GeosModel.Num
