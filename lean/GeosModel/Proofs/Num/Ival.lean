import GeosModel.Proofs.Num.Basic
/-! Order and spacing of doubles as integers (`ival`), and the width of the rounding interval. -/
namespace GeosModel.Num

theorem two52 : (2 : Nat) ^ 52 = 4503599627370496 := by decide

theorem ival_eq (u : Nat) : ival u =
    if u / 4503599627370496 = 0 then (u % 4503599627370496) * 2
    else (4503599627370496 + u % 4503599627370496) * 2 ^ (u / 4503599627370496) := by
  unfold ival; rw [two52]

/-- the distance from the double `u` to the next one -/
def ulp (u : Nat) : Nat := if u / 4503599627370496 = 0 then 2 else 2 ^ (u / 4503599627370496)

/-- consecutive bit patterns are consecutive doubles, one `ulp` apart; and a double is less than `2^53` of its `ulp`s -/
theorem ival_succ (u : Nat) : ival (u + 1) = ival u + ulp u ∧ ival u + ulp u ≤ 9007199254740992 * ulp u := by
  rw [ival_eq, ival_eq, ulp]
  have hf : u % 4503599627370496 < 4503599627370496 := Nat.mod_lt _ (by decide)
  by_cases hc : (u + 1) % 4503599627370496 = 0
  · have h1 : (u + 1) / 4503599627370496 = u / 4503599627370496 + 1 := by omega
    have h2 : u % 4503599627370496 = 4503599627370495 := by omega
    rw [h1, hc, h2, if_neg (Nat.succ_ne_zero _), Nat.pow_succ]
    split <;> rename_i he
    · rw [he]; omega
    · generalize 2 ^ (u / 4503599627370496) = P
      omega
  · have h1 : (u + 1) / 4503599627370496 = u / 4503599627370496 := by omega
    have h2 : (u + 1) % 4503599627370496 = u % 4503599627370496 + 1 := by omega
    rw [h1, h2]
    split
    · omega
    · generalize 2 ^ (u / 4503599627370496) = P
      generalize u % 4503599627370496 = f at hf
      simp only [Nat.add_mul, Nat.one_mul]
      have := Nat.mul_le_mul_right P (show f + 1 ≤ 4503599627370496 by omega)
      simp only [Nat.add_mul, Nat.one_mul] at this
      omega

theorem ulp_pos (u : Nat) : 0 < ulp u := by
  unfold ulp; split
  · decide
  · exact Nat.pow_pos (by decide)

theorem ival_lt_succ (u : Nat) : ival u < ival (u + 1) := by
  have := ival_succ u; have := ulp_pos u; omega

theorem ival_mono_add (u : Nat) : ∀ k, ival u ≤ ival (u + k)
  | 0 => Nat.le_refl _
  | k + 1 => Nat.le_trans (ival_mono_add u k) (Nat.le_of_lt (by rw [← Nat.add_assoc]; exact ival_lt_succ _))

theorem ival_mono {a b : Nat} (h : a ≤ b) : ival a ≤ ival b := by
  obtain ⟨k, rfl⟩ : ∃ k, b = a + k := ⟨b - a, by omega⟩
  exact ival_mono_add a k

theorem ival_strict {a b : Nat} (h : a < b) : ival a < ival b :=
  Nat.lt_of_lt_of_le (ival_lt_succ a) (ival_mono h)

theorem ival_pos {u : Nat} (h : 1 ≤ u) : 2 ≤ ival u := by
  have : ival 1 ≤ ival u := ival_mono h
  have e : ival 1 = 2 := by decide
  omega

theorem ival_zero : ival 0 = 0 := by decide

theorem ival_INF : ival INF = 2 ^ 2099 := by decide +kernel

/-- the gap to the next double is at least `2^-53` of the value -/
theorem gap_above (u : Nat) : ival u ≤ 9007199254740992 * (ival (u + 1) - ival u) := by
  have := ival_succ u
  rw [this.1, Nat.add_sub_cancel_left]; omega

/-- the gap to the previous double is at least `2^-53` of the value (with equality exactly at a power of two, where the gap below is half the gap above) -/
theorem gap_below (u : Nat) (h : 1 ≤ u) : ival u ≤ 9007199254740992 * (ival u - ival (u - 1)) := by
  obtain ⟨w, rfl⟩ : ∃ w, u = w + 1 := ⟨u - 1, by omega⟩
  have := ival_succ w
  rw [Nat.add_sub_cancel, this.1, Nat.add_sub_cancel_left]; exact this.2
end GeosModel.Num
