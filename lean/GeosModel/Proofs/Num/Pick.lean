import GeosModel.Proofs.Num.Ival
/-! `pick`: soundness (the chosen multiple lies in the rounding interval), completeness (if any multiple of
`10^q` lies in the interval one is chosen), and "17 digits suffice". -/
namespace GeosModel.Num

theorem sN_pos (q : Int) : 0 < sN q := by
  unfold sN; split <;> simp [Nat.pow_pos]

theorem sD_pos (q : Int) : 0 < sD q := by
  unfold sD; split
  · exact Nat.pow_pos (by decide)
  · exact Nat.mul_pos (Nat.pow_pos (by decide)) (Nat.pow_pos (by decide))

theorem scale_neg {q : Int} (h : q < 0) : sN q = 10 ^ (-q).toNat ∧ sD q = 2 ^ 1076 := ⟨if_pos h, if_pos h⟩
theorem scale_nonneg {q : Int} (h : 0 ≤ q) : sN q = 1 ∧ sD q = 10 ^ q.toNat * 2 ^ 1076 :=
  ⟨if_neg (by omega), if_neg (by omega)⟩

theorem two1076 : (2 : Nat) ^ 1076 = 2 * 2 ^ 1075 := by
  rw [show (1076 : Nat) = 1075 + 1 from rfl, Nat.pow_succ, Nat.mul_comm]

/-- what the proofs need to know about a rounding interval -/
structure IvlOK (I : Ivl) : Prop where
  lo_pos : 0 < I.lo2
  lo_lt : I.lo2 < I.v2
  lt_hi : I.v2 < I.hi2
  wlo : I.v2 ≤ 18014398509481984 * (I.v2 - I.lo2)
  whi : I.v2 ≤ 18014398509481984 * (I.hi2 - I.v2)

theorem ivl_ok (u : Nat) (h : 1 ≤ u) : IvlOK (ivl u) := by
  have h1 : ival (u - 1) < ival u := ival_strict (by omega)
  have h2 := ival_lt_succ u
  have g1 := gap_below u h
  have g2 := gap_above u
  have hp := ival_pos h
  constructor <;> simp only [ivl] <;> omega

theorem inIvl_iff (I : Ivl) (q : Int) (k : Nat) : inIvl I q k = true ↔
    (if I.incl then I.lo2 * sN q ≤ k * sD q ∧ k * sD q ≤ I.hi2 * sN q
     else I.lo2 * sN q < k * sD q ∧ k * sD q < I.hi2 * sN q) := by
  unfold inIvl; split <;> simp

/-- strictly inside ⇒ in the interval, whatever the end-point rule -/
theorem inIvl_of_strict (I : Ivl) (q : Int) (k : Nat)
    (h1 : I.lo2 * sN q < k * sD q) (h2 : k * sD q < I.hi2 * sN q) : inIvl I q k = true := by
  rw [inIvl_iff]; split <;> omega

theorem inIvl_weak (I : Ivl) (q : Int) (k : Nat) (h : inIvl I q k = true) :
    I.lo2 * sN q ≤ k * sD q ∧ k * sD q ≤ I.hi2 * sN q := by
  rw [inIvl_iff] at h; split at h <;> omega

/-- membership in the interval, with the scale factors written out by the sign of the exponent -/
theorem inIvl_neg {I : Ivl} {e : Int} {n : Nat} (he : e < 0) (h : inIvl I e n = true) :
    I.lo2 * 10 ^ (-e).toNat ≤ n * 2 ^ 1076 ∧ n * 2 ^ 1076 ≤ I.hi2 * 10 ^ (-e).toNat := by
  have := inIvl_weak I e n h
  rwa [(scale_neg he).1, (scale_neg he).2] at this
theorem inIvl_nonneg {I : Ivl} {e : Int} {n : Nat} (he : 0 ≤ e) (h : inIvl I e n = true) :
    I.lo2 ≤ n * (10 ^ e.toNat * 2 ^ 1076) ∧ n * (10 ^ e.toNat * 2 ^ 1076) ≤ I.hi2 := by
  have := inIvl_weak I e n h
  rwa [(scale_nonneg he).1, (scale_nonneg he).2, Nat.mul_one, Nat.mul_one] at this

theorem flo_spec (I : Ivl) (q : Int) :
    flo I q * sD q + I.v2 * sN q % sD q = I.v2 * sN q := by
  unfold flo
  have := Nat.div_add_mod (I.v2 * sN q) (sD q)
  rw [Nat.mul_comm] at this; exact this

/-- what `pick` can return: `⌊x/10^q⌋` (when the value is that multiple itself, or it lies in the interval) or the next one
(when that lies in the interval) -/
theorem pick_cases (I : Ivl) (q : Int) (k : Nat) (h : pick I q = some k) :
    (k = flo I q ∧ (I.v2 * sN q % sD q = 0 ∨ inIvl I q (flo I q) = true)) ∨
      (k = flo I q + 1 ∧ inIvl I q (flo I q + 1) = true) := by
  unfold pick at h
  simp only at h
  split at h
  · exact .inl ⟨(Option.some.inj h).symm, .inl ‹_›⟩
  · cases ha : inIvl I q (flo I q) <;> cases hb : inIvl I q (flo I q + 1) <;> simp only [ha, hb] at h
    · cases h
    · exact .inr ⟨(Option.some.inj h).symm, rfl⟩
    · exact .inl ⟨(Option.some.inj h).symm, .inr rfl⟩
    · -- both candidates lie in the interval: the nearer one, and on a tie the even one
      split at h
      · exact .inl ⟨(Option.some.inj h).symm, .inr rfl⟩
      split at h
      · exact .inr ⟨(Option.some.inj h).symm, rfl⟩
      split at h
      · exact .inl ⟨(Option.some.inj h).symm, .inr rfl⟩
      · exact .inr ⟨(Option.some.inj h).symm, rfl⟩

theorem pick_sound (I : Ivl) (ok : IvlOK I) (q : Int) (k : Nat) (h : pick I q = some k) :
    inIvl I q k = true := by
  rcases pick_cases I q k h with ⟨rfl, hr | ha⟩ | ⟨rfl, hb⟩
  · -- the value is itself a multiple of `10^q`
    have hs := flo_spec I q
    have hN := sN_pos q
    have l1 : I.lo2 * sN q < I.v2 * sN q := (Nat.mul_lt_mul_right hN).mpr ok.lo_lt
    have l2 : I.v2 * sN q < I.hi2 * sN q := (Nat.mul_lt_mul_right hN).mpr ok.lt_hi
    apply inIvl_of_strict <;> omega
  · exact ha
  · exact hb

theorem pick_ge (I : Ivl) (q : Int) (k : Nat) (h : pick I q = some k) : flo I q ≤ k ∧ k ≤ flo I q + 1 := by
  rcases pick_cases I q k h with ⟨rfl, _⟩ | ⟨rfl, _⟩ <;> omega
theorem inIvl_up (I : Ivl) (q : Int) (j x : Nat) (hj : inIvl I q j = true)
    (h1 : j * sD q ≤ x * sD q) (h2 : x * sD q < I.hi2 * sN q) : inIvl I q x = true := by
  rw [inIvl_iff] at hj ⊢
  cases hi : I.incl <;> simp [hi] at hj ⊢ <;> omega

theorem inIvl_down (I : Ivl) (q : Int) (j x : Nat) (hj : inIvl I q j = true)
    (h1 : x * sD q ≤ j * sD q) (h2 : I.lo2 * sN q < x * sD q) : inIvl I q x = true := by
  rw [inIvl_iff] at hj ⊢
  cases hi : I.incl <;> simp [hi] at hj ⊢ <;> omega

theorem pick_isSome_of (I : Ivl) (q : Int)
    (h : inIvl I q (flo I q) = true ∨ inIvl I q (flo I q + 1) = true) : (pick I q).isSome = true := by
  unfold pick
  simp only
  split
  · rfl
  · split
    · repeat' split
      all_goals rfl
    · rfl
    · rfl
    · rename_i ha hb
      rcases h with h | h
      · rw [h] at ha; cases ha
      · rw [h] at hb; cases hb

/-- if some multiple of `10^q` is in the interval, then `⌊x/10^q⌋` or the next one is -/
theorem pick_complete (I : Ivl) (ok : IvlOK I) (q : Int) (j : Nat) (hj : inIvl I q j = true) :
    (pick I q).isSome = true := by
  have hs := flo_spec I q
  have hD := sD_pos q
  have hN := sN_pos q
  have l1 : I.lo2 * sN q < I.v2 * sN q := (Nat.mul_lt_mul_right hN).mpr ok.lo_lt
  have l2 : I.v2 * sN q < I.hi2 * sN q := (Nat.mul_lt_mul_right hN).mpr ok.lt_hi
  have hr : I.v2 * sN q % sD q < sD q := Nat.mod_lt _ hD
  apply pick_isSome_of
  by_cases hle : j ≤ flo I q
  · left
    have hm : j * sD q ≤ flo I q * sD q := Nat.mul_le_mul_right _ hle
    exact inIvl_up I q j _ hj hm (by omega)
  · right
    have hm : (flo I q + 1) * sD q ≤ j * sD q := Nat.mul_le_mul_right _ (by omega)
    have e : (flo I q + 1) * sD q = flo I q * sD q + sD q := by rw [Nat.add_mul, Nat.one_mul]
    exact inIvl_down I q j _ hj hm (by omega)

/-- with `A = ⌊x/10^q⌋·D ≥ 10^16·D` and remainder `r`, the nearer of `A` and `A + D` is within the interval: half a
unit is less than `2^-54` of the value -/
theorem near_in {V L H D r A : Nat} (hs : A + r = V) (hm : 10000000000000000 * D ≤ A) (hr : r < D)
    (w1 : V ≤ 18014398509481984 * (V - L)) (w2 : V ≤ 18014398509481984 * (H - V)) :
    if 2 * r ≤ D then L < A ∧ A < H else L < A + D ∧ A + D < H := by
  split <;> omega

/-- **17 digits suffice**: when `x/10^q ≥ 10^16` the nearest multiple of `10^q` is in the rounding interval -/
theorem pick_big (I : Ivl) (ok : IvlOK I) (q : Int) (hbig : 10 ^ 16 ≤ flo I q) : (pick I q).isSome = true := by
  have hr : I.v2 * sN q % sD q < sD q := Nat.mod_lt _ (sD_pos q)
  have hm : 10 ^ 16 * sD q ≤ flo I q * sD q := Nat.mul_le_mul_right _ hbig
  -- scaled widths
  have w1 := Nat.mul_le_mul_right (sN q) ok.wlo
  have w2 := Nat.mul_le_mul_right (sN q) ok.whi
  rw [Nat.mul_assoc, Nat.sub_mul] at w1 w2
  have := near_in (flo_spec I q) hm hr w1 w2
  split at this
  · exact pick_complete I ok q (flo I q) (inIvl_of_strict _ _ _ this.1 this.2)
  · rw [← Nat.succ_mul] at this
    exact pick_complete I ok q (flo I q + 1) (inIvl_of_strict _ _ _ this.1 this.2)

end GeosModel.Num
