import GeosModel.Proofs.Num.RoundLemmas
import GeosModel.Proofs.Num.ValueLemmas
import GeosModel.Proofs.Num.ShortestLemmas
/-! From "the decimal lies in the rounding interval" to "`strtod` returns the same double" (`roundNE_of_interval`), and what
`parseNum` returns for the text of `to_chars_fixed` with or without an exponent suffix (`expSuffix_parse`, `toCharsFixed_parse`). -/
namespace GeosModel.Num

/-- padding a decimal with zeros does not change interval membership -/
theorem inIvl_pad (I : Ivl) (q : Int) (k : Nat) : ∀ j : Nat, inIvl I (q - j) (k * 10 ^ j) = inIvl I q k
  | 0 => by simp
  | j + 1 => by
    have e : q - ((j + 1 : Nat) : Int) + 1 = q - (j : Int) := by omega
    have := inIvl_step I (q - ((j + 1 : Nat) : Int)) (k * 10 ^ j)
    rw [e] at this
    rw [Nat.pow_succ, ← Nat.mul_assoc, Nat.mul_comm (k * 10 ^ j) 10, ← this]
    exact inIvl_pad I q k j

theorem inIvl_sameDec (I : Ivl) (n k : Nat) (e q : Int) (h : SameDec (n, e) (k, q)) :
    inIvl I e n = inIvl I q k := by
  unfold SameDec at h
  simp only at h
  by_cases hc : e ≤ q
  · -- n = k * 10^(q-e)
    have e1 : (e - q).toNat = 0 := by omega
    rw [e1, Nat.pow_zero, Nat.mul_one] at h
    have := inIvl_pad I q k (q - e).toNat
    have e2 : q - ((q - e).toNat : Int) = e := by omega
    rw [e2, ← h] at this
    exact this
  · have e1 : (q - e).toNat = 0 := by omega
    rw [e1, Nat.pow_zero, Nat.mul_one] at h
    have := inIvl_pad I e n (e - q).toNat
    have e2 : e - ((e - q).toNat : Int) = q := by omega
    rw [e2, h] at this
    exact this.symm

/-- interval membership of the decimal `n·10^e`, in the form `roundPos` needs -/
theorem interval_frac (I : Ivl) (n : Nat) (e : Int) (h : inIvl I e n = true) :
    let N := if e ≥ 0 then n * 10 ^ e.toNat else n
    let D := if e ≥ 0 then 1 else 10 ^ (-e).toNat
    (if I.incl then I.lo2 * D ≤ 2 * N * 2 ^ 1075 ∧ 2 * N * 2 ^ 1075 ≤ I.hi2 * D
     else I.lo2 * D < 2 * N * 2 ^ 1075 ∧ 2 * N * 2 ^ 1075 < I.hi2 * D) := by
  rw [inIvl_iff] at h
  dsimp only
  by_cases he : e ≥ 0
  · obtain ⟨e1, e2⟩ := scale_nonneg (q := e) (by omega)
    rw [e1, e2, two1076] at h
    rw [if_pos he, if_pos he]
    have x : 2 * (n * 10 ^ e.toNat) * 2 ^ 1075 = n * (10 ^ e.toNat * (2 * 2 ^ 1075)) := by
      generalize (2:Nat) ^ 1075 = E
      generalize 10 ^ e.toNat = T
      rw [Nat.mul_comm 2 (n * T), Nat.mul_assoc, Nat.mul_assoc]
    rw [x]; exact h
  · obtain ⟨e1, e2⟩ := scale_neg (q := e) (by omega)
    rw [e1, e2, two1076] at h
    rw [if_neg he, if_neg he]
    have x : 2 * n * 2 ^ 1075 = n * (2 * 2 ^ 1075) := by
      rw [Nat.mul_comm 2 n, Nat.mul_assoc]
    rw [x]; exact h

/-! ### the clamps of `roundNE` are never reached for a decimal inside a rounding interval -/

theorem hi2_lt (u : Nat) (h : u < INF) : (ivl u).hi2 < 2 ^ 2101 := by
  simp only [ivl]
  have a1 : ival u < ival (u + 1) := ival_lt_succ u
  have a2 : ival (u + 1) ≤ ival INF := ival_mono (by omega)
  have e := ival_INF
  have e2 : (2:Nat) ^ 2101 = 4 * 2 ^ 2099 := by
    rw [show (2101:Nat) = 2099 + 2 from rfl, Nat.pow_add]; omega
  omega

theorem pow2101_le : (2:Nat) ^ 2101 ≤ 10 ^ 400 * 2 ^ 1076 := by decide +kernel

theorem no_clamp (u n : Nat) (e : Int) (h1 : 1 ≤ u) (h2 : u < INF) (hn : n ≠ 0)
    (hin : inIvl (ivl u) e n = true) : ¬ (e + (dlen n : Int) > 400) ∧ ¬ (e + (dlen n : Int) < -400) := by
  have hp := dlen_pos n
  constructor
  · intro hc
    by_cases he : e ≥ 0
    · -- `10^400 · 2^1076 ≤ n · 10^e · 2^1076 ≤ hi2 < 2^2101`
      have c1 : 10 ^ 400 ≤ 10 ^ (dlen n - 1 + e.toNat) := Nat.pow_le_pow_right (by decide) (by omega)
      have w2 := (inIvl_nonneg he hin).2
      rw [← Nat.mul_assoc] at w2
      have c2 : 10 ^ (dlen n - 1 + e.toNat) ≤ n * 10 ^ e.toNat := by
        rw [Nat.pow_add]; exact Nat.mul_le_mul_right _ (dlen_spec n (by omega)).1
      have c3 := Nat.mul_le_mul_right (2 ^ 1076) (Nat.le_trans c1 c2)
      exact absurd (Nat.lt_of_le_of_lt (Nat.le_trans pow2101_le (Nat.le_trans c3 w2)) (hi2_lt u h2)) (Nat.lt_irrefl _)
    · -- `2^2101 · 10^-e ≤ 10^-e · 10^400 · 2^1076 ≤ n · 2^1076 ≤ hi2 · 10^-e`
      have c0 : dlen n - 1 = (-e).toNat + (dlen n - 1 - (-e).toNat) := by omega
      have c1 : 10 ^ 400 ≤ 10 ^ (dlen n - 1 - (-e).toNat) := Nat.pow_le_pow_right (by decide) (by omega)
      have w2 := (inIvl_neg (by omega) hin).2
      have c2 : 10 ^ (-e).toNat * 10 ^ 400 ≤ n := by
        have s1 := (dlen_spec n (by omega)).1
        rw [c0, Nat.pow_add] at s1
        exact Nat.le_trans (Nat.mul_le_mul_left _ c1) s1
      have c3 := Nat.mul_le_mul_right (2 ^ 1076) c2
      have c5 := (Nat.mul_lt_mul_right (pow10_pos (-e).toNat)).mpr (hi2_lt u h2)
      have c6 : 2 ^ 2101 * 10 ^ (-e).toNat ≤ 10 ^ (-e).toNat * 10 ^ 400 * 2 ^ 1076 := by
        rw [Nat.mul_assoc, Nat.mul_comm (2 ^ 2101)]
        exact Nat.mul_le_mul_left _ pow2101_le
      exact absurd (Nat.lt_of_le_of_lt (Nat.le_trans c6 (Nat.le_trans c3 w2)) c5) (Nat.lt_irrefl _)
  · intro hc
    -- `2 · 10^-e ≤ lo2 · 10^-e ≤ n · 2^1076 < 10^(dlen n) · 2^1076 ≤ 2 · 10^(dlen n) · 10^401 ≤ 2 · 10^-e`
    have c0 : (-e).toNat = dlen n + ((-e).toNat - dlen n) := by omega
    have c1 : 10 ^ 401 ≤ 10 ^ ((-e).toNat - dlen n) := Nat.pow_le_pow_right (by decide) (by omega)
    have w1 := (inIvl_neg (by omega) hin).1
    have hlo : 2 ≤ (ivl u).lo2 := by
      simp only [ivl]; have := ival_pos h1; omega
    have c2 := (Nat.mul_lt_mul_right (Nat.pow_pos (by decide) : 0 < 2 ^ 1076)).mpr (dlen_spec n (by omega)).2
    have c3 := Nat.mul_le_mul_right (10 ^ (-e).toNat) hlo
    have c4 : 10 ^ dlen n * 10 ^ 401 ≤ 10 ^ (-e).toNat := by
      rw [c0, Nat.pow_add]; exact Nat.mul_le_mul_left _ c1
    have c5 : (2:Nat) ^ 1076 ≤ 2 * 10 ^ 401 := by decide +kernel
    have c6 := Nat.mul_le_mul_left (10 ^ dlen n) c5
    have c7 : 10 ^ dlen n * (2 * 10 ^ 401) = 2 * (10 ^ dlen n * 10 ^ 401) := by
      rw [← Nat.mul_assoc, Nat.mul_comm (10 ^ dlen n) 2, Nat.mul_assoc]
    rw [c7] at c6
    exact absurd (Nat.lt_of_lt_of_le (Nat.lt_of_le_of_lt (Nat.le_trans c3 w1) c2)
      (Nat.le_trans c6 (Nat.mul_le_mul_left 2 c4))) (Nat.lt_irrefl _)
/-- **`strtod` of a decimal in the rounding interval of `u` is `u`** (with the sign carried over) -/
theorem roundNE_of_interval (u n : Nat) (e : Int) (neg : Bool) (h1 : 1 ≤ u) (h2 : u < INF) (hn : n ≠ 0)
    (hin : inIvl (ivl u) e n = true) : roundNE (.dec neg n e) = u + (if neg then 2 ^ 63 else 0) := by
  obtain ⟨k1, k2⟩ := no_clamp u n e h1 h2 hn hin
  have hf := interval_frac (ivl u) n e hin
  dsimp only at hf
  unfold roundNE
  simp only [hn, if_false]
  rw [if_neg k1, if_neg k2]
  by_cases he : e ≥ 0
  · rw [if_pos he] at hf ⊢
    rw [if_pos he] at hf
    rw [roundPos_of_interval u _ 1 h1 h2 (by decide) hf]
  · rw [if_neg he] at hf ⊢
    rw [if_neg he] at hf
    rw [roundPos_of_interval u _ _ h1 h2 (pow10_pos _) hf]

theorem expSuffix_parse (s : Int) (h : s.natAbs < 1000) :
    parseExp (expSuffix s) = some s ∧ (∀ c r, expSuffix s = c :: r → isDigit c = false ∧ c ≠ '.') := by
  rw [expSuffix_eq s h]
  refine ⟨?_, by intro c r hc; injection hc with h1 _; subst h1; decide⟩
  have hl : (natDigitsF 3 s.natAbs).length = dlen s.natAbs := natDigitsF_length 3 _ h (by decide)
  have hp := dlen_pos s.natAbs
  unfold parseExp
  simp only [true_or, if_true]
  have hsp : splitSign ((if s < 0 then '-' else '+') :: natDigitsF 3 s.natAbs) = (decide (s < 0), natDigitsF 3 s.natAbs) := by
    by_cases hs : s < 0 <;> simp [splitSign, hs]
  rw [hsp]
  simp only
  have := takeDigits_spec (natDigitsF 3 s.natAbs) [] 0 0 (natDigitsF_digits 3 _) (by intro c r h; cases h)
  rw [List.append_nil] at this
  rw [this, natDigitsF_foldl 3 _ 0 h (by decide)]
  simp only [Nat.zero_mul, Nat.zero_add, hl]
  rw [if_neg (not_or.mpr ⟨by omega, fun hc => hc rfl⟩)]
  by_cases hs : s < 0
  · simp [hs]; omega
  · simp [hs]; omega
/-! ### what `parseNum` returns for `to_chars_fixed` (plus an exponent suffix) -/

theorem partsNum_nz (p : Parts) : (partsNum p).1 ≠ 0 ↔ (p.ip ≠ 0 ∨ p.dp ≠ 0) := by
  unfold partsNum
  by_cases hd : p.dp ≠ 0
  · simp only [hd, if_true, ne_eq, not_false_eq_true, or_true, iff_true]; omega
  · simp only [hd, if_false, or_false]
    have : 0 < 10 ^ p.tiz := pow10_pos _
    constructor
    · intro h h0; rw [h0] at h; simp at h
    · intro h h0
      rcases Nat.mul_eq_zero.mp h0 with h1 | h1 <;> omega

theorem toCharsFixed_parse (k : Nat) (q : Int) (sign : Bool) (p : Nat) (hk : 1 ≤ k) (hk17 : k < 10 ^ 17)
    (suf : List Char) (hs : ∀ c r, suf = c :: r → isDigit c = false ∧ c ≠ '.') :
    ∃ n fc : Nat, SameDec (n, -(fc : Int)) (rheDec k q p) ∧
      parseNum (toCharsFixed k q sign p ++ suf) =
        (match parseExp suf with
         | some e => some (.dec (sign && decide (n ≠ 0)) n (e - (fc : Int)))
         | none => none) := by
  unfold toCharsFixed
  rw [decimalLength17_eq hk17]
  have tf := trimStage_facts k q p hk hk17
  obtain ⟨pk, _⟩ := layout_ok _ tf.ok
  refine ⟨(partsNum (layoutStage (trimStage k (dlen k) q p))).1,
    (partsNum (layoutStage (trimStage k (dlen k) q p))).2, ?_, ?_⟩
  · exact sameDec_trans (layout_value _ tf.ok) (trimStage_value k q p hk)
  · rw [parseNum_render sign _ pk suf hs]
    have : decide ((layoutStage (trimStage k (dlen k) q p)).ip ≠ 0 ∨ (layoutStage (trimStage k (dlen k) q p)).dp ≠ 0) =
        decide ((partsNum (layoutStage (trimStage k (dlen k) q p))).1 ≠ 0) := by
      rw [decide_eq_decide]; exact (partsNum_nz _).symm
    simp only [this]
    cases parseExp suf <;> rfl

end GeosModel.Num
