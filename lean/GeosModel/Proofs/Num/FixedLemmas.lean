import GeosModel.Proofs.Num.Basic
/-! Invariants of `to_chars_fixed`: the length fields always match the numbers they describe (so
`to_chars_uint64` writes exactly the digits), and the number of characters is bounded.
Also defines the invariants `LenOK`, `TOK`, `POK` and `isFixedChar`, the alphabet of `to_chars_fixed`. -/
namespace GeosModel.Num

/-- the length field matches the number, or the number is a single digit (then the field is not used) -/
def LenOK (x l : Nat) : Prop := x < 10 ∨ (l = dlen x ∧ x < 10 ^ 17)

theorem natDigits_lt_ten {x : Nat} (h : x < 10) : natDigits x = [digitChar x] := by
  simp [natDigits, natDigitsF, h]

theorem toCharsUint64_eq {x l : Nat} (h : LenOK x l) : toCharsUint64 x l = natDigits x := by
  unfold toCharsUint64
  by_cases h10 : x < 10
  · simp [h10, natDigits_lt_ten h10]
  · rcases h with h | h
    · omega
    · simp [h10, h.1, h.2]

theorem toCharsUint64_length {x l : Nat} (h : LenOK x l) : (toCharsUint64 x l).length = dlen x := by
  rw [toCharsUint64_eq h]
  rcases h with h | h
  · rw [natDigits_lt_ten h, dlen_lt_ten h]; rfl
  · exact natDigits_length (Nat.lt_trans h.2 (by decide))

theorem toCharsUint64_digits {x l : Nat} (h : LenOK x l) : ∀ c ∈ toCharsUint64 x l, isDigitC c = true := by
  rw [toCharsUint64_eq h]; exact natDigitsF_digits 20 x

/-- invariant of the `(output, olength, exp)` triple -/
structure TOK (t : Trimmed) : Prop where
  lt : t.output < 10 ^ 17
  len : t.output ≠ 0 → t.olength = dlen t.output
  zero : t.output = 0 → t.exp = 0 ∨ (t.olength = 0 ∧ t.exp ≤ 0)

theorem stripZeros_ok : ∀ f t, TOK t → TOK (stripZeros f t)
  | 0, t, h => h
  | f + 1, t, h => by
    simp only [stripZeros]
    split
    · rename_i hc
      apply stripZeros_ok
      have h10 : 10 ^ 1 ≤ t.output := by simp; omega
      have hd := dlen_div t.output 1 h10
      simp only [Nat.pow_one] at hd
      refine ⟨?_, ?_, ?_⟩
      · have := h.lt; simp only; omega
      · intro _; simp only; rw [hd, h.len hc.1]
      · intro h0; simp only at h0; omega
    · exact h

theorem stripZeros_exp_ge : ∀ f t, t.exp ≤ (stripZeros f t).exp
  | 0, t => Int.le_refl _
  | f + 1, t => by
    simp only [stripZeros]
    split
    · exact Int.le_trans (by simp only; omega) (stripZeros_exp_ge f _)
    · exact Int.le_refl _

/-- `dlen output + exp` (the position of the leading digit) and `olength` do not grow while stripping -/
theorem stripZeros_lead : ∀ f t, TOK t →
    ((stripZeros f t).output ≠ 0 → t.output ≠ 0 ∧
      (dlen (stripZeros f t).output : Int) + (stripZeros f t).exp = (dlen t.output : Int) + t.exp) ∧
    (stripZeros f t).olength ≤ t.olength ∧ ((stripZeros f t).output = 0 → stripZeros f t = t)
  | 0, t, _ => by simp [stripZeros]
  | f + 1, t, h => by
    simp only [stripZeros]
    split
    · rename_i hc
      have h10 : 10 ^ 1 ≤ t.output := by simp; omega
      have hd := dlen_div t.output 1 h10
      simp only [Nat.pow_one] at hd
      have hp := dlen_pos (t.output / 10)
      have hok : TOK ⟨t.output / 10, t.olength - 1, t.exp + 1⟩ := by
        have := stripZeros_ok 1 t h
        simpa [stripZeros, hc] using this
      obtain ⟨i1, i2, i3⟩ := stripZeros_lead f ⟨t.output / 10, t.olength - 1, t.exp + 1⟩ hok
      refine ⟨?_, ?_, ?_⟩
      · intro hne
        obtain ⟨_, e⟩ := i1 hne
        refine ⟨hc.1, ?_⟩
        simp only at e
        omega
      · simp only at i2; omega
      · intro h0
        have := i3 h0
        rw [this] at h0
        simp only at h0
        omega
    · simp

/-- `roundDigits` by its decision, with the remainder doubled instead of the divisor halved: the quotient, or the quotient plus one
when the remainder is above half (or is half, and the quotient odd) -/
theorem roundDigits_eq (k ol : Nat) (q : Int) {d : Nat} (hd : 1 ≤ d) :
    roundDigits k ol q d =
      if 2 * (k % 10 ^ d) > 10 ^ d ∨ (2 * (k % 10 ^ d) = 10 ^ d ∧ k / 10 ^ d % 2 = 1)
      then ⟨k / 10 ^ d + 1, decimalLength17 (k / 10 ^ d + 1), q + d⟩ else ⟨k / 10 ^ d, ol - d, q + d⟩ := by
  have hev := ten_pow_even hd
  have hmod : k - k / 10 ^ d * 10 ^ d = k % 10 ^ d := by
    have := Nat.div_add_mod k (10 ^ d)
    rw [Nat.mul_comm] at this; omega
  unfold roundDigits
  simp only [pow10, hmod]
  have hiff : (k % 10 ^ d > 10 ^ d / 2 ∨ k % 10 ^ d = 10 ^ d / 2 ∧ k / 10 ^ d % 2 = 1) ↔
      (2 * (k % 10 ^ d) > 10 ^ d ∨ 2 * (k % 10 ^ d) = 10 ^ d ∧ k / 10 ^ d % 2 = 1) := by
    generalize k % 10 ^ d = r at *
    generalize 10 ^ d = T at *
    omega
  simp only [hiff]

theorem roundDigits_ok (k ol : Nat) (q : Int) (d : Nat) (hk : k < 10 ^ 17) (hk0 : k ≠ 0) (hol : ol = dlen k)
    (hd1 : 1 ≤ d) (hd2 : d ≤ ol) (hq : q + d ≤ 0) :
    TOK (roundDigits k ol q d) ∧ q ≤ (roundDigits k ol q d).exp ∧ (roundDigits k ol q d).olength ≤ ol ∧
    ((roundDigits k ol q d).output ≠ 0 →
      (dlen (roundDigits k ol q d).output : Int) + (roundDigits k ol q d).exp ≤ (ol : Int) + q + 1) := by
  have hdiv : k / 10 ^ d ≤ k / 10 := by
    have : 10 ^ 1 ≤ 10 ^ d := Nat.pow_le_pow_right (by decide) hd1
    simp only [Nat.pow_one] at this
    exact Nat.div_le_div_left this (by decide)
  have hkp : 0 < k := by omega
  obtain ⟨s1, s2⟩ := dlen_spec k hkp
  -- the quotient has `ol - d` digits (or is zero when `d = ol`)
  have hquot : k / 10 ^ d ≠ 0 → dlen (k / 10 ^ d) = ol - d ∧ d < ol := by
    intro hne
    have hle := (Nat.div_ne_zero_iff.mp hne).2
    exact ⟨by rw [dlen_div k d hle, hol], hol ▸ lt_dlen_of_pow_le hle⟩
  have hzero : k / 10 ^ d = 0 → d = ol := by
    intro h0
    have hlt := (Nat.div_eq_zero_iff.mp h0).resolve_left (Nat.ne_of_gt (pow10_pos d))
    have := dlen_le_of_lt hlt hd1
    omega
  rw [roundDigits_eq k ol q hd1]
  split <;> dsimp only
  · -- rounded up
    have hlt : k / 10 ^ d + 1 < 10 ^ 17 := by omega
    refine ⟨⟨hlt, ?_, ?_⟩, by omega, ?_, ?_⟩
    · intro _; exact decimalLength17_eq hlt
    · intro h0; exact absurd h0 (Nat.succ_ne_zero _)
    · rw [decimalLength17_eq hlt]
      by_cases hz : k / 10 ^ d = 0
      · rw [hz]; simp [dlen_lt_ten]; omega
      · have := dlen_succ_le (k / 10 ^ d)
        have := (hquot hz).1
        omega
    · intro _
      by_cases hz : k / 10 ^ d = 0
      · rw [hz]; simp [dlen_lt_ten]; have := hzero hz; omega
      · have := dlen_succ_le (k / 10 ^ d)
        have := (hquot hz).1
        have := (hquot hz).2
        omega
  · -- not rounded up
    refine ⟨⟨by dsimp only; omega, ?_, ?_⟩, by omega, by omega, ?_⟩
    · intro hne; exact ((hquot hne).1).symm
    · intro h0
      right; exact ⟨by have := hzero h0; dsimp only; omega, hq⟩
    · intro hne
      have := (hquot hne).1
      have := (hquot hne).2
      omega

/-- what later stages need to know about the output of `trimStage` -/
structure TrimFacts (ol : Nat) (q : Int) (t : Trimmed) : Prop where
  ok : TOK t
  exp_ge : q ≤ t.exp
  ol_le : t.olength ≤ ol
  lead : t.output ≠ 0 → (dlen t.output : Int) + t.exp ≤ (ol : Int) + q + 1

theorem trimStage_facts (k : Nat) (q : Int) (p : Nat) (hk : 1 ≤ k) (hk17 : k < 10 ^ 17) :
    TrimFacts (dlen k) q (trimStage k (dlen k) q p) := by
  unfold trimStage
  by_cases h1 : (p : Int) < -q
  · rw [if_pos h1]
    dsimp only
    by_cases h2 : -q - (p : Int) > (dlen k : Nat)
    · rw [if_pos h2]
      exact ⟨⟨by simp, by intro h; exact absurd rfl h, by intro _; left; rfl⟩, by simp only; omega,
        Nat.le_refl _, by intro h; exact absurd rfl h⟩
    · rw [if_neg h2]
      have hd1 : 1 ≤ (-q - (p : Int)).toNat := by omega
      have hd2 : (-q - (p : Int)).toNat ≤ dlen k := by omega
      have hq : q + ((-q - (p : Int)).toNat : Nat) ≤ 0 := by omega
      obtain ⟨r1, r2, r3, r4⟩ := roundDigits_ok k (dlen k) q _ hk17 (by omega) rfl hd1 hd2 hq
      generalize roundDigits k (dlen k) q (-q - (p : Int)).toNat = r at *
      obtain ⟨l1, l2, l3⟩ := stripZeros_lead 20 r r1
      refine ⟨stripZeros_ok 20 r r1, Int.le_trans r2 (stripZeros_exp_ge 20 r), Nat.le_trans l2 r3, ?_⟩
      intro hne
      obtain ⟨a, b⟩ := l1 hne
      have := r4 a
      omega
  · rw [if_neg h1]
    exact ⟨⟨hk17, by intro _; rfl, by intro h; simp only at h; omega⟩, Int.le_refl _, Nat.le_refl _,
      by intro _; simp only; omega⟩

structure POK (p : Parts) : Prop where
  ip : LenOK p.ip p.ipl
  dp : LenOK p.dp p.dpl

/-- number of characters `layoutStage` will produce (without the sign) -/
def widthOf (t : Trimmed) : Nat :=
  if t.exp ≥ 0 then dlen t.output + t.exp.toNat
  else if (-t.exp).toNat < t.olength then t.olength + 1 else (-t.exp).toNat + 2

def partsWidth (p : Parts) : Nat :=
  dlen p.ip + p.tiz + (if p.dp ≠ 0 then 1 + p.ldz + dlen p.dp else 0)

theorem lenOK_of_TOK_output (t : Trimmed) (h : TOK t) : LenOK t.output t.olength := by
  by_cases h0 : t.output = 0
  · left; omega
  · right; exact ⟨h.len h0, h.lt⟩

/-- `layoutStage` when the point falls inside the digits (`n = -exp < olength`): the integer part is `output / 10^n` with
`olength - n` digits, the fraction `output % 10^n` is written in exactly `n` places -/
theorem layout_split (t : Trimmed) (h : TOK t) (n : Nat) (hexp : t.exp = -(n : Int)) (hn1 : 1 ≤ n) (hn : n < t.olength) :
    ∃ dpl ldz, layoutStage t = ⟨t.output / 10 ^ n, t.olength - n, 0, t.output % 10 ^ n, dpl, ldz⟩ ∧
      dlen (t.output / 10 ^ n) = t.olength - n ∧ LenOK (t.output % 10 ^ n) dpl ∧
      ldz + dlen (t.output % 10 ^ n) = n := by
  have hne : t.output ≠ 0 := fun h0 => by rcases h.zero h0 with h1 | h1 <;> omega
  have hol := h.len hne
  have hle : 10 ^ n ≤ t.output := by
    have := (dlen_spec t.output (by omega)).1
    have : 10 ^ n ≤ 10 ^ (dlen t.output - 1) := Nat.pow_le_pow_right (by decide) (by omega)
    omega
  have hip : dlen (t.output / 10 ^ n) = t.olength - n := by rw [dlen_div _ _ hle, hol]
  have hdplt : t.output % 10 ^ n < 10 ^ n := Nat.mod_lt _ (pow10_pos n)
  have hdp17 : t.output % 10 ^ n < 10 ^ 17 := Nat.lt_of_le_of_lt (Nat.mod_le _ _) h.lt
  have e0 : (-t.exp).toNat = n := by omega
  have e1 : t.olength - (t.olength - n) = n := by omega
  unfold layoutStage
  simp only [if_neg (show ¬ t.exp ≥ 0 by omega), e0, if_pos hn, pow10, e1]
  split
  · have hdl : dlen (t.output % 10 ^ n) ≤ n := dlen_le_of_lt hdplt hn1
    exact ⟨_, _, rfl, hip, .inr ⟨decimalLength17_eq hdp17, hdp17⟩, by rw [decimalLength17_eq hdp17]; omega⟩
  · have hdl : dlen (t.output % 10 ^ n) = n := dlen_unique hn1 (by omega) hdplt
    exact ⟨_, _, rfl, hip, .inr ⟨hdl.symm, hdp17⟩, by omega⟩
theorem layout_ok (t : Trimmed) (h : TOK t) : POK (layoutStage t) ∧ partsWidth (layoutStage t) ≤ widthOf t := by
  by_cases he : t.exp ≥ 0
  · unfold layoutStage widthOf partsWidth
    rw [if_pos he, if_pos he]
    exact ⟨⟨lenOK_of_TOK_output t h, Or.inl (by simp)⟩, by simp⟩
  · by_cases hn : (-t.exp).toNat < t.olength
    · obtain ⟨dpl, ldz, hl, hip, hdp, hfr⟩ := layout_split t h (-t.exp).toNat (by omega) (by omega) hn
      have hiplt : t.output / 10 ^ (-t.exp).toNat < 10 ^ 17 := Nat.lt_of_le_of_lt (Nat.div_le_self _ _) h.lt
      rw [hl]
      refine ⟨⟨.inr ⟨hip.symm, hiplt⟩, hdp⟩, ?_⟩
      unfold widthOf partsWidth
      rw [if_neg he, if_pos hn]
      simp only [hip]
      split <;> omega
    · unfold layoutStage widthOf partsWidth
      rw [if_neg he, if_neg he]
      dsimp only
      rw [if_neg hn, if_neg hn]
      simp only
      refine ⟨⟨Or.inl (by simp), lenOK_of_TOK_output t h⟩, ?_⟩
      rw [dlen_zero]
      by_cases h0 : t.output = 0
      · simp [h0]
      · rw [if_pos h0, ← h.len h0]; omega

/-- exactly `partsWidth` characters, and one more when a minus sign is written -/
theorem renderParts_length_eq (sign : Bool) (p : Parts) (h : POK p) :
    (renderParts sign p).length = (if sign = true ∧ (p.ip ≠ 0 ∨ p.dp ≠ 0) then 1 else 0) + partsWidth p := by
  unfold renderParts partsWidth
  have hs : ((if sign = true ∧ (p.ip ≠ 0 ∨ p.dp ≠ 0) then ['-'] else []) : List Char).length =
      if sign = true ∧ (p.ip ≠ 0 ∨ p.dp ≠ 0) then 1 else 0 := by split <;> rfl
  simp only [List.length_append, List.length_replicate, toCharsUint64_length h.ip, hs]
  generalize (if sign = true ∧ (p.ip ≠ 0 ∨ p.dp ≠ 0) then 1 else 0) = s
  by_cases hd : p.dp ≠ 0
  · simp only [hd, if_true, List.length_cons, List.length_append, List.length_replicate, toCharsUint64_length h.dp,
      ne_eq, not_false_eq_true]
    omega
  · simp only [hd, if_false, List.length_nil]
    omega

theorem renderParts_length (sign : Bool) (p : Parts) (h : POK p) :
    (renderParts sign p).length ≤ 1 + partsWidth p := by
  rw [renderParts_length_eq sign p h]
  split <;> omega

theorem renderParts_length_nosign (p : Parts) (h : POK p) :
    (renderParts false p).length ≤ partsWidth p := by
  rw [renderParts_length_eq false p h, if_neg (by simp), Nat.zero_add]
  exact Nat.le_refl _

/-- characters produced by `to_chars_fixed` -/
def isFixedChar (c : Char) : Bool := isDigitC c || c == '-' || c == '.'

theorem renderParts_chars (sign : Bool) (p : Parts) (h : POK p) :
    ∀ c ∈ renderParts sign p, isFixedChar c = true := by
  intro c hc
  unfold renderParts at hc
  simp only [List.mem_append, List.mem_replicate] at hc
  rcases hc with ((hc | hc) | hc) | hc
  · split at hc
    · simp at hc; subst hc; decide
    · simp at hc
  · simp [isFixedChar, toCharsUint64_digits h.ip c hc]
  · rw [hc.2]; decide
  · split at hc
    · simp only [List.mem_cons, List.mem_append, List.mem_replicate] at hc
      rcases hc with hc | hc | hc
      · subst hc; decide
      · rw [hc.2]; decide
      · simp [isFixedChar, toCharsUint64_digits h.dp c hc]
    · simp at hc

/-- **width of `to_chars_fixed`** for digits `k` (`1 ≤ k < 10^17`) -/
theorem toCharsFixed_facts (k : Nat) (q : Int) (sign : Bool) (p : Nat) (hk : 1 ≤ k) (hk17 : k < 10 ^ 17) :
    (∀ c ∈ toCharsFixed k q sign p, isFixedChar c = true) ∧
    ((toCharsFixed k q sign p).length : Int) ≤ 1 + max ((dlen k : Int) + q + 1) (max ((dlen k : Int) + 1) (2 - q)) ∧
    (0 ≤ q → (toCharsFixed k q sign p).length ≤ 1 + dlen k + q.toNat) := by
  unfold toCharsFixed
  rw [decimalLength17_eq hk17]
  have tf := trimStage_facts k q p hk hk17
  obtain ⟨pk, pw⟩ := layout_ok _ tf.ok
  have rl := renderParts_length sign _ pk
  refine ⟨renderParts_chars sign _ pk, ?_, ?_⟩
  · -- general bound
    have hw : (widthOf (trimStage k (dlen k) q p) : Int) ≤
        max ((dlen k : Int) + q + 1) (max ((dlen k : Int) + 1) (2 - q)) := by
      have hp := dlen_pos k
      generalize trimStage k (dlen k) q p = t at *
      unfold widthOf
      by_cases he : t.exp ≥ 0
      · rw [if_pos he]
        by_cases h0 : t.output = 0
        · have := tf.ok.zero h0
          rw [h0, dlen_zero]
          omega
        · have := tf.lead h0
          omega
      · rw [if_neg he]
        have := tf.exp_ge
        have := tf.ol_le
        split <;> omega
    omega
  · intro hq
    have e : trimStage k (dlen k) q p = ⟨k, dlen k, q⟩ := by
      unfold trimStage
      rw [if_neg (by omega)]
    rw [e] at pw rl ⊢
    have : widthOf ⟨k, dlen k, q⟩ = dlen k + q.toNat := by
      unfold widthOf; rw [if_pos (by simpa using hq)]
    omega

end GeosModel.Num
