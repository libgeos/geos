import GeosModel.Proofs.Num.Pick
import GeosModel.Model.Num.Parse
/-! `roundPos` (round to nearest, ties to even, by bisection over the ordered bit patterns) returns `u`
for every rational in the rounding interval of `u`. -/
namespace GeosModel.Num

theorem bsearch_spec (p : Nat → Bool) (hmono : ∀ a b, a ≤ b → p b = true → p a = true) :
    ∀ k acc, p acc = true → p (acc + 2 ^ k) = false →
      p (bsearch p k acc) = true ∧ p (bsearch p k acc + 1) = false
  | 0, acc, h1, h2 => by simpa [bsearch] using ⟨h1, h2⟩
  | k + 1, acc, h1, h2 => by
    simp only [bsearch]
    by_cases hp : p (acc + 2 ^ k) = true
    · rw [if_pos hp]
      apply bsearch_spec p hmono k _ hp
      rw [Nat.add_assoc, ← Nat.two_mul, ← Nat.pow_succ']; exact h2
    · rw [if_neg hp]
      exact bsearch_spec p hmono k acc h1 (by simpa using hp)

/-- a downward-closed predicate has one boundary -/
theorem boundary_unique (p : Nat → Bool) (hmono : ∀ a b, a ≤ b → p b = true → p a = true)
    (w u : Nat) (hw1 : p w = true) (hw2 : p (w + 1) = false) (hu1 : p u = true) (hu2 : p (u + 1) = false) :
    w = u := by
  by_cases h1 : w < u
  · have := hmono (w + 1) u (by omega) hu1
    rw [this] at hw2; cases hw2
  · by_cases h2 : u < w
    · have := hmono (u + 1) w (by omega) hw1
      rw [this] at hu2; cases hu2
    · omega

theorem INF_lt : INF < 0 + 2 ^ 63 := by decide

/-- the choice between the neighbours `w` and `w + 1` (`S` = twice their midpoint, `T` = twice the value), over plain numbers -/
theorem nearest_pick (w u T S : Nat)
    (h : (w = u ∧ (T < S ∨ (T = S ∧ u % 2 = 0))) ∨ (w + 1 = u ∧ (S < T ∨ (T = S ∧ u % 2 = 0)))) :
    (if T < S then w else if S < T then w + 1 else if w % 2 = 0 then w else w + 1) = u := by
  rcases h with ⟨rfl, h | ⟨rfl, h⟩⟩ | ⟨rfl, h | ⟨rfl, h⟩⟩
  · rw [if_pos h]
  · rw [if_neg (Nat.lt_irrefl _), if_neg (Nat.lt_irrefl _), if_pos h]
  · rw [if_neg (by omega), if_pos h]
  · rw [if_neg (Nat.lt_irrefl _), if_neg (Nat.lt_irrefl _), if_neg (by omega)]

/-- **round-to-nearest-even returns `u` on the whole rounding interval of `u`** -/
theorem roundPos_of_interval (u N D : Nat) (h1 : 1 ≤ u) (h2 : u < INF) (hD : 0 < D)
    (hin : if (ivl u).incl then (ivl u).lo2 * D ≤ 2 * N * 2 ^ 1075 ∧ 2 * N * 2 ^ 1075 ≤ (ivl u).hi2 * D
           else (ivl u).lo2 * D < 2 * N * 2 ^ 1075 ∧ 2 * N * 2 ^ 1075 < (ivl u).hi2 * D) :
    roundPos N D = u := by
  -- the bisection predicate
  let le : Nat → Bool := fun w => decide (w ≤ INF) && decide (ival w * D ≤ N * 2 ^ 1075)
  have hle : ∀ w, le w = true ↔ (w ≤ INF ∧ ival w * D ≤ N * 2 ^ 1075) := by
    intro w; simp [le]
  have hmono : ∀ a b, a ≤ b → le b = true → le a = true := by
    intro a b hab hb
    rw [hle] at hb ⊢
    have := Nat.mul_le_mul_right D (ival_mono hab)
    omega
  have h0 : le 0 = true := by rw [hle]; simp [ival_zero]
  have hbig : le (0 + 2 ^ 63) = false := by
    cases h : le (0 + 2 ^ 63)
    · rfl
    · rw [hle] at h; have := INF_lt; omega
  obtain ⟨b1, b2⟩ := bsearch_spec le hmono 63 0 h0 hbig
  have hw : roundPos N D =
      (if bsearch le 63 0 ≥ INF then INF
       else if 2 * N * 2 ^ 1075 < (ival (bsearch le 63 0) + ival (bsearch le 63 0 + 1)) * D then bsearch le 63 0
       else if (ival (bsearch le 63 0) + ival (bsearch le 63 0 + 1)) * D < 2 * N * 2 ^ 1075 then bsearch le 63 0 + 1
       else if bsearch le 63 0 % 2 = 0 then bsearch le 63 0 else bsearch le 63 0 + 1) := rfl
  rw [hw]
  -- the interval, with the strict and the inclusive reading of `hin` separated
  have s1 := (Nat.mul_lt_mul_right hD).mpr (ival_strict (show u - 1 < u by omega))
  have s2 := (Nat.mul_lt_mul_right hD).mpr (ival_lt_succ u)
  rw [Nat.mul_assoc 2 N] at hin ⊢
  have hin' : (ival (u - 1) * D + ival u * D < 2 * (N * 2 ^ 1075) ∨
        (2 * (N * 2 ^ 1075) = ival (u - 1) * D + ival u * D ∧ u % 2 = 0)) ∧
      (2 * (N * 2 ^ 1075) < ival u * D + ival (u + 1) * D ∨
        (2 * (N * 2 ^ 1075) = ival u * D + ival (u + 1) * D ∧ u % 2 = 0)) := by
    simp only [ivl, beq_iff_eq, Nat.add_mul] at hin
    split at hin <;> omega
  clear hw h0 hbig hin
  generalize N * 2 ^ 1075 = X at *
  -- the boundary the bisection finds is `u` or `u - 1`
  have hb : bsearch le 63 0 = u ∧ ival u * D ≤ X ∨ bsearch le 63 0 + 1 = u ∧ X < ival u * D := by
    by_cases hge : ival u * D ≤ X
    · refine .inl ⟨boundary_unique le hmono _ u b1 b2 ((hle u).mpr ⟨by omega, hge⟩) ?_, hge⟩
      cases h : le (u + 1)
      · rfl
      · rw [hle] at h; omega
    · have e : u - 1 + 1 = u := by omega
      refine .inr ⟨?_, by omega⟩
      rw [boundary_unique le hmono _ (u - 1) b1 b2 ((hle _).mpr ⟨by omega, by omega⟩) ?_, e]
      rw [e]
      cases h : le u
      · rfl
      · rw [hle] at h; omega
  generalize bsearch le 63 0 = w at *
  rw [if_neg (by omega)]
  apply nearest_pick
  simp only [Nat.add_mul]
  rcases hb with ⟨rfl, _⟩ | ⟨rfl, _⟩
  · exact .inl ⟨rfl, hin'.2⟩
  · refine .inr ⟨rfl, ?_⟩
    rw [Nat.add_sub_cancel] at hin'
    rcases hin'.1 with h | h
    · exact .inl h
    · exact .inr ⟨h.1, h.2⟩
end GeosModel.Num
