import GeosModel.Proofs.Num.ParseLemmas
/-! The decimal value carried through `to_chars_fixed`: trimming = round-half-even of the digits, layout keeps
the value. -/
namespace GeosModel.Num

theorem sameDec_scale (a b : Nat × Int) (m : Int) (h1 : m ≤ a.2) (h2 : m ≤ b.2) :
    SameDec a b ↔ a.1 * 10 ^ (a.2 - m).toNat = b.1 * 10 ^ (b.2 - m).toNat := by
  unfold SameDec
  by_cases hc : b.2 ≤ a.2
  · have e1 : (a.2 - m).toNat = (a.2 - b.2).toNat + (b.2 - m).toNat := by omega
    have e2 : (b.2 - a.2).toNat = 0 := by omega
    rw [e1, e2, Nat.pow_add, ← Nat.mul_assoc, Nat.pow_zero, Nat.mul_one]
    constructor
    · intro h; rw [h]
    · intro h; exact Nat.eq_of_mul_eq_mul_right (pow10_pos _) h
  · have e1 : (b.2 - m).toNat = (b.2 - a.2).toNat + (a.2 - m).toNat := by omega
    have e2 : (a.2 - b.2).toNat = 0 := by omega
    rw [e1, e2, Nat.pow_add, ← Nat.mul_assoc, Nat.pow_zero, Nat.mul_one]
    constructor
    · intro h; rw [h]
    · intro h; exact Nat.eq_of_mul_eq_mul_right (pow10_pos _) h

theorem sameDec_refl (a : Nat × Int) : SameDec a a := by simp [SameDec]

theorem sameDec_symm {a b : Nat × Int} (h : SameDec a b) : SameDec b a := by
  unfold SameDec at *; exact h.symm

theorem sameDec_trans {a b c : Nat × Int} (h1 : SameDec a b) (h2 : SameDec b c) : SameDec a c := by
  have hm1 : min a.2 (min b.2 c.2) ≤ a.2 := by omega
  have hm2 : min a.2 (min b.2 c.2) ≤ b.2 := by omega
  have hm3 : min a.2 (min b.2 c.2) ≤ c.2 := by omega
  rw [sameDec_scale a b _ hm1 hm2] at h1
  rw [sameDec_scale b c _ hm2 hm3] at h2
  rw [sameDec_scale a c _ hm1 hm3]
  exact h1.trans h2

theorem sameDec_shift {a b : Nat × Int} (s : Int) (h : SameDec a b) : SameDec (a.1, a.2 + s) (b.1, b.2 + s) := by
  unfold SameDec at *
  simp only
  have e1 : a.2 + s - (b.2 + s) = a.2 - b.2 := by omega
  have e2 : b.2 + s - (a.2 + s) = b.2 - a.2 := by omega
  rw [e1, e2]; exact h

theorem sameDec_zero (e1 e2 : Int) : SameDec (0, e1) (0, e2) := by simp [SameDec]

/-! ### layout keeps the value -/

theorem layout_value (t : Trimmed) (h : TOK t) :
    SameDec ((partsNum (layoutStage t)).1, -((partsNum (layoutStage t)).2 : Int)) (t.output, t.exp) := by
  by_cases he : t.exp ≥ 0
  · unfold layoutStage
    rw [if_pos he]
    unfold partsNum SameDec
    simp only [ne_eq, not_true_eq_false, if_false]
    have e1 : (-((0 : Nat) : Int) - t.exp).toNat = 0 := by omega
    have e2 : (t.exp - -((0 : Nat) : Int)).toNat = t.exp.toNat := by omega
    rw [e1, e2]; simp
  · by_cases hn : (-t.exp).toNat < t.olength
    · -- the fraction occupies exactly `n` places, so the digits are `ip · 10^n + dp` at exponent `-n`
      generalize hnx : (-t.exp).toNat = n at *
      have hexp : t.exp = -(n : Int) := by omega
      obtain ⟨dpl, ldz, hl, _, _, hfr⟩ := layout_split t h n hexp (by omega) hn
      have hsplit := Nat.div_add_mod t.output (10 ^ n)
      rw [Nat.mul_comm] at hsplit
      rw [hl, hexp]
      unfold partsNum SameDec
      by_cases hd : t.output % 10 ^ n ≠ 0
      · simp only [hd, if_true, ne_eq, not_false_eq_true, hfr, Int.sub_self, Int.toNat_zero, Nat.pow_zero, Nat.mul_one]
        omega
      · have e3 : (-((0 : Nat) : Int) - -(n : Int)).toNat = n := by omega
        have e4 : (-(n : Int) - -((0 : Nat) : Int)).toNat = 0 := by omega
        simp only [hd, if_false, e3, e4, Nat.pow_zero, Nat.mul_one]
        omega
    · unfold layoutStage
      rw [if_neg he]
      dsimp only
      rw [if_neg hn]
      unfold partsNum
      by_cases h0 : t.output = 0
      · simp only [h0, ne_eq, not_true_eq_false, if_false]
        exact sameDec_zero _ _
      · simp only [h0, if_true, ne_eq, not_false_eq_true]
        rw [← h.len h0]
        have : ((((-t.exp).toNat - t.olength + t.olength : Nat)) : Int) = -t.exp := by omega
        unfold SameDec
        simp only
        rw [this]
        simp

/-! ### trimming is round-half-even on the decimal digits -/

theorem stripZeros_value : ∀ f t, SameDec ((stripZeros f t).output, (stripZeros f t).exp) (t.output, t.exp)
  | 0, t => sameDec_refl _
  | f + 1, t => by
    simp only [stripZeros]
    split
    · rename_i hc
      refine sameDec_trans (stripZeros_value f _) ?_
      unfold SameDec
      simp only
      have e1 : (t.exp + 1 - t.exp).toNat = 1 := by omega
      have e2 : (t.exp - (t.exp + 1)).toNat = 0 := by omega
      rw [e1, e2]
      simp only [Nat.pow_one, Nat.pow_zero, Nat.mul_one]
      omega
    · exact sameDec_refl _

theorem trimStage_value (k : Nat) (q : Int) (p : Nat) (hk : 1 ≤ k) :
    SameDec ((trimStage k (dlen k) q p).output, (trimStage k (dlen k) q p).exp) (rheDec k q p) := by
  unfold trimStage rheDec
  by_cases h1 : (p : Int) < -q
  · rw [if_pos h1, if_pos h1]
    dsimp only
    by_cases h2 : -q - (p : Int) > (dlen k : Nat)
    · rw [if_pos h2]
      -- every digit is cut off and the remainder is below one half
      obtain ⟨_, s2⟩ := dlen_spec k (by omega)
      generalize hd : (-q - (p : Int)).toNat = d at *
      have hlt : 2 * k < 10 ^ d := by
        have : 10 ^ (dlen k + 1) ≤ 10 ^ d := Nat.pow_le_pow_right (by decide) (by omega)
        rw [Nat.pow_succ] at this; omega
      have e1 : k / 10 ^ d = 0 := Nat.div_eq_of_lt (by omega)
      have e2 : k % 10 ^ d = k := Nat.mod_eq_of_lt (by omega)
      rw [e1, e2, if_neg (by omega)]
      exact sameDec_zero _ _
    · rw [if_neg h2]
      refine sameDec_trans (stripZeros_value 20 _) ?_
      generalize hd : (-q - (p : Int)).toNat = d at *
      have hd1 : 1 ≤ d := by omega
      have hexp : q + (d : Int) = -(p : Int) := by omega
      rw [roundDigits_eq k _ q hd1]
      split <;> simp only [hexp] <;> exact sameDec_refl _
  · rw [if_neg h1, if_neg h1]
    exact sameDec_refl _

theorem rheDec_sci_keeps (k : Nat) (q : Int) (precision : Nat) (hk : dlen k ≤ precision + 1) :
    ((rheDec k (1 - (dlen k : Int)) precision).1,
      (rheDec k (1 - (dlen k : Int)) precision).2 + (q + (dlen k : Int) - 1)) = (k, q) := by
  unfold rheDec
  rw [if_neg (by omega)]
  simp only
  congr 1; omega

theorem rheDec_keeps (k : Nat) (q : Int) (p : Nat) (hk : -q ≤ (p : Int)) : rheDec k q p = (k, q) := by
  unfold rheDec; rw [if_neg (by omega)]

theorem sameDec_ne_zero {n k : Nat} {e q : Int} (h : SameDec (n, e) (k, q)) (hk : 1 ≤ k) : n ≠ 0 := by
  intro h0
  unfold SameDec at h
  simp only [h0, Nat.zero_mul] at h
  have hpos := pow10_pos (q - e).toNat
  rcases Nat.mul_eq_zero.mp h.symm with h | h <;> omega

end GeosModel.Num
