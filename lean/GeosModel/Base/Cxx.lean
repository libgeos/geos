/-!
# `Cxx` — the arithmetic interface of regenerated C++ code

`translate/cxx2lean.py` turns small C++ functions into Lean `do` blocks, statement by statement.  A C++ `double`
becomes an abstract carrier `R`; every operator the C++ applies to doubles becomes an operation of one of the classes
below, so that the *same* regenerated definition can be

* instantiated with `Int` or `Rat` (exact arithmetic) and proved equal to the hand-written model the property theorems
  are about (`Props/CxxGen.lean`), and
* instantiated with `Float` (the hardware double) and *run* by a driver against the compiled C++ on the same inputs,
  which checks the translator itself.

The hierarchy is graded so that a function using only comparisons can be instantiated with any ordered carrier:
`Ord` (comparisons) ⊂ `Ring` (+ − × unary − |·| and integer literals) ⊂ `Field` (÷ and decimal literals) ⊂ `Math`
(`sqrt floor ceil trunc isnan isfinite`).  `std::min` / `std::max` are *defined* here exactly as the C++ standard
defines them (`min(a,b) = (b < a) ? b : a`, `max(a,b) = (a < b) ? b : a`), so their NaN behaviour is inherited from `lt`.

C++ `int` is translated to `Int` (signed overflow is undefined behaviour in C++; the regenerated code describes the
executions without overflow).  Integer `/` and `%` are `Int.tdiv` / `Int.tmod` (truncation toward zero).
Core Lean only.
-/
namespace GeosModel.Cxx

class Ord (R : Type) where
  lt : R → R → Bool
  le : R → R → Bool
  eq : R → R → Bool

class Ring (R : Type) extends Ord R where
  add : R → R → R
  sub : R → R → R
  mul : R → R → R
  neg : R → R
  abs : R → R
  ofInt : Int → R

class Field (R : Type) extends Ring R where
  div : R → R → R
  /-- the decimal literal `m × 10^e` -/
  ofDec : Int → Int → R

class Math (R : Type) extends Field R where
  sqrt : R → R
  floor : R → R
  ceil : R → R
  /-- `static_cast<int>(x)` / `(int) x`: truncation toward zero -/
  toInt : R → Int
  isNaN : R → Bool
  isFinite : R → Bool

/-- `a > b`, `a >= b`, `a != b` as the C++ operators on doubles -/
@[inline] def gt {R} [Ord R] (a b : R) : Bool := Ord.lt b a
@[inline] def ge {R} [Ord R] (a b : R) : Bool := Ord.le b a
@[inline] def ne {R} [Ord R] (a b : R) : Bool := !Ord.eq a b

/-- `std::min(a, b)`: `(b < a) ? b : a` -/
@[inline] def min {R} [Ord R] (a b : R) : R := if Ord.lt b a then b else a
/-- `std::max(a, b)`: `(a < b) ? b : a` -/
@[inline] def max {R} [Ord R] (a b : R) : R := if Ord.lt a b then b else a

/-- `geom::CoordinateXY` as regenerated code sees it -/
structure XY (R : Type) where
  x : R
  y : R
deriving Repr, BEq, DecidableEq

/-! ### instances -/

instance : Ring Int where
  lt a b := decide (a < b)
  le a b := decide (a ≤ b)
  eq a b := a == b
  add := (· + ·)
  sub := (· - ·)
  mul := (· * ·)
  neg := (- ·)
  abs a := (a.natAbs : Int)
  ofInt := id

/-- ten to an integer power as a rational -/
def pow10 (e : Int) : Rat := if e ≥ 0 then ((10 : Rat) ^ e.toNat) else 1 / ((10 : Rat) ^ (-e).toNat)

instance : Field Rat where
  lt a b := decide (a < b)
  le a b := decide (a ≤ b)
  eq a b := a == b
  add := (· + ·)
  sub := (· - ·)
  mul := (· * ·)
  neg := (- ·)
  abs a := if a < 0 then -a else a
  ofInt i := (i : Rat)
  div := (· / ·)
  ofDec m e := (m : Rat) * pow10 e

/-- hardware doubles: the operators of C++ on `double` (IEEE-754, round to nearest even); decimal literals are
converted as the C++ compiler does, by correct rounding of the decimal value (`Float.ofScientific`). -/
instance : Math Float where
  lt a b := a < b
  le a b := a ≤ b
  eq a b := a == b
  add := (· + ·)
  sub := (· - ·)
  mul := (· * ·)
  neg := (- ·)
  abs := Float.abs
  ofInt i := Float.ofInt i
  div := (· / ·)
  ofDec m e :=
    let v := if e ≥ 0 then Float.ofScientific m.natAbs false e.toNat else Float.ofScientific m.natAbs true (-e).toNat
    if m < 0 then -v else v
  sqrt := Float.sqrt
  floor := Float.floor
  ceil := Float.ceil
  toInt x := if x < 0 then - ((-x).floor.toUInt64.toNat : Int) else (x.floor.toUInt64.toNat : Int)
  isNaN := Float.isNaN
  isFinite := Float.isFinite

/-! ### unfolding lemmas for the exact instances (so that `simp` turns regenerated code into plain arithmetic) -/

@[simp] theorem int_lt (a b : Int) : Ord.lt a b = decide (a < b) := rfl
@[simp] theorem int_le (a b : Int) : Ord.le a b = decide (a ≤ b) := rfl
@[simp] theorem int_eq (a b : Int) : Ord.eq a b = (a == b) := rfl
@[simp] theorem int_add (a b : Int) : Ring.add a b = a + b := rfl
@[simp] theorem int_sub (a b : Int) : Ring.sub a b = a - b := rfl
@[simp] theorem int_mul (a b : Int) : Ring.mul a b = a * b := rfl
@[simp] theorem int_neg (a : Int) : Ring.neg a = -a := rfl
@[simp] theorem int_abs (a : Int) : Ring.abs a = (a.natAbs : Int) := rfl
@[simp] theorem int_ofInt (a : Int) : (Ring.ofInt a : Int) = a := rfl

theorem min_int (a b : Int) : Cxx.min a b = Min.min a b := by
  simp only [Cxx.min, int_lt, decide_eq_true_eq]; omega
theorem max_int (a b : Int) : Cxx.max a b = Max.max a b := by
  simp only [Cxx.max, int_lt, decide_eq_true_eq]; omega

@[simp] theorem rat_lt (a b : Rat) : Ord.lt a b = decide (a < b) := rfl
@[simp] theorem rat_le (a b : Rat) : Ord.le a b = decide (a ≤ b) := rfl
@[simp] theorem rat_eq (a b : Rat) : Ord.eq a b = (a == b) := rfl
@[simp] theorem rat_add (a b : Rat) : Ring.add a b = a + b := rfl
@[simp] theorem rat_sub (a b : Rat) : Ring.sub a b = a - b := rfl
@[simp] theorem rat_mul (a b : Rat) : Ring.mul a b = a * b := rfl
@[simp] theorem rat_neg (a : Rat) : Ring.neg a = -a := rfl
@[simp] theorem rat_div (a b : Rat) : Field.div a b = a / b := rfl
@[simp] theorem rat_ofInt (a : Int) : (Ring.ofInt a : Rat) = (a : Rat) := rfl

/-! ### `Id.run` through the control flow of regenerated `do` blocks -/

@[simp] theorem run_ite {α} (c : Prop) [Decidable c] (a b : Id α) :
    (if c then a else b).run = if c then a.run else b.run := by split <;> rfl

@[simp] theorem run_dite {α} (c : Prop) [Decidable c] (a : c → Id α) (b : ¬c → Id α) :
    (if h : c then a h else b h).run = if h : c then (a h).run else (b h).run := by split <;> rfl

end GeosModel.Cxx
